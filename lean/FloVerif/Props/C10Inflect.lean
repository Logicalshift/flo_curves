/-
C10 (inflection points)  `find_inflection_points` finds every inflection the canonical form has, above its guard `|a| > f64::EPSILON`.

In the canonical form (0,0),(0,1),(1,1),(x,y) of a cubic (`to_canonical_curve`), the inflection parameters are the roots of
`a·t² + b·t − 1 = 0` with `a = −3 + x + y`, `b = 3 − x` (the expression the generated code solves: `(−b ± sqrt(4a + b²)) / 2a`).
`offset_scaling` / `offset_lms_sampling` cut the curve at what this function returns; an inflection it does not report is a
section that the scaling heuristic treats as an arch (seeded change C10-m7: the guard widened from `f64::EPSILON` to 1e-7 loses the
inflection of every nearly point-symmetric S).
-/
import FloVerif.Props.C10

set_option linter.unusedSectionVars false
namespace C10Inflect
open Prelude Gen C10

variable {K : Type} [Field K] [LinearOrder K] [IsStrictOrderedRing K] [Inhabited K]
local instance : FAbs K := ⟨fun a => |a|⟩
local instance : OfInt K := ⟨fun n => (n : K)⟩
variable [FSqrt K] [FConsts K]

/-- the parameters an answer lists -/
def listed : InflectionPoints K → List K
  | .Zero => []
  | .One t => [t]
  | .Two t1 t2 => [t1, t2]

theorem listed_pick (p : K → Bool) (t1 t2 : K) :
    listed (if !p t1 then (if !p t2 then InflectionPoints.Zero else InflectionPoints.One t2)
      else (if !p t2 then InflectionPoints.One t1 else InflectionPoints.Two t1 t2)) = [t1, t2].filter p := by
  cases h1 : p t1 <;> cases h2 : p t2 <;> simp only [List.filter_cons, List.filter_nil, h1, h2] <;> rfl

theorem listed_find_inflection_points (x y : K) :
    listed (find_inflection_points (T2.mk x y)) =
      if |(-3 + x + y)| ≤ (feps : K) then [] else
        [-(3 - x) / (2 * (-3 + x + y)) - fsqrt (4 * (-3 + x + y) + (3 - x) * (3 - x)) / (2 * (-3 + x + y)),
         -(3 - x) / (2 * (-3 + x + y)) + fsqrt (4 * (-3 + x + y) + (3 - x) * (3 - x)) / (2 * (-3 + x + y))].filter
          (fun u => decide (0 ≤ u) && decide (u ≤ 1)) := by
  have hfabs : ∀ a : K, fabs a = |a| := fun _ => rfl
  unfold find_inflection_points
  simp only [lit0, lit1, lit2, lit3, lit4, hfabs]
  by_cases hg : |(-3 + x + y)| ≤ (feps : K)
  · rw [if_pos hg, if_pos (decide_eq_true hg)]; rfl
  · rw [if_neg hg, if_neg (by rwa [decide_eq_true_eq])]
    exact listed_pick (fun u => decide (0 ≤ u) && decide (u ≤ 1)) _ _

theorem quadratic_roots {a b s : K} (ha : a ≠ 0) (hs : s * s = 4 * a + b * b) (t : K) :
    a * t * t + b * t - 1 = 0 ↔ t = -b / (2 * a) - s / (2 * a) ∨ t = -b / (2 * a) + s / (2 * a) := by
  have key : a * t * t + b * t - 1 = a * (t - (-b / (2 * a) - s / (2 * a))) * (t - (-b / (2 * a) + s / (2 * a))) := by
    field_simp
    linear_combination hs
  rw [key, mul_eq_zero, mul_eq_zero, or_iff_right ha, sub_eq_zero, sub_eq_zero]

theorem discriminant_of_root {a b t : K} (h : a * t * t + b * t - 1 = 0) : 4 * a + b * b = (2 * a * t + b) * (2 * a * t + b) := by
  linear_combination (-4 * a) * h

theorem mem_listed_iff (hs : SqrtSpec K) (heps : (0 : K) ≤ feps) (x y t : K) (ha : (feps : K) < |(-3 + x + y)|)
    (hD : 0 ≤ 4 * (-3 + x + y) + (3 - x) * (3 - x)) :
    t ∈ listed (find_inflection_points (T2.mk x y)) ↔ (0 ≤ t ∧ t ≤ 1) ∧ (-3 + x + y) * t * t + (3 - x) * t - 1 = 0 := by
  rw [listed_find_inflection_points, if_neg (not_le.2 ha), List.mem_filter, Bool.and_eq_true, decide_eq_true_eq, decide_eq_true_eq,
    quadratic_roots (abs_pos.1 (lt_of_le_of_lt heps ha)) (hs _ hD).2 t, List.mem_cons, List.mem_singleton, and_comm]

/-- EVERY INFLECTION IN [0,1] IS REPORTED unless the leading coefficient is within `f64::EPSILON` of zero: for every canonical end
    point `(x, y)` with `|−3 + x + y| > EPSILON` and every `t ∈ [0,1]` with `a·t² + b·t − 1 = 0`, `t` is among the parameters
    `find_inflection_points` returns (for the real square root). -/
theorem find_inflection_points_complete (hs : SqrtSpec K) (heps : (0 : K) ≤ feps) (x y t : K)
    (ha : (feps : K) < |(-3 + x + y)|) (ht : 0 ≤ t ∧ t ≤ 1)
    (hroot : (-3 + x + y) * t * t + (3 - x) * t - 1 = 0) :
    t ∈ listed (find_inflection_points (T2.mk x y)) :=
  -- a root makes the discriminant a square, hence non-negative
  (mem_listed_iff hs heps x y t ha (discriminant_of_root hroot ▸ mul_self_nonneg _)).2 ⟨ht, hroot⟩

/-- AND NOTHING ELSE: with a non-negative discriminant, every reported parameter lies in [0,1] and is a root of the quadratic -/
theorem find_inflection_points_sound (hs : SqrtSpec K) (heps : (0 : K) ≤ feps) (x y t : K)
    (hD : 0 ≤ 4 * (-3 + x + y) + (3 - x) * (3 - x))
    (hmem : t ∈ listed (find_inflection_points (T2.mk x y))) :
    0 ≤ t ∧ t ≤ 1 ∧ (-3 + x + y) * t * t + (3 - x) * t - 1 = 0 := by
  by_cases hg : |(-3 + x + y)| ≤ (feps : K)
  · rw [listed_find_inflection_points, if_pos hg] at hmem; exact absurd hmem List.not_mem_nil
  · exact and_assoc.1 ((mem_listed_iff hs heps x y t (not_le.1 hg) hD).1 hmem)

/-- non-vacuity: the canonical end point (3, 1) has `a = 1`, `b = 0` and the root `t = 1` in [0,1]; the guard hypothesis holds for any
    `EPSILON < 1` -/
example : (-3 + 3 + 1 : ℚ) * 1 * 1 + (3 - 3) * 1 - 1 = 0 ∧ (0 : ℚ) ≤ 1 ∧ (1 / 4503599627370496 : ℚ) < |(-3 + 3 + 1 : ℚ)| := by
  norm_num

end C10Inflect
