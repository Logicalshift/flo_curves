/-
C10  Regular offsets follow the true parallel curve.

Everything in `Gen/Offset.lean` is regenerated from the Rust source on every check:
`offset_lms_sampling` (offset_lms.rs, whole function, with `features_for_curve`, `fit_curve_cubic` and the two offset closures as
parameters), `offset` (offset.rs), `offset_sections` / `offset_lms_sample_ts` (the first statement(s) of `offset_scaling` /
`offset_lms_sampling`: section list, sample parameters), `offset_scaling` (whole function, `subdivide_offset` as a parameter),
`subdivide_offset_body` (the whole body of the private recursive `subdivide_offset`, recursive calls through a parameter),
`offset_by_scaling`, `offset_by_moving`.  `to_unit_vector` (coordinate.rs) is in `Gen/Normal.lean`; `tangent_at_pos`, `normal_at_pos`,
`to_normal` (normal.rs) are in `Gen/PointInPath.lean`.  `Model.Offset.subdivideOffset` ties the recursion knot with fuel.

Numbers: any ordered field `K`; `f64::abs` is `|·|`; `n as f64` is the cast; `f64::sqrt` is an abstract function with the
hypothesis `SqrtSpec` (`0 ≤ sqrt x` and `sqrt x * sqrt x = x` for `0 ≤ x`), instantiated with `Real.sqrt` in the examples;
`f64::EPSILON` is an abstract constant `feps` (hypothesis `feps ≠ 1` where a nudged end parameter is evaluated).

The 1.5-unit distance to the parallel curve is numerical (least squares / scaling heuristics): no theorem; see harness/src/c10.rs.
-/
import FloVerif.Gen.Offset
import FloVerif.Model.Offset
import FloVerif.Lemmas.Offset
import FloVerif.Props.C08
import Mathlib.Tactic.Ring
import Mathlib.Tactic.NormNum.OfScientific
import Mathlib.Tactic.FieldSimp
import Mathlib.Tactic.Linarith
import Mathlib.Tactic.LinearCombination
import Mathlib.Algebra.Order.Field.Basic
import Mathlib.Analysis.Real.Sqrt

set_option linter.unusedSectionVars false
namespace C10
open Prelude Gen Model.Offset

variable {K : Type} [Field K] [LinearOrder K] [IsStrictOrderedRing K] [Inhabited K]

local instance : FAbs K := ⟨fun a => |a|⟩
local instance : OfInt K := ⟨fun n => (n : K)⟩

variable [FSqrt K] [FConsts K]

/-! ### (1) the section list (shared, as duplicated code, by `offset_lms_sampling` and `offset_scaling`) -/

theorem snap_range (t : K) :
    ∃ a : K, (if t > (0.9999 : K) then (1 : K) else if t < (0.0001 : K) then 0 else t) = a ∧ 0 ≤ a ∧ a ≤ 1 := by
  refine ⟨_, rfl, ?_⟩
  split_ifs with h1 h2
  · exact ⟨zero_le_one, le_rfl⟩
  · exact ⟨le_rfl, zero_le_one⟩
  · exact ⟨le_trans (by norm_num) (not_lt.1 h2), le_trans (not_lt.1 h1) (by norm_num)⟩

theorem le_midpoint {p q : K} (h : p ≤ q) : p ≤ (p + q) / 2 ∧ (p + q) / 2 ≤ q := by
  rcases h.eq_or_lt with rfl | h
  · rw [add_self_div_two]; exact ⟨le_rfl, le_rfl⟩
  · exact ⟨(left_lt_add_div_two.2 h).le, (add_div_two_lt_right.2 h).le⟩

theorem offset_sections_windows (features_for_curve : K → CurveFeatures K) :
    ∃ l : List K, l.IsChain (· ≤ ·) ∧ l.head? = some 0 ∧ l.getLast? = some 1 ∧ l.length ≤ 5 ∧
      offset_sections features_for_curve = windows2 l := by
  unfold offset_sections
  simp only [lit0, lit1, lit2, decide_eq_true_eq, Bool.and_eq_true]
  have whole : ∃ l : List K, l.IsChain (· ≤ ·) ∧ l.head? = some 0 ∧ l.getLast? = some 1 ∧ l.length ≤ 5 ∧
      [(⟨0, 1⟩ : T2 K K)] = windows2 l :=
    ⟨[0, 1], .cons_cons zero_le_one (.singleton _), rfl, rfl, Nat.le_of_ble_eq_true rfl, rfl⟩
  cases features_for_curve (0.01 : K) with
  | DoubleInflectionPoint t1 t2 =>
    dsimp only
    obtain ⟨a, ha, a0, a1⟩ := snap_range t1
    obtain ⟨b, hb, b0, b1⟩ := snap_range t2
    rw [ha, hb]
    by_cases h : b > a
    · exact ⟨[0, a, b, 1], .cons_cons a0 (.cons_cons h.le (.cons_cons b1 (.singleton _))), rfl, rfl, Nat.le_of_ble_eq_true rfl, if_pos h⟩
    · exact ⟨[0, b, a, 1], .cons_cons b0 (.cons_cons (not_lt.1 h) (.cons_cons a1 (.singleton _))), rfl, rfl, Nat.le_of_ble_eq_true rfl, if_neg h⟩
  | Loop t1 t3 =>
    dsimp only
    obtain ⟨a, ha, a0, a1⟩ := snap_range t1
    obtain ⟨c, hc, c0, c1⟩ := snap_range t3
    rw [ha, hc]
    by_cases h : c > a
    · exact ⟨[0, a, (a + c) / 2, c, 1], .cons_cons a0 (.cons_cons (le_midpoint h.le).1
        (.cons_cons (le_midpoint h.le).2 (.cons_cons c1 (.singleton _)))), rfl, rfl, le_rfl, if_pos h⟩
    · exact ⟨[0, c, (a + c) / 2, a, 1], .cons_cons c0 (.cons_cons (add_comm c a ▸ (le_midpoint (not_lt.1 h)).1)
        (.cons_cons (add_comm c a ▸ (le_midpoint (not_lt.1 h)).2) (.cons_cons a1 (.singleton _)))), rfl, rfl, le_rfl, if_neg h⟩
  | SingleInflectionPoint t =>
    dsimp only
    by_cases h : t > (0.0001 : K) ∧ t < (0.9999 : K)
    · exact ⟨[0, t, 1], .cons_cons (le_trans (by norm_num) h.1.le) (.cons_cons (le_trans h.2.le (by norm_num)) (.singleton _)),
        rfl, rfl, Nat.le_of_ble_eq_true rfl, if_pos h⟩
    · rw [if_neg h]; exact whole
  | _ => exact whole

/-- THE SECTIONS TILE [0,1], FOR EVERY FEATURE CLASS AND EVERY FEATURE PARAMETER (inside (0,1) or not: the snapping takes care of
    it): the first section starts at 0, each starts where the previous one ends, the last ends at 1; every section runs forwards
    inside [0,1].  (`Tiles` is defined by recursion in `Lemmas/Offset.lean`; `kept_sections_chain` restates it with `head?`,
    `getLast?`, `IsChain`.) -/
theorem sections_tile (features_for_curve : K → CurveFeatures K) :
    Tiles 0 1 (offset_sections features_for_curve) ∧
    ∀ s ∈ offset_sections features_for_curve, 0 ≤ s.t0 ∧ s.t0 ≤ s.t1 ∧ s.t1 ≤ 1 := by
  obtain ⟨l, hl, h0, h1, -, e⟩ := offset_sections_windows features_for_curve
  rw [e]
  exact windows2_sorted hl.pairwise h0 h1

/-- the sections that survive `.filter(|(t1, t2)| t1 != t2)` -/
def keptSections (features_for_curve : K → CurveFeatures K) : List (T2 K K) :=
  (offset_sections features_for_curve).filter (fun s => s.t0 != s.t1)

/-- AFTER THE FILTER the sections still tile [0,1], there is at least one and at most four, and each has `t0 < t1`, `0 ≤ t0`, `t1 ≤ 1` -/
theorem kept_sections_tile (features_for_curve : K → CurveFeatures K) :
    Tiles 0 1 (keptSections features_for_curve) ∧ keptSections features_for_curve ≠ [] ∧
    (keptSections features_for_curve).length ≤ 4 ∧
    ∀ s ∈ keptSections features_for_curve, 0 ≤ s.t0 ∧ s.t0 < s.t1 ∧ s.t1 ≤ 1 := by
  obtain ⟨ht, hr⟩ := sections_tile features_for_curve
  have hk : Tiles 0 1 (keptSections features_for_curve) := ht.filter_ne
  refine ⟨hk, hk.ne_nil zero_ne_one, ?_, fun s hs => ?_⟩
  · obtain ⟨l, -, -, -, hl, e⟩ := offset_sections_windows features_for_curve
    refine (List.length_filter_le _ _).trans ?_
    rw [e, length_windows2]
    omega
  · obtain ⟨hs1, hs2⟩ := List.mem_filter.1 hs
    obtain ⟨h0, h1, h2⟩ := hr s hs1
    exact ⟨h0, lt_of_le_of_ne h1 (bne_iff_ne.1 hs2), h2⟩

/-- the same with `head?` / `getLast?` / Mathlib's `IsChain`: a non-empty list whose first section starts at 0, whose last section
    ends at 1, and in which consecutive sections share their boundary -/
theorem kept_sections_chain (features_for_curve : K → CurveFeatures K) :
    C08.ChainFromTo T2.t0 T2.t1 (some 0) (some 1) (keptSections features_for_curve) :=
  (kept_sections_tile features_for_curve).1.chainFromTo (kept_sections_tile features_for_curve).2.1

/-- non-vacuity: an inflection at 1/2 gives two sections; an inflection pair snapped onto the ends gives one -/
example : keptSections (fun _ => (CurveFeatures.SingleInflectionPoint (1/2) : CurveFeatures ℚ)) = [⟨0, 1/2⟩, ⟨1/2, 1⟩] := by
  decide +kernel
example : keptSections (fun _ => (CurveFeatures.DoubleInflectionPoint 0.00005 1.7 : CurveFeatures ℚ)) = [⟨0, 1⟩] := by
  decide +kernel
example : keptSections (fun _ => (CurveFeatures.Loop (3/4) (1/4) : CurveFeatures ℚ)) = [⟨0, 1/4⟩, ⟨1/4, 1/2⟩, ⟨1/2, 3/4⟩, ⟨3/4, 1⟩] := by
  decide +kernel

/-! ### (2) the sample parameters of `offset_lms_sampling` -/

/-- WHAT `offset_lms_sampling` SAMPLES: `None` below two subdivisions; otherwise, for every kept section `(t1, t2)` the parameters
    `t1 + (t2 - t1)/n * x`, `x = 0 … n-1`, and a final `1.0` (`sampleTs`, `Lemmas/Offset.lean`) -/
theorem sample_ts_eq (features_for_curve : K → CurveFeatures K) (n : Nat) :
    offset_lms_sample_ts features_for_curve n =
      if n < 2 then none else some (sampleTs (keptSections features_for_curve) n) := by
  unfold offset_lms_sample_ts
  by_cases h : n < 2
  · rw [if_pos (decide_eq_true h), if_pos h]
  · rw [if_neg (mt of_decide_eq_true h), if_neg h]
    unfold sampleTs keptSections
    dsimp only
    congr 1
    have e1 : [(1.0 : K)] = [1] := by rw [lit1]
    refine congrArg₂ (· ++ ·) (congrArg₂ List.flatMap ?_ rfl) e1
    funext s
    simp only [sectionTs, ofInt, Nat.sub_zero, Int.cast_natCast, Int.ofNat_eq_natCast]

/-- THE SAMPLE PARAMETERS for `n ≥ 2` subdivisions: strictly increasing, the first EXACTLY 0 (the start of the first section), the last
    EXACTLY 1 (the chained `iter::once(1.0)`), all in [0,1], `n` per kept section plus one (so between `n+1` and `4n+1`) -/
theorem sample_ts_spec (features_for_curve : K → CurveFeatures K) (n : Nat) (hn : 2 ≤ n) :
    ∃ ts, offset_lms_sample_ts features_for_curve n = some ts ∧
      ts.Pairwise (· < ·) ∧ ts.head? = some 0 ∧ ts.getLast? = some 1 ∧ (∀ t ∈ ts, 0 ≤ t ∧ t ≤ 1) ∧
      ts.length = n * (keptSections features_for_curve).length + 1 ∧ n + 1 ≤ ts.length ∧ ts.length ≤ 4 * n + 1 := by
  obtain ⟨ht, hne, hlen, hr⟩ := kept_sections_tile features_for_curve
  refine ⟨_, by rw [sample_ts_eq, if_neg (by omega)], ?_⟩
  obtain ⟨h1, h2, h3, h4, h5⟩ := sampleTs_of_tiles n (by omega) _ ht (fun s hs => (hr s hs).2.1)
  refine ⟨h1, h2, h3, h4, h5, ?_, ?_⟩
  · rw [h5]; exact Nat.succ_le_succ (Nat.le_mul_of_pos_right n (List.length_pos_iff.2 hne))
  · rw [h5, Nat.mul_comm 4 n]; exact Nat.succ_le_succ (Nat.mul_le_mul_left n hlen)

/-- fewer than two subdivisions: no samples, `offset_lms_sampling` returns `None` -/
theorem sample_ts_none_iff (features_for_curve : K → CurveFeatures K) (n : Nat) :
    offset_lms_sample_ts features_for_curve n = none ↔ n < 2 := by
  rw [sample_ts_eq]
  by_cases h : n < 2
  · rw [if_pos h]; exact ⟨fun _ => h, fun _ => rfl⟩
  · rw [if_neg h]; exact ⟨fun e => (nomatch e), fun h' => absurd h' h⟩

/-! ### (3) normals (normal.rs) and unit vectors (coordinate.rs) -/

def rot90 (v : V2 K) : V2 K := ⟨-v.y, v.x⟩

/-- the derivative control points `derivative4` computes -/
def dcp (w1 w2 w3 w4 : V2 K) : T3 (V2 K) (V2 K) (V2 K) := derivative4 w1 w2 w3 w4

/-- the hodograph: `de_casteljau3` on the derivative control points, i.e. `C'(t)` (see `hodograph_is_derivative`) -/
def hodograph (w1 w2 w3 w4 : V2 K) (t : K) : V2 K :=
  de_casteljau3 t (dcp w1 w2 w3 w4).t0 (dcp w1 w2 w3 w4).t1 (dcp w1 w2 w3 w4).t2

/-- the parameter at which `tangent_at_pos` / `normal_at_pos` really evaluate: `0.0` is replaced by `f64::EPSILON`, `1.0` by
    `1.0 - f64::EPSILON` (normal.rs:93-94, :113-114), everything else is kept -/
def nudged (t : K) : K :=
  let t := if t == (0.0 : K) then (feps : K) else t
  if t == (1.0 : K) then (1.0 : K) - (feps : K) else t

/-- `tangent_at_pos(t)` is the hodograph at the nudged parameter, for every `t` -/
theorem tangent_at_pos_eq (w1 w2 w3 w4 : V2 K) (t : K) :
    tangent_at_pos w1 w2 w3 w4 t = hodograph w1 w2 w3 w4 (nudged t) := rfl

/-- THE 2-D NORMAL IS THE TANGENT ROTATED BY 90°: `normal_at_pos(t) = (-tangent.y, tangent.x)` of `tangent_at_pos(t)`, for every curve
    and every `t` (including the nudged ends) -/
theorem normal_at_pos_eq (w1 w2 w3 w4 : V2 K) (t : K) :
    normal_at_pos w1 w2 w3 w4 t = rot90 (tangent_at_pos w1 w2 w3 w4 t) := rfl

theorem nudged_interior (t : K) (h0 : t ≠ 0) (h1 : t ≠ 1) : nudged t = t := by
  simp only [nudged, lit0, lit1, beq_iff_eq, if_neg h0, if_neg h1]

/-- `0.0` becomes `f64::EPSILON` (if `ε ≠ 1`, otherwise the second test would move it again) -/
theorem nudged_zero (h : (feps : K) ≠ 1) : nudged (0 : K) = feps := by
  simp only [nudged, lit0, lit1, beq_iff_eq, if_true, if_neg h]

theorem nudged_one : nudged (1 : K) = 1 - feps := by
  simp only [nudged, lit0, lit1, beq_iff_eq, one_ne_zero, if_false, if_true]

theorem hodograph_eq (w1 w2 w3 w4 : V2 K) (t : K) :
    hodograph w1 w2 w3 w4 t =
      (w2 - w1) * (3 * (1 - t) * (1 - t)) + (w3 - w2) * (6 * t * (1 - t)) + (w4 - w3) * (3 * t * t) := by
  refine V2.ext_linear fun π hadd hsub hmul => ?_
  simp only [hodograph, dcp, derivative4, de_casteljau3, de_casteljau2, lit1, lit3, hadd, hsub, hmul]
  ring

/-- THE HODOGRAPH IS THE DERIVATIVE of `point_at_pos`, algebraically: `C(s) − C(t) = (s−t)·C'(t) + (s−t)²·R` with an explicit
    polynomial remainder (stated per coordinate on the Bernstein form `basis`) -/
theorem hodograph_is_derivative (a b c d s t : K) :
    basis s a b c d - basis t a b c d =
      (s - t) * ((b - a) * (3 * (1 - t) * (1 - t)) + (c - b) * (6 * t * (1 - t)) + (d - c) * (3 * t * t)) +
      (s - t) * (s - t) * (3 * (a - 2 * b + c) * (1 - t) + 3 * (b - 2 * c + d) * t + (d - 3 * c + 3 * b - a) * (s - t)) := by
  simp only [basis, lit1, lit3]; ring

/-- BY HOW MUCH THE NUDGE MOVES THE TANGENT: `tangent_at_pos(0.0) − C'(0) = 2ε(d2−d1) + ε²(d1−2d2+d3)` with `d_i` the derivative
    control points `3(w_{i+1} − w_i)`; exact, for every curve -/
theorem tangent_nudge_zero (w1 w2 w3 w4 : V2 K) (h : (feps : K) ≠ 1) :
    tangent_at_pos w1 w2 w3 w4 0 - (w2 - w1) * (3 : K) =
      ((w3 - w2) * (3 : K) - (w2 - w1) * (3 : K)) * (2 * feps : K) + ((w2 - w1) * (3 : K) - (w3 - w2) * (6 : K) + (w4 - w3) * (3 : K)) * (feps * feps : K) := by
  rw [tangent_at_pos_eq, nudged_zero h, hodograph_eq]
  refine V2.ext_linear fun π hadd hsub hmul => ?_
  simp only [hadd, hsub, hmul]
  ring

/-- the same at the far end: `tangent_at_pos(1.0) − C'(1) = −2ε(d3−d2) + ε²(d1−2d2+d3)` -/
theorem tangent_nudge_one (w1 w2 w3 w4 : V2 K) :
    tangent_at_pos w1 w2 w3 w4 1 - (w4 - w3) * (3 : K) =
      ((w3 - w2) * (3 : K) - (w4 - w3) * (3 : K)) * (2 * feps : K) + ((w2 - w1) * (3 : K) - (w3 - w2) * (6 : K) + (w4 - w3) * (3 : K)) * (feps * feps : K) := by
  rw [tangent_at_pos_eq, nudged_one, hodograph_eq]
  refine V2.ext_linear fun π hadd hsub hmul => ?_
  simp only [hadd, hsub, hmul]
  ring

def cross (a b : V2 K) : K := a.x * b.y - a.y * b.x

/-- THE ANGLE OF THE NUDGE, exactly: `C'(0) × tangent_at_pos(0.0) = ε·(2(1−ε)·d1×d2 + ε·d1×d3)`; divided by the two lengths this is the
    sine of the angle between the true end tangent and the one the code uses -/
theorem tangent_nudge_zero_cross (w1 w2 w3 w4 : V2 K) (h : (feps : K) ≠ 1) :
    cross ((w2 - w1) * (3 : K)) (tangent_at_pos w1 w2 w3 w4 0) =
      feps * (2 * (1 - feps) * cross ((w2 - w1) * (3 : K)) ((w3 - w2) * (3 : K)) + feps * cross ((w2 - w1) * (3 : K)) ((w4 - w3) * (3 : K))) := by
  rw [tangent_at_pos_eq, nudged_zero h, hodograph_eq]
  simp only [cross, Prelude.V2.add_x, Prelude.V2.add_y, Prelude.V2.sub_x, Prelude.V2.sub_y, Prelude.V2.mul_x, Prelude.V2.mul_y]; ring

/-- THE ZERO-TANGENT FALLBACK AT THE START: if `w1 = w2` (so `C'(0) = 0`) `tangent_at_pos(0.0)` is `ε·(6(1−ε)(w3−w2) + 3ε(w4−w3))`:
    the direction towards the next distinct control point, which is the limit direction of the curve at 0 -/
theorem tangent_at_zero_of_coincident (w1 w3 w4 : V2 K) (h : (feps : K) ≠ 1) :
    tangent_at_pos w1 w1 w3 w4 0 = ((w3 - w1) * (6 * (1 - feps) : K) + (w4 - w3) * (3 * feps : K)) * (feps : K) := by
  rw [tangent_at_pos_eq, nudged_zero h, hodograph_eq]
  refine V2.ext_linear fun π hadd hsub hmul => ?_
  simp only [hadd, hsub, hmul]
  ring

theorem rot90_dot (v : V2 K) : dot (rot90 v) v = (0 : K) ∧ dot (rot90 v) (rot90 v) = (dot v v : K) := by
  simp only [dot, rot90, lit0]
  exact ⟨by ring, by ring⟩

/-- perpendicular: the dot product of normal and tangent (as `Coordinate::dot` computes it, starting from 0.0) is 0 -/
theorem normal_perp_tangent (w1 w2 w3 w4 : V2 K) (t : K) :
    dot (normal_at_pos w1 w2 w3 w4 t) (tangent_at_pos w1 w2 w3 w4 t) = (0 : K) :=
  (rot90_dot _).1

/-- same length: `|normal|² = |tangent|²` (and hence the same `magnitude()`) -/
theorem normal_same_length (w1 w2 w3 w4 : V2 K) (t : K) :
    dot (normal_at_pos w1 w2 w3 w4 t) (normal_at_pos w1 w2 w3 w4 t) = (dot (tangent_at_pos w1 w2 w3 w4 t) (tangent_at_pos w1 w2 w3 w4 t) : K) ∧
    magnitude (normal_at_pos w1 w2 w3 w4 t) = magnitude (tangent_at_pos w1 w2 w3 w4 t) :=
  ⟨(rot90_dot _).2, congrArg fsqrt (rot90_dot (tangent_at_pos w1 w2 w3 w4 t)).2⟩

/-- what is assumed of `f64::sqrt` in exact arithmetic: the non-negative square root of non-negative numbers -/
def SqrtSpec (K : Type) [Field K] [LinearOrder K] [FSqrt K] : Prop :=
  ∀ x : K, 0 ≤ x → 0 ≤ fsqrt x ∧ fsqrt x * fsqrt x = x

theorem fsqrt_eq (hs : SqrtSpec K) {x y : K} (hy : 0 ≤ y) (h : y * y = x) : fsqrt x = y := by
  obtain ⟨h1, h2⟩ := hs x (h ▸ mul_self_nonneg y)
  exact (mul_self_inj h1 hy).1 (h2.trans h.symm)

theorem magnitude_eq (v : V2 K) : magnitude v = fsqrt (v.x * v.x + v.y * v.y) := by
  simp only [magnitude, dot, lit0, zero_add]

theorem magnitude_sq (hs : SqrtSpec K) (v : V2 K) : 0 ≤ magnitude v ∧ magnitude v * magnitude v = v.x * v.x + v.y * v.y := by
  rw [magnitude_eq]; exact hs _ (add_nonneg (mul_self_nonneg _) (mul_self_nonneg _))

theorem magnitude_eq_zero_iff (hs : SqrtSpec K) (v : V2 K) : magnitude v = 0 ↔ v = ⟨0, 0⟩ := by
  obtain ⟨_, h2⟩ := magnitude_sq hs v
  constructor
  · intro h
    rw [h, mul_zero] at h2
    obtain ⟨hx, hy⟩ := mul_self_add_mul_self_eq_zero.1 h2.symm
    exact V2.ext' hx hy
  · rintro rfl
    exact mul_self_eq_zero.1 (h2.trans (by rw [mul_zero, add_zero]))

theorem to_unit_vector_eq (v : V2 K) : to_unit_vector v = if magnitude v = 0 then ⟨0, 0⟩ else v * (1 / magnitude v) := by
  simp only [to_unit_vector, lit0, lit1, beq_iff_eq]

/-- THE ZERO GUARD OF `to_unit_vector`: the zero vector is mapped to the origin (this is the `magnitude == 0.0` branch; the division
    is never `0/0`) -/
theorem to_unit_vector_zero (hs : SqrtSpec K) : to_unit_vector (⟨0, 0⟩ : V2 K) = ⟨0, 0⟩ := by
  rw [to_unit_vector_eq, if_pos ((magnitude_eq_zero_iff hs _).2 rfl)]

/-- A NON-ZERO VECTOR IS DIVIDED BY ITS LENGTH: the result is `v·(1/|v|)` with `|v| > 0`, and has length exactly 1 -/
theorem to_unit_vector_spec (hs : SqrtSpec K) (v : V2 K) (hv : v ≠ ⟨0, 0⟩) :
    0 < magnitude v ∧ to_unit_vector v = v * (1 / magnitude v) ∧
    (to_unit_vector v).x * (to_unit_vector v).x + (to_unit_vector v).y * (to_unit_vector v).y = 1 := by
  obtain ⟨h1, h2⟩ := magnitude_sq hs v
  have hne : magnitude v ≠ 0 := fun e => hv ((magnitude_eq_zero_iff hs v).1 e)
  have hpos : 0 < magnitude v := lt_of_le_of_ne h1 (Ne.symm hne)
  have hu : to_unit_vector v = v * (1 / magnitude v) := by rw [to_unit_vector_eq, if_neg hne]
  refine ⟨hpos, hu, ?_⟩
  rw [hu]
  simp only [Prelude.V2.mul_x, Prelude.V2.mul_y]
  linear_combination (-(1 / magnitude v * (1 / magnitude v))) * h2 + (magnitude v * (1 / magnitude v) + 1) * mul_one_div_cancel hne

/-- the unit normal used by `offset_lms_sampling` (`to_normal` of the unit tangent) and by `subdivide_offset` (`to_unit_vector` of the
    normal) are the same vector: rotation commutes with normalisation -/
theorem unit_normal_comm (v : V2 K) : to_unit_vector (rot90 v) = rot90 (to_unit_vector v) := by
  have hm : magnitude (rot90 v) = magnitude v := congrArg fsqrt (rot90_dot v).2
  rw [to_unit_vector_eq, to_unit_vector_eq, hm]
  split
  · simp only [rot90, neg_zero]
  · exact V2.ext' (neg_mul _ _) rfl

/-- UNIT NORMAL: for a non-zero tangent the unit normal has length 1 and is perpendicular to the tangent -/
theorem unit_normal_spec (hs : SqrtSpec K) (w1 w2 w3 w4 : V2 K) (t : K) (hT : tangent_at_pos w1 w2 w3 w4 t ≠ ⟨0, 0⟩) :
    let n := to_unit_vector (normal_at_pos w1 w2 w3 w4 t)
    n.x * n.x + n.y * n.y = 1 ∧ n.x * (tangent_at_pos w1 w2 w3 w4 t).x + n.y * (tangent_at_pos w1 w2 w3 w4 t).y = 0 ∧
    n = rot90 (to_unit_vector (tangent_at_pos w1 w2 w3 w4 t)) := by
  intro n
  have hn : n = rot90 (to_unit_vector (tangent_at_pos w1 w2 w3 w4 t)) := by
    show to_unit_vector (normal_at_pos w1 w2 w3 w4 t) = _
    rw [normal_at_pos_eq, unit_normal_comm]
  obtain ⟨_, hu, h1⟩ := to_unit_vector_spec hs _ hT
  refine ⟨?_, ?_, hn⟩
  · rw [hn]; simp only [rot90]; linear_combination h1
  · rw [hn, hu]; simp only [rot90, Prelude.V2.mul_x, Prelude.V2.mul_y]; ring

/-! ### (4) `offset_lms_sampling` / `offset`: the chain and its end points -/

/-- the unit tangent the code takes at parameter `t` (evaluated at the nudged parameter) -/
def unitTangent (w1 w2 w3 w4 : V2 K) (t : K) : V2 K := to_unit_vector (tangent_at_pos w1 w2 w3 w4 t)

/-- THE SAMPLE at parameter `t`: `C(t) + n̂(t)·normal_offset(t) + t̂(t)·tangent_offset(t)`, `n̂ = rot90 t̂` (offset_lms.rs:80-89) -/
def samplePoint (w1 w2 w3 w4 : V2 K) (nof tof : K → K) (t : K) : V2 K :=
  curve_point_at_pos w1 w2 w3 w4 t + rot90 (unitTangent w1 w2 w3 w4 t) * nof t + unitTangent w1 w2 w3 w4 t * tof t

/-- `offset_lms_sampling` IS THE FITTER APPLIED TO THE SAMPLES at the sample parameters of (2), with the unit end tangents of the source
    curve (the end one reversed): nothing else happens in the function -/
theorem offset_lms_sampling_eq {C : Type} (features_for_curve : K → CurveFeatures K) (fcc : List (V2 K) → V2 K → V2 K → K → List C)
    (w1 w2 w3 w4 : V2 K) (nof tof : K → K) (n : Nat) (e : K) :
    offset_lms_sampling features_for_curve fcc w1 w2 w3 w4 nof tof n e =
      (offset_lms_sample_ts features_for_curve n).map (fun ts =>
        fcc (ts.map (samplePoint w1 w2 w3 w4 nof tof)) (unitTangent w1 w2 w3 w4 (0.0 : K)) (unitTangent w1 w2 w3 w4 (1.0 : K) * (-(1.0 : K))) e) := by
  unfold offset_lms_sampling offset_lms_sample_ts
  by_cases h : n < 2
  · rw [if_pos (decide_eq_true h), if_pos (decide_eq_true h)]; rfl
  · rw [if_neg (mt of_decide_eq_true h), if_neg (mt of_decide_eq_true h)]; rfl

/-- THE OFFSET CHAIN OF `offset_lms_sampling`, for every curve, every feature class, every pair of offset functions, every `n ≥ 2` and
    every fitter that meets the contract of C08 (`C08.FitsChain`: a non-empty connected chain from the first to the last point it is given,
    cf. `C08.fit_curve_chain`, `C08.fitCubic_chain`): the result is `Some` non-empty connected chain which STARTS EXACTLY AT THE SAMPLE AT
    PARAMETER 0 AND ENDS EXACTLY AT THE SAMPLE AT PARAMETER 1 -/
theorem offset_lms_chain {C : Type} (startOf endOf : C → V2 K) (features_for_curve : K → CurveFeatures K)
    (fcc : List (V2 K) → V2 K → V2 K → K → List C) (w1 w2 w3 w4 : V2 K) (nof tof : K → K) (n : Nat) (e : K) (hn : 2 ≤ n)
    (hfcc : ∀ (ps : List (V2 K)) (s t : V2 K), 2 ≤ ps.length → C08.FitsChain startOf endOf ps (fcc ps s t e)) :
    ∃ cs, offset_lms_sampling features_for_curve fcc w1 w2 w3 w4 nof tof n e = some cs ∧ cs ≠ [] ∧
      cs.head?.map startOf = some (samplePoint w1 w2 w3 w4 nof tof 0) ∧
      cs.getLast?.map endOf = some (samplePoint w1 w2 w3 w4 nof tof 1) ∧
      cs.IsChain (fun c c' => endOf c = startOf c') := by
  obtain ⟨ts, hts, _, hhead, hlast, _, _, hlen, _⟩ := sample_ts_spec features_for_curve n hn
  rw [offset_lms_sampling_eq, hts]
  refine ⟨_, rfl, ?_⟩
  obtain ⟨h1, h2, h3, h4⟩ := hfcc (ts.map (samplePoint w1 w2 w3 w4 nof tof)) (unitTangent w1 w2 w3 w4 (0.0 : K))
    (unitTangent w1 w2 w3 w4 (1.0 : K) * (-(1.0 : K))) (by rw [List.length_map]; omega)
  refine ⟨h1, ?_, ?_, h4⟩
  · rw [h2, List.head?_map, hhead]; rfl
  · rw [h3, List.getLast?_map, hlast]; rfl

theorem samplePoint_zero (w1 w2 w3 w4 : V2 K) (nof tof : K → K) (h : (feps : K) ≠ 1) :
    samplePoint w1 w2 w3 w4 nof tof 0 =
      w1 + rot90 (to_unit_vector (hodograph w1 w2 w3 w4 feps)) * nof 0 + to_unit_vector (hodograph w1 w2 w3 w4 feps) * tof 0 := by
  simp only [samplePoint, unitTangent, tangent_at_pos_eq, nudged_zero h, point_at_zero]

theorem samplePoint_one (w1 w2 w3 w4 : V2 K) (nof tof : K → K) :
    samplePoint w1 w2 w3 w4 nof tof 1 =
      w4 + rot90 (to_unit_vector (hodograph w1 w2 w3 w4 (1 - feps))) * nof 1 + to_unit_vector (hodograph w1 w2 w3 w4 (1 - feps)) * tof 1 := by
  simp only [samplePoint, unitTangent, tangent_at_pos_eq, nudged_one, point_at_one]

/-- `offset(curve, initial_offset, final_offset)` is `offset_lms_sampling` with 32 subdivisions, fit error 0.1, no tangent offset and the
    linear offset `(final − initial)·t + initial`; it never takes the `unwrap_or_else` fallback (32 ≥ 2) -/
theorem offset_eq {C : Type} (features_for_curve : K → CurveFeatures K) (fcc : List (V2 K) → V2 K → V2 K → K → List C)
    (w1 w2 w3 w4 : V2 K) (d0 d1 : K) :
    some (offset features_for_curve fcc w1 w2 w3 w4 d0 d1) =
      offset_lms_sampling features_for_curve fcc w1 w2 w3 w4 (fun t => (d1 - d0) * t + d0) (fun _ => (0.0 : K)) 32 (0.1 : K) := by
  unfold offset
  obtain ⟨ts, hts, _⟩ := sample_ts_spec features_for_curve 32 (by norm_num)
  rw [offset_lms_sampling_eq, hts]; rfl

theorem offset_chain {C : Type} (startOf endOf : C → V2 K) (features_for_curve : K → CurveFeatures K)
    (fcc : List (V2 K) → V2 K → V2 K → K → List C) (w1 w2 w3 w4 : V2 K) (d0 d1 : K) (h : (feps : K) ≠ 1)
    (hfcc : ∀ (ps : List (V2 K)) (s t : V2 K), 2 ≤ ps.length → C08.FitsChain startOf endOf ps (fcc ps s t (0.1 : K))) :
    let cs := offset features_for_curve fcc w1 w2 w3 w4 d0 d1
    cs ≠ [] ∧
    cs.head?.map startOf = some (w1 + rot90 (to_unit_vector (hodograph w1 w2 w3 w4 feps)) * d0) ∧
    cs.getLast?.map endOf = some (w4 + rot90 (to_unit_vector (hodograph w1 w2 w3 w4 (1 - feps))) * d1) ∧
    cs.IsChain (fun c c' => endOf c = startOf c') := by
  intro cs
  obtain ⟨cs', hcs, hne, hh, hl, hc⟩ := offset_lms_chain startOf endOf features_for_curve fcc w1 w2 w3 w4
    (fun t => (d1 - d0) * t + d0) (fun _ => (0.0 : K)) 32 (0.1 : K) (by norm_num) hfcc
  obtain rfl : cs = cs' := Option.some.inj ((offset_eq features_for_curve fcc w1 w2 w3 w4 d0 d1).trans hcs)
  have hz : ∀ p u : V2 K, p + u * (0.0 : K) = p := fun p u =>
    V2.ext_linear fun π hadd _ hmul => by rw [hadd, hmul, lit0, mul_zero, add_zero]
  exact ⟨hne, by rw [hh, samplePoint_zero _ _ _ _ _ _ h, hz, mul_zero, zero_add],
    by rw [hl, samplePoint_one, hz, mul_one, sub_add_cancel], hc⟩

/-- THE CHAIN OF `offset(curve, d, d)` (constant offset `d`), for every curve, both signs of `d`, every feature class, and every fitter
    meeting C08's contract: non-empty, connected, it starts EXACTLY at `w1 + d·n̂(ε)` and ends EXACTLY at `w4 + d·n̂(1−ε)`, where
    `n̂(s) = rot90(to_unit_vector(C'(s)))` is the library's unit normal and `ε = f64::EPSILON`.  This is the statement "starts at
    C(0)+d·n(0), ends at C(1)+d·n(1)" of the property with the normal taken where the code takes it; see `tangent_nudge_zero`,
    `tangent_nudge_zero_cross`, `start_deviation_sq` for the distance from the ideal point. -/
theorem offset_constant_chain {C : Type} (startOf endOf : C → V2 K) (features_for_curve : K → CurveFeatures K)
    (fcc : List (V2 K) → V2 K → V2 K → K → List C) (w1 w2 w3 w4 : V2 K) (d : K) (h : (feps : K) ≠ 1)
    (hfcc : ∀ (ps : List (V2 K)) (s t : V2 K), 2 ≤ ps.length → C08.FitsChain startOf endOf ps (fcc ps s t (0.1 : K))) :
    let cs := offset features_for_curve fcc w1 w2 w3 w4 d d
    cs ≠ [] ∧
    cs.head?.map startOf = some (w1 + rot90 (to_unit_vector (hodograph w1 w2 w3 w4 feps)) * d) ∧
    cs.getLast?.map endOf = some (w4 + rot90 (to_unit_vector (hodograph w1 w2 w3 w4 (1 - feps))) * d) ∧
    cs.IsChain (fun c c' => endOf c = startOf c') :=
  offset_chain startOf endOf features_for_curve fcc w1 w2 w3 w4 d d h hfcc

/-- with the recursion skeleton of `fit_curve_cubic` (`Model.Fit.fitCubicAuto`, C08) as the fitter: for every accept/split policy that
    meets the three hypotheses of `C08.fitCubic_chain` -/
theorem offset_constant_chain_fitCubic {C : Type} (startOf endOf : C → V2 K) (features_for_curve : K → CurveFeatures K)
    (fitLine : V2 K → V2 K → List C) (tryFit : List (V2 K) → V2 K → V2 K → K → (C × K × Nat))
    (tangentBetween : V2 K → V2 K → V2 K → V2 K) (negate : V2 K → V2 K) (w1 w2 w3 w4 : V2 K) (d : K) (h : (feps : K) ≠ 1)
    (hLine : ∀ p q, ∃ c, fitLine p q = [c] ∧ startOf c = p ∧ endOf c = q)
    (hTry : ∀ (ps : List (V2 K)) (s t : V2 K), 3 ≤ ps.length →
      some (startOf (tryFit ps s t (0.1 : K)).1) = ps.head? ∧ some (endOf (tryFit ps s t (0.1 : K)).1) = ps.getLast?)
    (hSplit : ∀ (ps : List (V2 K)) (s t : V2 K), 3 ≤ ps.length → ¬ (tryFit ps s t (0.1 : K)).2.1 ≤ (0.1 : K) →
      1 ≤ (tryFit ps s t (0.1 : K)).2.2 ∧ (tryFit ps s t (0.1 : K)).2.2 + 1 < ps.length) :
    let cs := offset features_for_curve (Model.Fit.fitCubicAuto fitLine tryFit tangentBetween negate) w1 w2 w3 w4 d d
    cs ≠ [] ∧
    cs.head?.map startOf = some (w1 + rot90 (to_unit_vector (hodograph w1 w2 w3 w4 feps)) * d) ∧
    cs.getLast?.map endOf = some (w4 + rot90 (to_unit_vector (hodograph w1 w2 w3 w4 (1 - feps))) * d) ∧
    cs.IsChain (fun c c' => endOf c = startOf c') :=
  offset_constant_chain startOf endOf features_for_curve _ w1 w2 w3 w4 d h
    (fun ps s t h2 => C08.fitCubicAuto_chain startOf endOf fitLine tryFit tangentBetween negate ps (0.1 : K) hLine
      (fun qs s t _ h3 => hTry qs s t h3) (fun qs s t _ h3 hr => hSplit qs s t h3 hr) ps s t List.infix_rfl h2)

/-- HOW FAR THE START IS FROM THE IDEAL POINT `w1 + d·n̂(0)`: for unit vectors `u = t̂(ε)`, `v = t̂(0)` the squared distance between
    `w1 + d·rot90 u` and `w1 + d·rot90 v` is `d²·(2 − 2 u·v)` -/
theorem start_deviation_sq (w1 u v : V2 K) (d : K) (hu : u.x * u.x + u.y * u.y = 1) (hv : v.x * v.x + v.y * v.y = 1) :
    let p := w1 + rot90 u * d
    let q := w1 + rot90 v * d
    (p.x - q.x) * (p.x - q.x) + (p.y - q.y) * (p.y - q.y) = d * d * (2 - 2 * (u.x * v.x + u.y * v.y)) := by
  simp only [rot90, Prelude.V2.add_x, Prelude.V2.add_y, Prelude.V2.mul_x, Prelude.V2.mul_y]
  linear_combination (d * d) * hu + (d * d) * hv

/-! ### (5) `offset_scaling`: sections, leaves, recursion -/

/-- `offset_scaling` CALLS `subdivide_offset` ONCE PER KEPT SECTION `(t1, t2)` of (1), on `curve.section(t1, t2)`, with the offsets
    `t·(final − initial) + initial` at `t = t1, t2` and depth 0, and concatenates the results -/
theorem offset_scaling_eq {C : Type} (features_for_curve : K → CurveFeatures K) (sub : SectionT K → K → K → Nat → List C) (d0 d1 : K) :
    offset_scaling features_for_curve sub d0 d1 =
      (keptSections features_for_curve).flatMap (fun s =>
        sub (section_new s.t0 s.t1) (s.t0 * (d1 - d0) + d0) (s.t1 * (d1 - d0) + d0) 0) := by
  unfold offset_scaling keptSections
  dsimp only
  rw [List.flatMap_map]
  refine congrArg₂ List.flatMap ?_ rfl
  funext s
  simp only [section_original_curve_t_values, section_new, sub_add_cancel]

/-- the unit normal `subdivide_offset` uses at parameter `t ∈ {0.0, 1.0}` of a section: `normal_at_pos(t).to_unit_vector()` of the
    SECTION's own control polygon (so evaluated at the section's own nudged parameter) -/
def unitNormalAt (w1 w2 w3 w4 : V2 K) (sec : SectionT K) (t : K) : V2 K :=
  to_unit_vector (normal_at_pos (section_start_point w1 w2 w3 w4 sec) (section_control_points w1 w2 w3 w4 sec).t0
    (section_control_points w1 w2 w3 w4 sec).t1 (section_end_point w1 w2 w3 w4 sec) t)

/-- where a leaf over `sec` with start offset `a` starts: the section's start point moved by `a` along its unit start normal -/
def leafStart (w1 w2 w3 w4 : V2 K) (sec : SectionT K) (a : K) : V2 K :=
  section_start_point w1 w2 w3 w4 sec + unitNormalAt w1 w2 w3 w4 sec (0.0 : K) * a

/-- where a leaf over `sec` with end offset `b` ends -/
def leafEnd (w1 w2 w3 w4 : V2 K) (sec : SectionT K) (b : K) : V2 K :=
  section_end_point w1 w2 w3 w4 sec + unitNormalAt w1 w2 w3 w4 sec (1.0 : K) * b

/-- `c` is an offset leaf over `sec` for the offset function `o` of the ORIGINAL curve parameter: it starts at `leafStart` with the offset
    `o` at the section's first parameter and ends at `leafEnd` with the offset `o` at the section's last parameter -/
def IsOffsetLeaf (w1 w2 w3 w4 : V2 K) (o : K → K) (sec : SectionT K) (c : Cubic K) : Prop :=
  c.t0 = leafStart w1 w2 w3 w4 sec (o sec.t_c) ∧ c.t3 = leafEnd w1 w2 w3 w4 sec (o (sec.t_m + sec.t_c))

theorem section_ends_eq (w1 w2 w3 w4 : V2 K) (sec : SectionT K) :
    section_start_point w1 w2 w3 w4 sec = curve_point_at_pos w1 w2 w3 w4 sec.t_c ∧
    section_end_point w1 w2 w3 w4 sec = curve_point_at_pos w1 w2 w3 w4 (sec.t_m + sec.t_c) := by
  simp only [section_start_point, section_end_point, section_t_for_t, lit0, lit1, zero_mul, zero_add, one_mul, and_self]

theorem IsOffsetLeaf.ends {w1 w2 w3 w4 : V2 K} {o : K → K} {sec : SectionT K} {c : Cubic K} (h : IsOffsetLeaf w1 w2 w3 w4 o sec c) :
    c.t0 = curve_point_at_pos w1 w2 w3 w4 sec.t_c + unitNormalAt w1 w2 w3 w4 sec (0.0 : K) * o sec.t_c ∧
    c.t3 = curve_point_at_pos w1 w2 w3 w4 (sec.t_m + sec.t_c) + unitNormalAt w1 w2 w3 w4 sec (1.0 : K) * o (sec.t_m + sec.t_c) := by
  rw [← (section_ends_eq w1 w2 w3 w4 sec).1, ← (section_ends_eq w1 w2 w3 w4 sec).2]
  exact h

/-- BOTH LEAF CONSTRUCTORS START AND END EXACTLY ON THE OFFSET POINTS: `start + n̂₀·d₀` and `end + n̂₁·d₁`, whatever the focus is -/
theorem leaf_ends (start cp1 cp2 end_ F n0 n1 : V2 K) (d0 d1 : K) :
    (offset_by_scaling start cp1 cp2 end_ d0 d1 F n0 n1).t0 = start + n0 * d0 ∧
    (offset_by_scaling start cp1 cp2 end_ d0 d1 F n0 n1).t3 = end_ + n1 * d1 ∧
    (offset_by_moving start cp1 cp2 end_ d0 d1 n0 n1).t0 = start + n0 * d0 ∧
    (offset_by_moving start cp1 cp2 end_ d0 d1 n0 n1).t3 = end_ + n1 * d1 := ⟨rfl, rfl, rfl, rfl⟩

theorem subsection_range (sec : SectionT K) (p q : K) :
    (section_subsection sec p q).t_c = p * sec.t_m + sec.t_c ∧
    (section_subsection sec p q).t_m + (section_subsection sec p q).t_c = q * sec.t_m + sec.t_c ∧
    (section_subsection sec p q).t_m = (q - p) * sec.t_m := by
  simp only [section_subsection, section_new, section_t_for_t]
  exact ⟨trivial, by ring, by ring⟩

theorem lit001_pos : (0 : K) < 0.01 := by norm_num
theorem half_range : (0 : K) < 0.5 ∧ (0.5 : K) < 1 := by norm_num

/-- the parameters at which `subdivide_offset` splits a section along its extremities (offset_scaling.rs:166-182): `0.0`, the retained
    extremities and `1.0`, sorted, and then — THE REPAIR — `dedup_by(|a, b| (*a - *b).abs() < 0.01)` -/
def splitParams (ext : List K) : List K :=
  listDedupBy (listSortBy (fun a b => !(decide (a > b))) (([(0.0 : K)] ++ ext) ++ [(1.0 : K)])) (fun a b => decide (fabs (a - b) < (0.01 : K)))

/-- THE WINDOWS OF THE REPAIRED CODE: for retained extremities (all in (0.01, 0.99), duplicates allowed) the windows of `splitParams` tile
    [0,1] — the first starts at 0 (`dedup_by` keeps the first element), the last ends at 1 (every other element is below 0.99, so `1.0` is
    never dropped) — there is at least one, each lies in [0,1], and EVERY WINDOW IS AT LEAST 0.01 LONG: no zero-length window can occur -/
theorem split_params_spec (ext : List K) (hext : ∀ x ∈ ext, (0.01 : K) < x ∧ x < (0.99 : K)) :
    Tiles 0 1 (windows2 (splitParams ext)) ∧ windows2 (splitParams ext) ≠ [] ∧
    ∀ w ∈ windows2 (splitParams ext), 0 ≤ w.t0 ∧ w.t0 + (0.01 : K) ≤ w.t1 ∧ w.t1 ≤ 1 := by
  unfold splitParams
  rw [lit0, lit1]
  obtain ⟨hperm, hsorted⟩ := sortPartialCmp_spec (([(0 : K)] ++ ext) ++ [(1 : K)])
  generalize listSortBy (fun a b => !(decide (a > b))) (([(0 : K)] ++ ext) ++ [(1 : K)]) = L at hperm hsorted
  have h01 : (0 : K) < 0.01 := lit001_pos
  have h99 : (0.99 : K) = 1 - 0.01 := by norm_num
  have hlow : ∀ y ∈ (0 : K) :: ext, 0 ≤ y ∧ y < 1 - 0.01 := by
    intro y hy
    rcases List.mem_cons.1 hy with rfl | hy
    · exact ⟨le_rfl, h99 ▸ by norm_num⟩
    · exact ⟨(h01.trans (hext y hy).1).le, h99 ▸ (hext y hy).2⟩
  obtain ⟨h0, h1⟩ := sorted_ends (lo := 0) (hi := 1) hsorted
    (hperm.mem_iff.2 (List.mem_append_left _ List.mem_cons_self)) (hperm.mem_iff.2 (List.mem_append_right _ List.mem_cons_self))
    (fun x hx => by
      rcases List.mem_append.1 (hperm.mem_iff.1 hx) with hx | hx
      · exact ⟨(hlow x hx).1, ((hlow x hx).2.trans (sub_lt_self 1 h01)).le⟩
      · rw [List.mem_singleton.1 hx]; exact ⟨zero_le_one, le_rfl⟩)
  obtain ⟨ys, rfl⟩ := List.getLast?_eq_some_iff.1 h1
  have hys : ys.Perm (0 :: ext) := (List.perm_append_right_iff _).1 hperm
  match ys, h0, hys with
  | [], h0, _ => exact absurd (Option.some.inj h0) one_ne_zero
  | p :: init, h0, hys =>
    obtain rfl : p = 0 := Option.some.inj h0
    show Tiles 0 1 (windows2 (listDedupByGo _ 0 (init ++ [1]))) ∧ windows2 (listDedupByGo _ 0 (init ++ [1])) ≠ [] ∧
      ∀ w ∈ windows2 (listDedupByGo _ 0 (init ++ [1])), _
    -- `dedup_by` keeps the first element, and the last one because nothing before it is within 0.01 of it
    have hlast := dedupGo_getLast (fun a b => decide (fabs (a - b) < (0.01 : K))) 1 init 0 (fun y hy => by
      have hy' := (hlow y (hys.mem_iff.1 hy)).2
      rw [decide_eq_false_iff_not, not_lt]
      exact (lt_sub_comm.1 hy').le.trans (le_abs_self _))
    obtain ⟨ht, hw⟩ := windows2_sorted (hsorted.sublist (dedupGo_sublist _ _ _)) (dedupGo_head _ _ _) hlast
    refine ⟨ht, ht.ne_nil zero_ne_one, fun w hw' => ⟨(hw w hw').1, ?_, (hw w hw').2.2⟩⟩
    have := mem_windows2_of_isChain (dedupGo_chain _ _ _) w hw'
    rwa [decide_eq_false_iff_not, not_lt, show fabs (w.t1 - w.t0) = |w.t1 - w.t0| from rfl,
      abs_of_nonneg (sub_nonneg.2 (hw w hw').2.1), le_sub_iff_add_le'] at this

/-- THE REPAIR, as a statement about the sub-sections: every window `(t1, t2)` that `subdivide_offset` hands to `curve.subsection` has
    `t2 − t1 ≥ 0.01`, so a section of positive length `t_m` is only ever split into sub-sections of length at least `0.01·t_m > 0`
    (before the repair two equal extremities gave a window `(e, e)` and a sub-section of length zero, cf. `zero_length_section_pieces`) -/
theorem windows_have_positive_length (sec : SectionT K) (hsec : 0 < sec.t_m) (ext : List K)
    (hext : ∀ x ∈ ext, (0.01 : K) < x ∧ x < (0.99 : K)) :
    ∀ w ∈ windows2 (splitParams ext), w.t0 + (0.01 : K) ≤ w.t1 ∧ (0.01 : K) * sec.t_m ≤ (section_subsection sec w.t0 w.t1).t_m ∧
      0 < (section_subsection sec w.t0 w.t1).t_m := by
  intro w hw
  obtain ⟨_, h1, _⟩ := (split_params_spec ext hext).2.2 w hw
  have e := (subsection_range sec w.t0 w.t1).2.2
  have h2 : (0.01 : K) ≤ w.t1 - w.t0 := le_sub_iff_add_le'.2 h1
  have h3 : (0.01 : K) * sec.t_m ≤ (w.t1 - w.t0) * sec.t_m := mul_le_mul_of_nonneg_right h2 hsec.le
  refine ⟨h1, by rw [e]; exact h3, by rw [e]; exact lt_of_lt_of_le (mul_pos lit001_pos hsec) h3⟩

example : windows2 (splitParams ([1/2, 1/4, 1/2] : List ℚ)) = [⟨0, 1/4⟩, ⟨1/4, 1/2⟩, ⟨1/2, 1⟩] := by decide +kernel

/-- ONE LEVEL OF `subdivide_offset`: if the recursive calls (only made when `depth < MAX_DEPTH = 5`) return chains of offset leaves over
    the sub-sections they are given, the body returns a chain of offset leaves over its own section.  The offsets handed down
    (`initial + (final − initial)·t`) are the values of the same affine function `o` of the original curve parameter. -/
theorem body_pieces (w1 w2 w3 w4 : V2 K) (c0 c1 : K) (Inv : SectionT K → Prop)
    (hInv : ∀ sec p q, 0 ≤ p → p < q → q ≤ 1 → Inv sec → Inv (section_subsection sec p q))
    (recurse : SectionT K → K → K → Nat → List (Cubic K)) (sec : SectionT K) (depth : Nat) (hsec : Inv sec)
    (hrec : depth < 5 → ∀ sec', Inv sec' → Pieces (fun s c => Inv s ∧ IsOffsetLeaf w1 w2 w3 w4 (fun t => c0 + c1 * t) s c) sec'.t_c (sec'.t_m + sec'.t_c)
      (recurse sec' (c0 + c1 * sec'.t_c) (c0 + c1 * (sec'.t_m + sec'.t_c)) (depth + 1))) :
    Pieces (fun s c => Inv s ∧ IsOffsetLeaf w1 w2 w3 w4 (fun t => c0 + c1 * t) s c) sec.t_c (sec.t_m + sec.t_c)
      (subdivide_offset_body recurse w1 w2 w3 w4 sec (c0 + c1 * sec.t_c) (c0 + c1 * (sec.t_m + sec.t_c)) depth) := by
  generalize ha : c0 + c1 * sec.t_c = a
  generalize hb : c0 + c1 * (sec.t_m + sec.t_c) = b
  have hsub : depth < 5 → ∀ p q a' b', 0 ≤ p → p < q → q ≤ 1 → a' = a + (b - a) * p → b' = a + (b - a) * q →
      Pieces (fun s c => Inv s ∧ IsOffsetLeaf w1 w2 w3 w4 (fun t => c0 + c1 * t) s c) (p * sec.t_m + sec.t_c) (q * sec.t_m + sec.t_c)
      (recurse (section_subsection sec p q) a' b' (depth + 1)) := by
    intro hd p q a' b' hp0 hpq hq1 ha' hb'
    have := hrec hd (section_subsection sec p q) (hInv sec p q hp0 hpq hq1 hsec)
    rw [(subsection_range sec p q).2.1, (subsection_range sec p q).1] at this
    rwa [show c0 + c1 * (p * sec.t_m + sec.t_c) = a' by rw [ha', ← ha, ← hb]; ring,
      show c0 + c1 * (q * sec.t_m + sec.t_c) = b' by rw [hb', ← ha, ← hb]; ring] at this
  have halves : depth < 5 → Pieces (fun s c => Inv s ∧ IsOffsetLeaf w1 w2 w3 w4 (fun t => c0 + c1 * t) s c) sec.t_c (sec.t_m + sec.t_c)
      (recurse (section_subsection sec 0.0 0.5) a (a + (b - a) * 0.5) (depth + 1) ++
        recurse (section_subsection sec 0.5 1.0) (a + (b - a) * 0.5) b (depth + 1)) := by
    intro hd
    have L := hsub hd 0.0 0.5 a _ (le_of_eq lit0.symm) (by rw [lit0]; exact half_range.1) half_range.2.le
      (by rw [lit0, mul_zero, add_zero]) rfl
    have R := hsub hd 0.5 1.0 _ b half_range.1.le (by rw [lit1]; exact half_range.2) (le_of_eq lit1) rfl
      (by rw [lit1, mul_one, add_sub_cancel])
    rw [show (0.0 : K) * sec.t_m + sec.t_c = sec.t_c by rw [lit0, zero_mul, zero_add]] at L
    rw [show (1.0 : K) * sec.t_m + sec.t_c = sec.t_m + sec.t_c by rw [lit1, one_mul]] at R
    exact L.append R
  unfold subdivide_offset_body
  dsimp only
  -- the translator has copied the `match intersect_point` into both branches of `if intersect_point.is_none()`;
  -- the `if`s are taken apart by `iteInduction` (`split` is slow on this goal)
  cases ray_intersects_ray (T2.mk (section_start_point w1 w2 w3 w4 sec) _) (T2.mk (section_end_point w1 w2 w3 w4 sec) _) with
  | none =>
    rw [if_pos Option.isNone_none]
    refine iteInduction (fun h => halves (of_decide_eq_true (Bool.and_eq_true_iff.1 h).2)) (fun _ => ?_)
    subst ha hb; exact Pieces.leaf sec _ ⟨hsec, rfl, rfl⟩
  | some F =>
    rw [if_neg (by simp)]
    refine iteInduction (fun h => ?_) (fun _ => ?_)
    · have hd := of_decide_eq_true (Bool.and_eq_true_iff.1 h).2
      refine iteInduction (fun _ => halves hd) (fun _ => ?_)
      generalize hE : List.filter _ _ = ext
      obtain ⟨ht, hne, hw⟩ := split_params_spec ext (fun x hx => by
        rw [← hE, List.mem_filter, Bool.and_eq_true, decide_eq_true_eq, decide_eq_true_eq] at hx
        exact hx.2)
      have := Pieces.flatMap_tiles (fun p => p * sec.t_m + sec.t_c) _ _ 0 1 hne ht (fun s hs =>
        hsub hd s.t0 s.t1 _ _ (hw s hs).1 (lt_of_lt_of_le (lt_add_of_pos_right _ lit001_pos) (hw s hs).2.1) (hw s hs).2.2 rfl rfl)
      rwa [zero_mul, zero_add, one_mul] at this
    · subst ha hb; exact Pieces.leaf sec _ ⟨hsec, rfl, rfl⟩

/-- THE TERMINATION GUARD: at `depth ≥ MAX_DEPTH = 5` the body of `subdivide_offset` makes no recursive call (its value does not depend on
    `recurse`), and below that every recursive call is made with `depth + 1`: two `recurse` that agree at `depth + 1` give the same result -/
theorem body_congr (w1 w2 w3 w4 : V2 K) (r r' : SectionT K → K → K → Nat → List (Cubic K)) (sec : SectionT K) (a b : K) (depth : Nat)
    (h : depth < 5 → ∀ s x y, r s x y (depth + 1) = r' s x y (depth + 1)) :
    subdivide_offset_body r w1 w2 w3 w4 sec a b depth = subdivide_offset_body r' w1 w2 w3 w4 sec a b depth := by
  unfold subdivide_offset_body
  dsimp only
  by_cases hd : depth < 5
  · simp only [h hd]
  · simp only [hd, decide_false, Bool.and_false, Bool.false_eq_true, if_false]

/-- THE FUEL OF THE MODEL IS NEVER EXHAUSTED: with fuel `≥ 1` and `≥ MAX_DEPTH + 1 − depth` the result of `subdivideOffset` does not depend
    on the fuel (so `Model.Offset.offsetScaling`, which hands out `MAX_DEPTH + 1` at depth 0, computes what the unbounded Rust recursion
    computes, and that recursion is at most `MAX_DEPTH` calls deep) -/
theorem subdivideOffset_fuel (w1 w2 w3 w4 : V2 K) : ∀ (fuel fuel' : Nat) (sec : SectionT K) (a b : K) (depth : Nat),
    1 ≤ fuel → 6 ≤ fuel + depth → 1 ≤ fuel' → 6 ≤ fuel' + depth →
    subdivideOffset w1 w2 w3 w4 fuel sec a b depth = subdivideOffset w1 w2 w3 w4 fuel' sec a b depth
  | fuel + 1, fuel' + 1, sec, a, b, depth, _, h1, _, h2 => by
    unfold subdivideOffset
    apply body_congr
    intro hd s x y
    exact subdivideOffset_fuel w1 w2 w3 w4 fuel fuel' s x y (depth + 1) (by omega) (by omega) (by omega) (by omega)

/-- `subdivide_offset` RETURNS A CHAIN OF OFFSET LEAVES OVER ITS SECTION, for every curve, section, depth and affine offset function `o` of
    the original parameter (called with the offsets `o` at the ends of the section), given enough fuel -/
theorem subdivideOffset_pieces (w1 w2 w3 w4 : V2 K) (c0 c1 : K) (Inv : SectionT K → Prop)
    (hInv : ∀ sec p q, 0 ≤ p → p < q → q ≤ 1 → Inv sec → Inv (section_subsection sec p q)) : ∀ (fuel : Nat) (sec : SectionT K) (depth : Nat),
    1 ≤ fuel → 6 ≤ fuel + depth → Inv sec →
    Pieces (fun s c => Inv s ∧ IsOffsetLeaf w1 w2 w3 w4 (fun t => c0 + c1 * t) s c) sec.t_c (sec.t_m + sec.t_c)
      (subdivideOffset w1 w2 w3 w4 fuel sec (c0 + c1 * sec.t_c) (c0 + c1 * (sec.t_m + sec.t_c)) depth)
  | fuel + 1, sec, depth, _, h, hsec => by
    unfold subdivideOffset
    apply body_pieces _ _ _ _ _ _ Inv hInv _ _ _ hsec
    intro hd sec' hsec'
    exact subdivideOffset_pieces w1 w2 w3 w4 c0 c1 Inv hInv fuel sec' (depth + 1) (by omega) (by omega) hsec'

theorem offset_scaling_pieces_inv (features_for_curve : K → CurveFeatures K) (w1 w2 w3 w4 : V2 K) (d0 d1 : K) (Inv : SectionT K → Prop)
    (hInv : ∀ sec p q, 0 ≤ p → p < q → q ≤ 1 → Inv sec → Inv (section_subsection sec p q))
    (h0 : ∀ s ∈ keptSections features_for_curve, Inv (section_new s.t0 s.t1)) :
    Pieces (fun s c => Inv s ∧ IsOffsetLeaf w1 w2 w3 w4 (fun t => d0 + (d1 - d0) * t) s c) 0 1
      (offsetScaling features_for_curve w1 w2 w3 w4 d0 d1) := by
  unfold offsetScaling
  rw [offset_scaling_eq]
  obtain ⟨ht, hne, _, _⟩ := kept_sections_tile features_for_curve
  refine Pieces.flatMap_tiles (fun t => t) _ _ 0 1 hne ht (fun s hs => ?_)
  have := subdivideOffset_pieces w1 w2 w3 w4 d0 (d1 - d0) Inv hInv (maxDepth + 1 - 0) (section_new s.t0 s.t1) 0
    (Nat.le_add_left 1 5) (Nat.le_refl 6) (h0 s hs)
  rwa [show (section_new s.t0 s.t1).t_m + (section_new s.t0 s.t1).t_c = s.t1 from sub_add_cancel _ _,
    show (section_new s.t0 s.t1).t_c = s.t0 from rfl, add_comm d0, mul_comm (d1 - d0), add_comm d0, mul_comm (d1 - d0)] at this

/-- `offset_scaling` RETURNS A CHAIN OF OFFSET LEAVES THAT TILES THE WHOLE CURVE: for every curve, every feature class and parameters,
    all offsets `initial`, `final` (with `o(t) = initial + (final − initial)·t`) -/
theorem offset_scaling_pieces (features_for_curve : K → CurveFeatures K) (w1 w2 w3 w4 : V2 K) (d0 d1 : K) :
    Pieces (IsOffsetLeaf w1 w2 w3 w4 (fun t => d0 + (d1 - d0) * t)) 0 1 (offsetScaling features_for_curve w1 w2 w3 w4 d0 d1) :=
  (offset_scaling_pieces_inv features_for_curve w1 w2 w3 w4 d0 d1 (fun _ => True) (fun _ _ _ _ _ _ _ => trivial)
    (fun _ _ => trivial)).mono (fun _ _ h => h.2)

/-- THE CHAIN OF `offset_scaling`, for every curve, every feature class / parameters, all offsets (`o(t) = initial + (final − initial)·t`;
    for `offset_scaling(curve, d, d)`, `o = d`):
    * it is not empty;
    * its first curve starts EXACTLY at `w1 + n̂·initial` and its last curve ends EXACTLY at `w4 + n̂'·final`, where `n̂`, `n̂'` are the unit
      normals of the first / last LEAF section at its own nudged end parameter (`unitNormalAt`);
    * at every joint there is a curve parameter `m` such that the left curve ends at `C(m) + n̂⁻·o(m)` and the right one starts at
      `C(m) + n̂⁺·o(m)`: the same curve point `C(m)`, the same offset `o(m)`, but the unit normals of two DIFFERENT sections (the left one
      at its `1 − ε`, the right one at its `ε`).  So the chain is connected up to the difference of these two unit normals — it is NOT
      connected exactly, not even in exact arithmetic; `joint_gap_sq` gives the gap.
    The sections are only asked to exist with these end parameters, so a section of length zero (unit normal 0) qualifies too: what
    the pieces are is said by `offset_scaling_pieces`, `offset_scaling_leaf_sections`, `offset_scaling_leaf_normals`. -/
theorem offset_scaling_chain (features_for_curve : K → CurveFeatures K) (w1 w2 w3 w4 : V2 K) (d0 d1 : K) :
    let o : K → K := fun t => d0 + (d1 - d0) * t
    let cs := offsetScaling features_for_curve w1 w2 w3 w4 d0 d1
    cs ≠ [] ∧
    (∃ c sec, cs.head? = some c ∧ sec.t_c = 0 ∧ c.t0 = w1 + unitNormalAt w1 w2 w3 w4 sec (0.0 : K) * d0) ∧
    (∃ c sec, cs.getLast? = some c ∧ sec.t_m + sec.t_c = 1 ∧ c.t3 = w4 + unitNormalAt w1 w2 w3 w4 sec (1.0 : K) * d1) ∧
    cs.IsChain (fun c c' => ∃ sec sec' m, sec.t_m + sec.t_c = m ∧ sec'.t_c = m ∧
      c.t3 = curve_point_at_pos w1 w2 w3 w4 m + unitNormalAt w1 w2 w3 w4 sec (1.0 : K) * o m ∧
      c'.t0 = curve_point_at_pos w1 w2 w3 w4 m + unitNormalAt w1 w2 w3 w4 sec' (0.0 : K) * o m) := by
  intro o cs
  have hp : Pieces (IsOffsetLeaf w1 w2 w3 w4 o) 0 1 cs := offset_scaling_pieces features_for_curve w1 w2 w3 w4 d0 d1
  have ho0 : o 0 = d0 := by simp only [o, mul_zero, add_zero]
  have ho1 : o 1 = d1 := by simp only [o, mul_one, add_sub_cancel]
  refine ⟨hp.ne_nil, ?_, ?_, ?_⟩
  · obtain ⟨c, sec, h1, h2, h3⟩ := hp.head
    exact ⟨c, sec, h1, h2, by rw [h3.ends.1, h2, point_at_zero, ho0]⟩
  · obtain ⟨c, sec, h1, h2, h3⟩ := hp.last
    exact ⟨c, sec, h1, h2, by rw [h3.ends.2, h2, point_at_one, ho1]⟩
  · refine hp.joints.imp ?_
    rintro c c' ⟨sec, sec', hm, hl, hr⟩
    exact ⟨sec, sec', _, rfl, hm.symm, hl.ends.2, by rw [hm]; exact hr.ends.1⟩

/-- THE GAP AT A JOINT: two points `p + n⁻·o` and `p + n⁺·o` with unit vectors `n⁻`, `n⁺` are `o²·(2 − 2 n⁻·n⁺)` apart (squared); both lie
    on the circle of radius `|o|` about the curve point `p` -/
theorem joint_gap_sq (p n n' : V2 K) (o : K) (hn : n.x * n.x + n.y * n.y = 1) (hn' : n'.x * n'.x + n'.y * n'.y = 1) :
    let a := p + n * o
    let b := p + n' * o
    (a.x - b.x) * (a.x - b.x) + (a.y - b.y) * (a.y - b.y) = o * o * (2 - 2 * (n.x * n'.x + n.y * n'.y)) ∧
    (a.x - p.x) * (a.x - p.x) + (a.y - p.y) * (a.y - p.y) = o * o ∧ (b.x - p.x) * (b.x - p.x) + (b.y - p.y) * (b.y - p.y) = o * o := by
  simp only [Prelude.V2.add_x, Prelude.V2.add_y, Prelude.V2.mul_x, Prelude.V2.mul_y]
  refine ⟨?_, ?_, ?_⟩
  · linear_combination (o * o) * hn + (o * o) * hn'
  · linear_combination (o * o) * hn
  · linear_combination (o * o) * hn'

/-! #### the two leaf constructors -/

/-- `offset_by_moving` (parallel end normals) KEEPS BOTH END TANGENTS EXACTLY: `cp1' − start' = cp1 − start`, `end' − cp2' = end − cp2` -/
theorem offset_by_moving_tangents (start cp1 cp2 end_ n0 n1 : V2 K) (d0 d1 : K) :
    let r := offset_by_moving start cp1 cp2 end_ d0 d1 n0 n1
    r.t1 - r.t0 = cp1 - start ∧ r.t3 - r.t2 = end_ - cp2 := by
  constructor <;> refine V2.ext_linear fun π hadd hsub hmul => ?_ <;> simp only [offset_by_moving, hadd, hsub, hmul] <;> ring

theorem dist_along_normal (hs : SqrtSpec K) (p n : V2 K) (a d : K) (hn : n.x * n.x + n.y * n.y = 1) :
    coord2_distance_to (p + n * a) (p + n * d) = |a - d| := by
  have e : (p.x + n.x * d - (p.x + n.x * a)) * (p.x + n.x * d - (p.x + n.x * a)) +
      (p.y + n.y * d - (p.y + n.y * a)) * (p.y + n.y * d - (p.y + n.y * a)) = (d - a) * (d - a) := by
    linear_combination ((d - a) * (d - a)) * hn
  simp only [coord2_distance_to, Prelude.V2.add_x, Prelude.V2.add_y, Prelude.V2.mul_x, Prelude.V2.mul_y, e, fsqrt_eq hs (abs_nonneg (d - a)) (abs_mul_abs_self _), abs_sub_comm]

theorem scale_along_normal (hs : SqrtSpec K) {p n F : V2 K} {a d σ : K} (hn : n.x * n.x + n.y * n.y = 1) (hF : F = p + n * a)
    (ha : a ≠ 0) (h : a - d = σ * a) (hσ : 0 ≤ σ) :
    coord2_distance_to F (p + n * d) / coord2_distance_to F p = σ ∧ p + n * d = (p - F) * σ + F := by
  have h0 : p + n * (0 : K) = p := V2.ext_linear fun π hadd _ hmul => by rw [hadd, hmul, mul_zero, add_zero]
  have hp := dist_along_normal hs p n a 0 hn
  rw [h0, sub_zero] at hp
  subst hF
  constructor
  · rw [dist_along_normal hs p n a d hn, hp, h, abs_mul, abs_of_nonneg hσ, mul_div_assoc, div_self (abs_ne_zero.2 ha), mul_one]
  · refine V2.ext_linear fun π hadd hsub hmul => ?_
    simp only [hadd, hsub, hmul]
    linear_combination (-(π n)) * h

theorem offset_by_scaling_eq (start cp1 cp2 end_ F n0 n1 : V2 K) (d0 d1 : K) {σ0 σ1 : K}
    (h0 : coord2_distance_to F (start + n0 * d0) / coord2_distance_to F start = σ0)
    (h1 : coord2_distance_to F (end_ + n1 * d1) / coord2_distance_to F end_ = σ1) :
    offset_by_scaling start cp1 cp2 end_ d0 d1 F n0 n1 =
      ⟨start + n0 * d0, (cp1 - F) * ((σ1 - σ0) * (1 / 3) + σ0) + F, (cp2 - F) * ((σ1 - σ0) * (2 / 3) + σ0) + F, end_ + n1 * d1⟩ := by
  subst h0 h1
  simp only [offset_by_scaling, lit1, lit2, lit3]

theorem curve_point_homothety (p1 p2 p3 p4 F : V2 K) (σ t : K) :
    curve_point_at_pos ((p1 - F) * σ + F) ((p2 - F) * σ + F) ((p3 - F) * σ + F) ((p4 - F) * σ + F) t =
      (curve_point_at_pos p1 p2 p3 p4 t - F) * σ + F := by
  refine V2.ext_linear fun π hadd hsub hmul => ?_
  simp only [curve_point_at_pos, basis, lit1, lit3, hadd, hsub, hmul]
  ring

/-- WHEN `offset_by_scaling` IS AN EXACT SCALING: if the focus lies on both unit normals (`F = start + n₀·a = end + n₁·b`, as
    `ray_intersects_ray` makes it, cf. `C04.rir_spec`), and both ends ask for the same non-negative scale factor `σ` about `F`
    (`a − d₀ = σ·a`, `b − d₁ = σ·b`; for a constant offset `d` and an equidistant focus `a = b` this is `σ = (a − d)/a`, non-negative as long
    as the offset does not pass the focus), then EVERY control point of the result is the image of the source's under the scaling by `σ` about
    `F`; hence so is every point of the curve, and all tangents (in particular the end tangents) are parallel to the source's -/
theorem offset_by_scaling_homothety (hs : SqrtSpec K) (start cp1 cp2 end_ F n0 n1 : V2 K) (d0 d1 a b σ : K)
    (hn0 : n0.x * n0.x + n0.y * n0.y = 1) (hn1 : n1.x * n1.x + n1.y * n1.y = 1)
    (hF0 : F = start + n0 * a) (hF1 : F = end_ + n1 * b) (ha : a ≠ 0) (hb : b ≠ 0)
    (h0 : a - d0 = σ * a) (h1 : b - d1 = σ * b) (hσ : 0 ≤ σ) :
    let r := offset_by_scaling start cp1 cp2 end_ d0 d1 F n0 n1
    r.t0 = (start - F) * σ + F ∧ r.t1 = (cp1 - F) * σ + F ∧ r.t2 = (cp2 - F) * σ + F ∧ r.t3 = (end_ - F) * σ + F ∧
    r.t1 - r.t0 = (cp1 - start) * σ ∧ r.t3 - r.t2 = (end_ - cp2) * σ ∧
    ∀ t : K, curve_point_at_pos r.t0 r.t1 r.t2 r.t3 t = (curve_point_at_pos start cp1 cp2 end_ t - F) * σ + F := by
  intro r
  obtain ⟨es, e0⟩ := scale_along_normal hs hn0 hF0 ha h0 hσ
  obtain ⟨ee, e3⟩ := scale_along_normal hs hn1 hF1 hb h1 hσ
  have hr : r = ⟨(start - F) * σ + F, (cp1 - F) * σ + F, (cp2 - F) * σ + F, (end_ - F) * σ + F⟩ := by
    rw [← e0, ← e3]
    exact (offset_by_scaling_eq start cp1 cp2 end_ F n0 n1 d0 d1 es ee).trans (by rw [sub_self, zero_mul, zero_mul, zero_add])
  have hdiff : ∀ p q : V2 K, ((p - F) * σ + F) - ((q - F) * σ + F) = (p - q) * σ := fun p q => by
    refine V2.ext_linear fun π hadd hsub hmul => ?_
    simp only [hadd, hsub, hmul]
    ring
  rw [hr]
  exact ⟨rfl, rfl, rfl, rfl, hdiff cp1 start, hdiff end_ cp2, curve_point_homothety _ _ _ _ F σ⟩

/-- IN GENERAL `offset_by_scaling` DOES NOT KEEP THE END TANGENT DIRECTION: with the focus on the start normal (`F = start + n₀·a`, `a ≠ 0`,
    offset not past the focus: `a − d₀ = σ₀·a`, `σ₀ ≥ 0`, so that `start_scale = σ₀`) and ANY end scale `σ₁` (the value the code computes from
    the other end), the new start tangent is `(cp1 − start)·σ₀ + (cp1 − F)·(σ₁ − σ₀)/3`; its cross product with the old one is
    `(σ₁ − σ₀)/3 · (cp1 − start) × (start − F)`.  The code accepts a focus whose two distances differ by up to 0.5 % (`distance_ratio ≥ 0.995`),
    and at `depth = MAX_DEPTH` any focus at all (offset_scaling.rs:158), so `σ₁ ≠ σ₀` in general and the end tangents are parallel to the
    source's only up to that term. -/
theorem offset_by_scaling_start_tangent (hs : SqrtSpec K) (start cp1 cp2 end_ F n0 n1 : V2 K) (d0 d1 a σ0 : K)
    (hn0 : n0.x * n0.x + n0.y * n0.y = 1) (hF0 : F = start + n0 * a) (ha : a ≠ 0) (h0 : a - d0 = σ0 * a) (hσ : 0 ≤ σ0) :
    let r := offset_by_scaling start cp1 cp2 end_ d0 d1 F n0 n1
    let σ1 := coord2_distance_to F (end_ + n1 * d1) / coord2_distance_to F end_
    r.t1 - r.t0 = (cp1 - start) * σ0 + (cp1 - F) * ((σ1 - σ0) * (1 / 3)) ∧
    cross (cp1 - start) (r.t1 - r.t0) = (σ1 - σ0) * (1 / 3) * cross (cp1 - start) (start - F) := by
  intro r σ1
  obtain ⟨es, e0⟩ := scale_along_normal hs hn0 hF0 ha h0 hσ
  have ht : r.t1 - r.t0 = (cp1 - start) * σ0 + (cp1 - F) * ((σ1 - σ0) * (1 / 3)) := by
    show (offset_by_scaling start cp1 cp2 end_ d0 d1 F n0 n1).t1 - (offset_by_scaling start cp1 cp2 end_ d0 d1 F n0 n1).t0 = _
    rw [offset_by_scaling_eq start cp1 cp2 end_ F n0 n1 d0 d1 es rfl]
    show (cp1 - F) * ((σ1 - σ0) * (1 / 3) + σ0) + F - (start + n0 * d0) = _
    rw [e0]
    refine V2.ext_linear fun π hadd hsub hmul => ?_
    simp only [hadd, hsub, hmul]
    ring
  refine ⟨ht, ?_⟩
  rw [ht]
  simp only [cross, Prelude.V2.add_x, Prelude.V2.add_y, Prelude.V2.sub_x, Prelude.V2.sub_y, Prelude.V2.mul_x, Prelude.V2.mul_y]; ring

/-- THE HODOGRAPH OF A SECTION'S CONTROL POLYGON (start point, `control_points()`, end point, as `CurveSection` computes them) is the
    hodograph of the curve, reparametrised and scaled by the section's length: `P'(s) = t_m · C'(t_c + t_m·s)` (for `t_c < 1`, where the
    code divides by `1 − t_c`) -/
theorem section_hodograph (w1 w2 w3 w4 : V2 K) (sec : SectionT K) (hc : sec.t_c < 1) (s : K) :
    hodograph (section_start_point w1 w2 w3 w4 sec) (section_control_points w1 w2 w3 w4 sec).t0
      (section_control_points w1 w2 w3 w4 sec).t1 (section_end_point w1 w2 w3 w4 sec) s =
    hodograph w1 w2 w3 w4 (sec.t_c + sec.t_m * s) * sec.t_m := by
  obtain ⟨u, L⟩ := sec
  have h1 : (1 : K) - u ≠ 0 := (sub_pos.2 hc).ne'
  -- with `L = r·(1 − u)` the code's `t_max = L / (1 − u)` is `r` and the claim is a polynomial identity
  obtain ⟨r, rfl⟩ : ∃ r, L = r * (1 - u) := ⟨L / (1 - u), (div_mul_cancel₀ L h1).symm⟩
  rw [hodograph_eq, hodograph_eq]
  refine V2.ext_linear fun π hadd hsub hmul => ?_
  simp only [section_control_points, section_start_point, section_end_point, section_t_for_t, curve_point_at_pos, de_casteljau2,
    basis, lit0, lit1, lit3, ge_iff_le, not_le.2 hc, decide_false, Bool.false_eq_true, if_false, mul_div_cancel_right₀ r h1,
    hadd, hsub, hmul]
  ring

theorem to_unit_vector_scale (hs : SqrtSpec K) (v : V2 K) (L : K) (hL : 0 < L) : to_unit_vector (v * L) = to_unit_vector v := by
  obtain ⟨h1, h2⟩ := magnitude_sq hs v
  have hm : magnitude (v * L) = magnitude v * L := by
    rw [magnitude_eq (v * L)]
    exact fsqrt_eq hs (mul_nonneg h1 hL.le) (by rw [Prelude.V2.mul_x, Prelude.V2.mul_y]; linear_combination (L * L) * h2)
  rw [to_unit_vector_eq, to_unit_vector_eq, hm]
  simp only [mul_eq_zero, hL.ne', or_false]
  split
  · rfl
  · have e : L * (1 / (magnitude v * L)) = 1 / magnitude v := by field_simp
    apply V2.ext' <;> simp only [Prelude.V2.mul_x, Prelude.V2.mul_y, mul_assoc, e]

theorem unitNormalAt_hodograph (w1 w2 w3 w4 : V2 K) (sec : SectionT K) (hc : sec.t_c < 1) (t : K) :
    unitNormalAt w1 w2 w3 w4 sec t = rot90 (to_unit_vector (hodograph w1 w2 w3 w4 (sec.t_c + sec.t_m * nudged t) * sec.t_m)) := by
  rw [unitNormalAt, normal_at_pos_eq, unit_normal_comm, tangent_at_pos_eq, section_hodograph w1 w2 w3 w4 sec hc]

/-- THE UNIT NORMAL OF A LEAF IS THE LIBRARY'S UNIT NORMAL OF THE ORIGINAL CURVE, taken at the original parameter that corresponds to the
    leaf's own nudged parameter: for a section of positive length `t_m` starting at `t_c < 1`,
    `unitNormalAt sec t = rot90(to_unit_vector(C'(t_c + t_m·nudged t)))`.  At `t = 0.0` this is the curve's unit normal at `t_c + t_m·ε`, at `t = 1.0`
    at `t_c + t_m − t_m·ε`: at a joint `m` the two pieces use the curve's unit normals at `m − t_m·ε` and `m + t_m'·ε`. -/
theorem unitNormalAt_eq (hs : SqrtSpec K) (w1 w2 w3 w4 : V2 K) (sec : SectionT K) (hc : sec.t_c < 1) (hL : 0 < sec.t_m) (t : K) :
    unitNormalAt w1 w2 w3 w4 sec t = rot90 (to_unit_vector (hodograph w1 w2 w3 w4 (sec.t_c + sec.t_m * nudged t))) := by
  rw [unitNormalAt_hodograph w1 w2 w3 w4 sec hc, to_unit_vector_scale hs _ _ hL]

/-- A SECTION OF LENGTH ZERO HAS NO NORMAL: its control polygon is a single point, tangent and normal are the zero vector and
    `to_unit_vector` maps it to the origin, so a "leaf" over it is not offset at all -/
theorem zero_length_unit_normal (hs : SqrtSpec K) (w1 w2 w3 w4 : V2 K) (sec : SectionT K) (hc : sec.t_c < 1) (hL : sec.t_m = 0) (t : K) :
    unitNormalAt w1 w2 w3 w4 sec t = ⟨0, 0⟩ := by
  have h0 : ∀ v : V2 K, v * (0 : K) = ⟨0, 0⟩ := fun v => V2.ext' (mul_zero _) (mul_zero _)
  rw [unitNormalAt_hodograph w1 w2 w3 w4 sec hc, hL, h0, to_unit_vector_zero hs]
  simp only [rot90, neg_zero]

/-- WHAT `subdivide_offset` WOULD RETURN FOR A SECTION OF LENGTH ZERO: one or more curves that all START AND END AT THE SOURCE CURVE POINT
    `C(m)` ITSELF — not at `C(m) + n̂·d`.  This is why the repair matters: before it (no `dedup_by` after the sort, offset_scaling.rs:166-182)
    two equal entries of the extremity list (`find_extremities` returns a parameter twice when `x'` or `y'` has a double root or both vanish
    together) gave a window `(e, e)` and hence such a section; the chain jumped from the offset curve to the source curve and back, and in
    binary64, where the polygon of the zero-length section is only nearly a point and its normal is rounding noise, the pieces landed
    anywhere within `|d|` of `C(m)` or were NaN (search class `duplicate_extremity`, e.g. (85,0),(65,90),(45,60),(25,70), d = 1.39).
    With the repair no such section is formed any more: `split_params_spec`, `windows_have_positive_length`, `offset_scaling_leaf_sections`. -/
theorem zero_length_section_pieces (hs : SqrtSpec K) (w1 w2 w3 w4 : V2 K) (c0 c1 : K) (fuel : Nat) (sec : SectionT K) (depth : Nat)
    (hf : 1 ≤ fuel) (hfd : 6 ≤ fuel + depth) (hc : sec.t_c < 1) (hL : sec.t_m = 0) :
    let cs := subdivideOffset w1 w2 w3 w4 fuel sec (c0 + c1 * sec.t_c) (c0 + c1 * (sec.t_m + sec.t_c)) depth
    cs ≠ [] ∧ ∀ c ∈ cs, c.t0 = curve_point_at_pos w1 w2 w3 w4 sec.t_c ∧ c.t3 = curve_point_at_pos w1 w2 w3 w4 sec.t_c := by
  intro cs
  have hp := subdivideOffset_pieces w1 w2 w3 w4 c0 c1 (fun s => s.t_m = 0 ∧ s.t_c = sec.t_c)
    (fun s p q _ _ _ h => by
      rw [(subsection_range s p q).2.2, (subsection_range s p q).1, h.1, h.2, mul_zero, mul_zero, zero_add]
      exact ⟨rfl, rfl⟩) fuel sec depth hf hfd ⟨hL, rfl⟩
  refine ⟨hp.ne_nil, ?_⟩
  intro c hc'
  obtain ⟨s, ⟨hs0, hsc⟩, hl⟩ := hp.all c hc'
  have hn := zero_length_unit_normal hs w1 w2 w3 w4 s (hsc.symm ▸ hc) hs0
  have hz : ∀ (p : V2 K) (a : K), p + (⟨0, 0⟩ : V2 K) * a = p := fun p a => by apply V2.ext' <;> simp
  rw [hl.ends.1, hl.ends.2, hn, hn, hz, hz, hs0, zero_add, hsc]
  exact ⟨rfl, rfl⟩

/-- AFTER THE REPAIR EVERY LEAF SECTION OF `offset_scaling` HAS POSITIVE LENGTH AND LIES IN [0,1]: the chain of `offset_scaling_pieces` with
    the additional fact `0 ≤ t_c`, `0 < t_m`, `t_m + t_c ≤ 1` for every leaf section (kept sections have `t1 < t2`; halving keeps a positive
    length; windows are at least 0.01 long by `split_params_spec`) -/
theorem offset_scaling_leaf_sections (features_for_curve : K → CurveFeatures K) (w1 w2 w3 w4 : V2 K) (d0 d1 : K) :
    Pieces (fun s c => (0 ≤ s.t_c ∧ 0 < s.t_m ∧ s.t_m + s.t_c ≤ 1) ∧ IsOffsetLeaf w1 w2 w3 w4 (fun t => d0 + (d1 - d0) * t) s c) 0 1
      (offsetScaling features_for_curve w1 w2 w3 w4 d0 d1) := by
  refine offset_scaling_pieces_inv features_for_curve w1 w2 w3 w4 d0 d1 _ ?_ ?_
  · rintro sec p q hp hpq hq ⟨a0, a1, a2⟩
    rw [(subsection_range sec p q).2.1, (subsection_range sec p q).1, (subsection_range sec p q).2.2]
    exact ⟨add_nonneg (mul_nonneg hp a1.le) a0, mul_pos (sub_pos.2 hpq) a1,
      (add_le_add_left (mul_le_of_le_one_left a1.le hq) _).trans a2⟩
  · intro s hs
    obtain ⟨h0, h1, h2⟩ := (kept_sections_tile features_for_curve).2.2.2 s hs
    exact ⟨h0, sub_pos.2 h1, (sub_add_cancel _ _).trans_le h2⟩

/-- HENCE EVERY CURVE `offset_scaling` RETURNS STARTS AND ENDS ON THE TRUE PARALLEL CURVE OF THE LIBRARY'S OWN UNIT NORMAL (up to the nudge):
    for every returned curve there is a section `[t_c, t_c + t_m] ⊆ [0,1]` of positive length with
    `start = C(t_c) + o(t_c)·n̂(t_c + t_m·ε)` and `end = C(t_c + t_m) + o(t_c + t_m)·n̂(t_c + t_m − t_m·ε)`, `n̂(s) = rot90(to_unit_vector(C'(s)))`
    a vector of length 1 wherever `C'(s) ≠ 0`.  (Before the repair a returned curve could belong to a section of length zero and start on
    the source curve itself.) -/
theorem offset_scaling_leaf_normals (hs : SqrtSpec K) (heps : (feps : K) ≠ 1) (features_for_curve : K → CurveFeatures K)
    (w1 w2 w3 w4 : V2 K) (d0 d1 : K) :
    ∀ c ∈ offsetScaling features_for_curve w1 w2 w3 w4 d0 d1, ∃ t_c t_m : K, 0 ≤ t_c ∧ 0 < t_m ∧ t_m + t_c ≤ 1 ∧
      c.t0 = curve_point_at_pos w1 w2 w3 w4 t_c +
        rot90 (to_unit_vector (hodograph w1 w2 w3 w4 (t_c + t_m * feps))) * (d0 + (d1 - d0) * t_c) ∧
      c.t3 = curve_point_at_pos w1 w2 w3 w4 (t_m + t_c) +
        rot90 (to_unit_vector (hodograph w1 w2 w3 w4 (t_c + t_m * (1 - feps)))) * (d0 + (d1 - d0) * (t_m + t_c)) := by
  intro c hc
  obtain ⟨sec, ⟨h0, h1, h2⟩, hl⟩ := (offset_scaling_leaf_sections features_for_curve w1 w2 w3 w4 d0 d1).all c hc
  have hc1 : sec.t_c < 1 := lt_of_lt_of_le (lt_add_of_pos_left _ h1) h2
  refine ⟨sec.t_c, sec.t_m, h0, h1, h2, ?_, ?_⟩
  · rw [hl.ends.1, unitNormalAt_eq hs w1 w2 w3 w4 sec hc1 h1, lit0, nudged_zero heps]
  · rw [hl.ends.2, unitNormalAt_eq hs w1 w2 w3 w4 sec hc1 h1, lit1, nudged_one]

/-! ### non-vacuity -/

noncomputable local instance : FSqrt ℝ := ⟨Real.sqrt⟩
theorem sqrtSpec_real : SqrtSpec ℝ := fun x hx => ⟨Real.sqrt_nonneg x, Real.mul_self_sqrt hx⟩

/-- `f64::EPSILON = 2⁻⁵²` (the other constants are not used by the offset code) -/
local instance : FConsts ℚ := ⟨0, 0, 0, 0, 1 / 4503599627370496⟩
noncomputable local instance : FConsts ℝ := ⟨0, 0, 0, 0, 1 / 4503599627370496⟩

theorem feps_real_ne_one : (feps : ℝ) ≠ 1 := by
  show (1 / 4503599627370496 : ℝ) ≠ 1
  norm_num

/-- (2) the sample parameters for one inflection at 1/2 and two subdivisions -/
example : offset_lms_sample_ts (fun _ => (CurveFeatures.SingleInflectionPoint (1/2) : CurveFeatures ℚ)) 2 = some [0, 1/4, 1/2, 3/4, 1] := by
  decide +kernel
example : offset_lms_sample_ts (fun _ => (CurveFeatures.Arch : CurveFeatures ℚ)) 1 = none := by decide +kernel

/-- ℚ has no square root; the two examples below do not use it (the instance only fills the section variable) -/
local instance : FSqrt ℚ := ⟨fun x => x⟩
theorem feps_rat : (feps : ℚ) = 1 / 4503599627370496 := rfl

/-- (3) the nudge is real: at `t = 0.0` the tangent is NOT `C'(0) = 3(w2 − w1)` (its y component is `6ε(1−ε) + 6ε² > 0`), and in the interior
    the normal is the rotated hodograph -/
example : tangent_at_pos (⟨0, 0⟩ : V2 ℚ) ⟨1, 0⟩ ⟨2, 1⟩ ⟨3, 3⟩ 0 ≠ ⟨3, 0⟩ := by
  intro h
  have hy := congrArg V2.y h
  rw [tangent_at_pos_eq, nudged_zero (by rw [feps_rat]; norm_num), hodograph_eq, feps_rat] at hy
  simp only [Prelude.V2.add_y, Prelude.V2.sub_y, Prelude.V2.mul_y] at hy
  norm_num at hy
example : normal_at_pos (⟨0, 0⟩ : V2 ℚ) ⟨1, 0⟩ ⟨2, 1⟩ ⟨3, 3⟩ (1/2) = ⟨-3, 3⟩ := by
  rw [normal_at_pos_eq, tangent_at_pos_eq, nudged_interior _ (by norm_num) (by norm_num), hodograph_eq]
  apply V2.ext' <;> simp only [rot90, Prelude.V2.add_x, Prelude.V2.add_y, Prelude.V2.sub_x, Prelude.V2.sub_y, Prelude.V2.mul_x, Prelude.V2.mul_y] <;> norm_num

/-- (4) a fitter that meets C08's contract (one "curve" from the first to the last sample): the hypotheses of `offset_constant_chain` are
    satisfiable, for every curve, feature function and offset over ℝ -/
example (features_for_curve : ℝ → CurveFeatures ℝ) (w1 w2 w3 w4 : V2 ℝ) (d : ℝ) :
    let cs := offset features_for_curve (fun ps _ _ _ => [((ps.head?.getD default, ps.getLast?.getD default) : V2 ℝ × V2 ℝ)]) w1 w2 w3 w4 d d
    cs ≠ [] ∧
    cs.head?.map Prod.fst = some (w1 + rot90 (to_unit_vector (hodograph w1 w2 w3 w4 feps)) * d) ∧
    cs.getLast?.map Prod.snd = some (w4 + rot90 (to_unit_vector (hodograph w1 w2 w3 w4 (1 - feps))) * d) ∧
    cs.IsChain (fun c c' => c.2 = c'.1) :=
  offset_constant_chain Prod.fst Prod.snd features_for_curve _ w1 w2 w3 w4 d feps_real_ne_one (fun ps _ _ h2 => by
    obtain ⟨a, b, ha, hb⟩ := C08.exists_head?_getLast? ps (by intro e; rw [e] at h2; simp at h2)
    exact ⟨by simp, by simp [ha], by simp [hb], List.isChain_singleton _⟩)

/-- (5) `offset_by_scaling_homothety`: focus at the origin, quarter arc from (1,0) to (0,1), offset 1/2 towards the focus: `σ = 1/2` -/
example : let r := offset_by_scaling (⟨1, 0⟩ : V2 ℝ) ⟨1, 1/2⟩ ⟨1/2, 1⟩ ⟨0, 1⟩ (1/2) (1/2) ⟨0, 0⟩ ⟨-1, 0⟩ ⟨0, -1⟩
    r.t1 - r.t0 = ((⟨1, 1/2⟩ : V2 ℝ) - ⟨1, 0⟩) * (1/2 : ℝ) := by
  have := offset_by_scaling_homothety sqrtSpec_real (⟨1, 0⟩ : V2 ℝ) ⟨1, 1/2⟩ ⟨1/2, 1⟩ ⟨0, 1⟩ ⟨0, 0⟩ ⟨-1, 0⟩ ⟨0, -1⟩ (1/2) (1/2) 1 1 (1/2)
    (by norm_num) (by norm_num) (by apply V2.ext' <;> simp) (by apply V2.ext' <;> simp) one_ne_zero one_ne_zero (by norm_num) (by norm_num) (by norm_num)
  exact this.2.2.2.2.1

/-- (5) a zero-length section in the middle of a curve: the hypotheses of `zero_length_section_pieces` are satisfiable -/
example (w1 w2 w3 w4 : V2 ℝ) (d : ℝ) :
    ∀ c ∈ subdivideOffset w1 w2 w3 w4 6 (⟨1/2, 0⟩ : SectionT ℝ) (d + 0 * (1/2)) (d + 0 * (0 + 1/2)) 0,
      c.t0 = curve_point_at_pos w1 w2 w3 w4 (1/2 : ℝ) ∧ c.t3 = curve_point_at_pos w1 w2 w3 w4 (1/2 : ℝ) :=
  (zero_length_section_pieces sqrtSpec_real w1 w2 w3 w4 d 0 6 ⟨1/2, 0⟩ 0 (by norm_num) (by norm_num) (by norm_num) rfl).2

end C10
