/-
C20 (line_clip_to_bounds)  Totality of `Line::clip_to_bounds`.

Same setting as `Props/C20.lean`: the generated definitions at `XQ` (exact arithmetic with the IEEE rules for x/0, 0/0, signed zeros,
NaN comparisons; no rounding).  `line_clip_to_bounds` divides `edge/delta` for each of the four box edges; the `delta == 0.0` test it makes
first is a test of the divisor itself, so for finite input every quotient is finite and whatever segment is returned is finite.
-/
import FloVerif.Props.C20

namespace C20
open Prelude Gen XQ

/-- an invariant of the state of a `for` with state that can `return` holds for the state the loop ends with -/
theorem foldlRet_inv {α β ρ : Type} (Inv : β → Prop) (P : α → Prop) (f : β → α → Sum β ρ)
    (hstep : ∀ s x, P x → Inv s → ∀ s', f s x = Sum.inl s' → Inv s') :
    ∀ (l : List α) (s : β), (∀ x ∈ l, P x) → Inv s → ∀ s', foldlRet l s f = Sum.inl s' → Inv s'
  | [], s, _, h, s', hs => by simp only [foldlRet, Sum.inl.injEq] at hs; rw [← hs]; exact h
  | x :: xs, s, hl, h, s', hs => by
    rw [foldlRet] at hs
    cases hf : f s x with
    | inl s1 =>
      rw [hf] at hs
      exact foldlRet_inv Inv P f hstep xs s1 (fun y hy => hl y (List.mem_cons_of_mem _ hy))
        (hstep s x (hl x List.mem_cons_self) h s1 hf) s' hs
    | inr r => rw [hf] at hs; cases hs

/-- whatever such a loop returns from inside is a value one of its steps returned -/
theorem foldlRet_inr {α β ρ : Type} (Q : ρ → Prop) (f : β → α → Sum β ρ) (hq : ∀ s x r, f s x = Sum.inr r → Q r) :
    ∀ (l : List α) (s : β) (r : ρ), foldlRet l s f = Sum.inr r → Q r
  | [], s, r, hs => by simp [foldlRet] at hs
  | x :: xs, s, r, hs => by
    rw [foldlRet] at hs
    cases hf : f s x with
    | inl s1 => rw [hf] at hs; exact foldlRet_inr Q f hq xs s1 r hs
    | inr r1 => rw [hf] at hs; cases hs; exact hq s x r hf

/-- `line_clip_to_bounds` IS TOTAL ON FINITE INPUT: for a finite line and a finite box (degenerate ones included: a point line, a
    line parallel to an edge, a box of zero width), a returned segment has finite end points - the only divisions, `edge / delta`,
    are reached after `delta == 0.0` has answered false -/
theorem line_clip_to_bounds_fin (line bounds seg : T2 Pt Pt) (hl : LineFin line) (hb : LineFin bounds)
    (h : line_clip_to_bounds line bounds = some seg) : LineFin seg := by
  obtain ⟨⟨hx1, hy1⟩, ⟨hx2, hy2⟩⟩ := hl
  obtain ⟨⟨bx1, by1⟩, ⟨bx2, by2⟩⟩ := hb
  unfold line_clip_to_bounds at h
  dsimp only at h
  have hxmin := fin_fmin bx1 bx2
  have hymin := fin_fmin by1 by2
  have hxmax := fin_fmax bx1 bx2
  have hymax := fin_fmax by1 by2
  split at h
  · -- a `return` from inside the loop: only ever `None`
    rename_i r hr
    have := foldlRet_inr (fun r : Option (T2 Pt Pt) => r = none) _ (fun s x r hf => by
      split_ifs at hf
      cases hf
      rfl) _ _ _ hr
    rw [this] at h; cases h
  · rename_i fin_ hfin
    -- every (delta, edge) pair of the loop is finite, so every `edge / delta` behind `delta == 0.0` is
    have hinv := foldlRet_inv (fun s : T2 XQ XQ => Fin s.t0 ∧ Fin s.t1) (fun x : T2 XQ XQ => Fin x.t0 ∧ Fin x.t1) _
      (fun s x hx hs s' hf => by
        split_ifs at hf with hz he h1 h2
        · cases hf; exact hs
        · cases hf; exact ⟨fin_div hx.2 hx.1 (ne_of_not_beq_zero hx.1 hz), hs.2⟩
        · cases hf; exact ⟨hs.1, fin_div hx.2 hx.1 (ne_of_not_beq_zero hx.1 hz)⟩
        · cases hf; exact hs) _ _
      (by simp only [List.zipWith_cons_cons, List.zipWith_nil_right, List.forall_mem_cons, List.not_mem_nil, false_imp_iff,
            implies_true, and_true]
          xq_fin)
      ⟨fin_zero_lit, fin_one_lit⟩ _ hfin
    split_ifs at h
    obtain rfl := Option.some.inj h
    obtain ⟨h1, h2⟩ := hinv
    constructor <;> xq_fin

/-- non-vacuity: the diagonal of the unit square clipped to the box (1/4, 1/4) .. (3/4, 3/4) is a segment -/
example : (line_clip_to_bounds (K := XQ) ⟨⟨fin 0, fin 0⟩, ⟨fin 1, fin 1⟩⟩ ⟨⟨fin (1/4), fin (1/4)⟩, ⟨fin (3/4), fin (3/4)⟩⟩).isSome = true := by
  decide +kernel

end C20
