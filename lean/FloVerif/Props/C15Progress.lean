/-
C15 (progress)  Every section of an even walk has positive parameter length.

`Gen.even_walk_next` is the whole `EvenWalkIterator::next` (inner loop included), `Gen.walk_curve_evenly` its constructor and
`Gen.vary_step` the update of `vary_by`, all regenerated from walk.rs on every check.  The tiling theorems (`C15.even_tiling`,
`C15Vary.varied_tiling`) hold whatever the step controller computes; here the controller itself is opened: whatever the curve, the
speed and the distances are, every update of the loop keeps the parameter increment POSITIVE (a correction that would make it
non-positive is replaced by a division by three), so

* `even_next_progress`: from a state with a positive increment, a returned section `(a, b)` has `a < b` and the increment the
  iterator keeps for the following step is positive again;
* `walk_start_increment_pos`: the constructor starts with a positive increment; `vary_step_increment_pos`: `vary_by` keeps it positive.

Hence the sections of any even walk are strictly increasing in the parameter (`evenFrom_progress`; for a varied walk the step is
proved, the run is not stated): the walk never stalls on a section of zero or negative length (termination still needs a lower bound on the increments, which is not a theorem).
-/
import FloVerif.Props.C15Vary

set_option linter.unusedSectionVars false
namespace C15Progress
open Prelude Gen

variable {K : Type} [Field K] [LinearOrder K] [IsStrictOrderedRing K] [Inhabited K] [FSqrt K]

attribute [local instance] C15.instFAbs C15.instOfInt

/-- ONE UPDATE OF THE STEP CONTROLLER KEEPS THE INCREMENT POSITIVE, whatever the distances and the speed are: in the zero-speed
    branch it is multiplied by 1/2, 3/2 or a ratio between them; otherwise the Newton correction is subtracted only when it is smaller
    than the increment, and the increment is divided by three when it is not -/
theorem inc_update_pos (t_increment distance next_distance speed : K) (h : 0 < t_increment) :
    0 < (if fabs speed < (0.00000001 : K) then
          (if distance / next_distance < (0.5 : K) then t_increment * (0.5 : K)
           else (if (1.5 : K) < distance / next_distance then t_increment * (1.5 : K)
           else t_increment * (distance / next_distance)))
        else
          (if t_increment ≤ (next_distance - distance) / speed then t_increment * (0.3333333 : K)
           else t_increment - (next_distance - distance) / speed)) := by
  split_ifs with h1 h2 h3 h4
  · exact mul_pos h (by norm_num)
  · exact mul_pos h (by norm_num)
  · exact mul_pos h (lt_of_lt_of_le (by norm_num) (not_lt.1 h2))
  · exact mul_pos h (by norm_num)
  · exact sub_pos.2 (not_le.1 h4)

theorem evenLoop_inc_pos (w1 w2 w3 w4 : V2 K) (d : T3 (V2 K) (V2 K) (V2 K)) (dist err lastT : K) (lastP : V2 K) (fuel : Nat) (lastInc : K)
    (hinc : 0 < lastInc) :
    0 < (Walk.evenLoop w1 w2 w3 w4 d dist err lastT lastP fuel lastInc).t1 ∧
    (Walk.evenLoop w1 w2 w3 w4 d dist err lastT lastP fuel lastInc).t2 =
      lastT + (Walk.evenLoop w1 w2 w3 w4 d dist err lastT lastP fuel lastInc).t1 :=
  -- `Walk.incUpdate` unfolds to the expression of `inc_update_pos`
  Walk.evenLoop_inv w1 w2 w3 w4 d dist err lastT lastP (fun st => 0 < st.t1 ∧ st.t2 = lastT + st.t1) fuel lastInc ⟨hinc, rfl⟩
    (fun _ h => h) (fun _ h _ => ⟨inc_update_pos _ _ _ _ h.1, rfl⟩)

/-- EVERY STEP OF AN EVEN WALK MAKES PROGRESS: for any curve, distance and tolerance, from a state whose increment is positive, a
    returned section `(a, b)` satisfies `a < b`, and the increment kept for the next step is positive -/
theorem even_next_progress (w1 w2 w3 w4 : V2 K) (d : T3 (V2 K) (V2 K) (V2 K)) (dist err lastT : K) (lastP : V2 K) (lastInc : K)
    (hinc : 0 < lastInc) :
    let r := even_walk_next w1 w2 w3 w4 d dist err lastT lastP lastInc
    (∀ sec, r.t0 = some sec → sec.t0 < sec.t1) ∧ 0 < r.t1.t2 := by
  obtain ⟨hp, ht⟩ := evenLoop_inc_pos w1 w2 w3 w4 d dist err lastT lastP 64 lastInc hinc
  simp only [Walk.even_walk_next_eq, Walk.even_walk_next_fuel_eq, lit1]
  split_ifs with hd hl <;> dsimp only
  · exact ⟨nofun, hinc⟩
  · refine ⟨?_, hinc⟩
    rintro _ ⟨⟩
    exact not_le.1 hd
  · refine ⟨?_, hp⟩
    rintro _ ⟨⟩
    rw [ht]
    exact lt_add_of_pos_right _ hp

/-- EVERY SECTION OF AN EVEN WALK HAS POSITIVE PARAMETER LENGTH: from any state with a positive increment, for any number of steps,
    every section `(a, b)` the generated iterator yields satisfies `a < b` (with `C15.even_tiling`: the sections are strictly
    increasing and tile the range) -/
theorem evenFrom_progress (w1 w2 w3 w4 : V2 K) (d : T3 (V2 K) (V2 K) (V2 K)) (dist err : K) :
    ∀ (fuel : Nat) (lastT : K) (lastP : V2 K) (lastInc : K), 0 < lastInc →
      ∀ s ∈ (C15.evenFrom w1 w2 w3 w4 d dist err fuel lastT lastP lastInc).1, s.t0 < s.t1
  | 0, _, _, _, _ => nofun
  | f + 1, lastT, lastP, lastInc, hinc => by
    obtain ⟨hsec, hnext⟩ := even_next_progress w1 w2 w3 w4 d dist err lastT lastP lastInc hinc
    simp only [C15.evenFrom]
    cases hr : (even_walk_next w1 w2 w3 w4 d dist err lastT lastP lastInc).t0 with
    | none => nofun
    | some sec => exact List.forall_mem_cons.2 ⟨hsec _ hr, evenFrom_progress w1 w2 w3 w4 d dist err f _ _ _ hnext⟩

/-- THE WALK STARTS WITH A POSITIVE INCREMENT, for every curve, distance and tolerance - given that the square root is non-negative
    (`f64::sqrt` is): the increment is `0.01`, or `distance / speed` with `distance ≥ 1e-10` and `speed ≥ 1e-8` -/
theorem walk_start_increment_pos (hsqrt : ∀ x : K, 0 ≤ (fsqrt x : K)) (w1 w2 w3 w4 : V2 K) (distance max_error : K) :
    0 < (walk_curve_evenly w1 w2 w3 w4 distance max_error).last_increment := by
  unfold walk_curve_evenly
  extract_lets II me dist tup1 cp1 cp2 tup2 wn1 wn2 wn3 sp0 sp inc0 inc
  show 0 < inc
  -- the clamped distance is positive, the speed is a square root
  have hdpos : 0 < dist := C15.clamp_pos distance
  have hsp : 0 ≤ sp := by
    simp only [sp]
    split <;> exact hsqrt _
  clear_value sp dist
  simp only [inc, inc0, decide_eq_true_eq]
  split_ifs with h1
  · norm_num
  · norm_num
  · norm_num
  · exact div_pos hdpos (lt_of_lt_of_le (by norm_num) ((not_lt.1 h1).trans_eq (abs_of_nonneg hsp)))

/-- `vary_by` keeps the increment positive (the new distance is positive, the old one is by `walk_curve_evenly` / the previous
    `vary_step`) -/
theorem vary_step_increment_pos (x dist inc : K) (hd : 0 < dist) (hi : 0 < inc) : 0 < (vary_step x dist inc).t1.t1 := by
  rw [(C15Vary.vary_step_spec x dist inc).2]
  exact mul_pos hi (div_pos (lt_of_lt_of_le (by norm_num) (le_max_right _ _)) hd)

/-- non-vacuity: a correction larger than the increment divides it by three: from 1/4 to 0.3333333/4 -/
example : (if fabs (2 : ℚ) < (0.00000001 : ℚ) then (0 : ℚ)
    else (if (1 / 4 : ℚ) ≤ ((5 : ℚ) - 1) / 2 then (1 / 4 : ℚ) * (0.3333333 : ℚ) else 1 / 4 - (5 - 1) / 2)) = 0.3333333 / 4 := by
  norm_num [fabs]

end C15Progress
