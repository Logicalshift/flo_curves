/-
C18  The sweep-line broad phase reports every pair of overlapping bounding boxes exactly once.

Property theorems and the loop invariant of `sweep_self`.
`Gen.bounds_overlaps` is regenerated from `BoundingBox::overlaps` on every check;
`Model.Sweep` is the hand model of `sweep_self` / `sweep_against` (checked against the implementation by the
driver).  `K` is any linear order (ℚ contains every finite f64).
-/
import FloVerif.Lemmas.Sweep
import Mathlib.Data.Nat.Basic

namespace C18
open Prelude Gen Model Model.Sweep

variable {K : Type} [LinearOrder K]

/-- mathematical specification: the closed x-intervals and the closed y-intervals of the two boxes intersect -/
def OverlapsSpec (a b : Bounds2 K) : Prop :=
  (∃ x, a.min_.x ≤ x ∧ x ≤ a.max_.x ∧ b.min_.x ≤ x ∧ x ≤ b.max_.x) ∧
  (∃ y, a.min_.y ≤ y ∧ y ≤ a.max_.y ∧ b.min_.y ≤ y ∧ y ≤ b.max_.y)

def WellFormed (a : Bounds2 K) : Prop := a.min_.x ≤ a.max_.x ∧ a.min_.y ≤ a.max_.y

private theorem interval_meet {a0 a1 b0 b1 : K} (ha : a0 ≤ a1) (hb : b0 ≤ b1) :
    (∃ x, a0 ≤ x ∧ x ≤ a1 ∧ b0 ≤ x ∧ x ≤ b1) ↔ (a0 ≤ b1 ∧ b0 ≤ a1) := by
  constructor
  · rintro ⟨x, h1, h2, h3, h4⟩
    exact ⟨le_trans h1 h4, le_trans h3 h2⟩
  · rintro ⟨h1, h2⟩
    rcases le_total a0 b0 with h | h
    · exact ⟨b0, h, h2, le_refl _, hb⟩
    · exact ⟨a0, le_refl _, ha, h, h1⟩

theorem overlaps_spec (a b : Bounds2 K) (ha : WellFormed a) (hb : WellFormed b) :
    bounds_overlaps a b = true ↔ OverlapsSpec a b := by
  rw [Lemmas.Sweep.overlaps_iff, OverlapsSpec, interval_meet ha.1 hb.1, interval_meet ha.2 hb.2]

example : bounds_overlaps (K := Nat) ⟨⟨0, 0⟩, ⟨2, 2⟩⟩ ⟨⟨2, 1⟩, ⟨3, 3⟩⟩ = true ∧
    OverlapsSpec (K := Nat) ⟨⟨0, 0⟩, ⟨2, 2⟩⟩ ⟨⟨2, 1⟩, ⟨3, 3⟩⟩ ∧
    ¬ OverlapsSpec (K := Nat) ⟨⟨0, 0⟩, ⟨2, 2⟩⟩ ⟨⟨3, 1⟩, ⟨4, 3⟩⟩ := by
  refine ⟨by decide, (overlaps_spec _ _ (by unfold WellFormed; decide) (by unfold WellFormed; decide)).1 (by decide), ?_⟩
  rw [← overlaps_spec _ _ (by unfold WellFormed; decide) (by unfold WellFormed; decide)]
  decide

/-- every pair (i < j in list order) of overlapping items, exactly once -/
def allPairs : List (Item K) → List (Item K × Item K)
  | [] => []
  | x :: rest => (rest.filter (fun y => bounds_overlaps x.b y.b)).map (fun y => (x, y)) ++ allPairs rest

/-- every (source, target) pair of overlapping items, exactly once -/
def crossPairs (src tgt : List (Item K)) : List (Item K × Item K) :=
  tgt.flatMap (fun t => (src.filter (fun s => bounds_overlaps s.b t.b)).map (fun s => (s, t)))

section
open Lemmas.Sweep

theorem sweepSelfGo_perm (active rest : List (Item K))
    (hs : rest.Pairwise (fun a b => minx a ≤ minx b)) :
    (sweepSelfGo active rest).Perm (cross active rest ++ allPairs rest) := by
  induction rest generalizing active with
  | nil => exact List.Perm.refl _
  | cons x rest ih =>
    obtain ⟨hx, hs'⟩ := List.pairwise_cons.1 hs
    obtain ⟨dr, hp, hd⟩ := popLoop_split (minx x) active
    simp only [sweepSelfGo, allPairs]
    rw [cross_cons]
    have hA : ((hits (popLoop (minx x) active) x).reverse).Perm (pairsWith active x) :=
      (hits_reverse_perm _ x).trans (pairsWith_perm_drop hp fun d hdm => hd d hdm x le_rfl).symm
    have hB : (sweepSelfGo (insertByMax x (popLoop (minx x) active)) rest).Perm
        ((cross active rest ++ (rest.filter (fun y => bounds_overlaps x.b y.b)).map (fun y => (x, y)))
          ++ allPairs rest) := by
      refine (ih _ hs').trans (List.Perm.append_right _ ?_)
      refine (cross_perm rest (insertByMax_perm x _)).trans ?_
      refine (cross_cons_src x _ rest).trans (List.Perm.append_right _ ?_)
      exact (cross_perm_drop rest hp fun d hdm y hy => hd d hdm y (hx y hy)).symm
    refine (List.Perm.append hA hB).trans ?_
    simp only [List.append_assoc]
    exact List.Perm.refl _

end

/-- sweep_self over items sorted by minimum x returns, for all positions i < j with overlapping boxes, the pair once -/
theorem sweepSelf_perm (xs : List (Item K)) (hs : xs.Pairwise (fun a b => minx a ≤ minx b)) :
    (sweepSelf xs).Perm (allPairs xs) := by
  have h := sweepSelfGo_perm [] xs hs
  rwa [Lemmas.Sweep.cross_nil_src, List.nil_append] at h

/-- three boxes sorted by minimum x: 0 and 1 overlap, 1 and 2 overlap, 0 and 2 do not -/
private def exSelf : List (Item Nat) :=
  [⟨0, ⟨⟨0, 0⟩, ⟨2, 2⟩⟩⟩, ⟨1, ⟨⟨1, 1⟩, ⟨4, 4⟩⟩⟩, ⟨2, ⟨⟨3, 0⟩, ⟨5, 5⟩⟩⟩]

example : (sweepSelf exSelf).Perm (allPairs exSelf) ∧
    (sweepSelf exSelf).map (fun p => (p.1.id, p.2.id)) = [(0, 1), (1, 2)] :=
  ⟨sweepSelf_perm exSelf (by decide), by decide⟩

/-- sweep_against returns every overlapping (source, target) pair exactly once; both inputs sorted by minimum x -/
theorem sweepAgainst_perm (src tgt : List (Item K))
    (hs : src.Pairwise (fun a b => minx a ≤ minx b)) (ht : tgt.Pairwise (fun a b => minx a ≤ minx b)) :
    (sweepAgainst src tgt).Perm (crossPairs src tgt) :=
  -- `crossPairs` is `Lemmas.Sweep.cross`
  Lemmas.Sweep.sweepAgainstGo_perm none [] src tgt hs ht fun _ hl => nomatch hl

/-- two targets sorted by minimum x against `exSelf`: target 10 meets sources 0 and 1, target 11 meets 1 and 2 -/
private def exTgt : List (Item Nat) :=
  [⟨10, ⟨⟨2, 2⟩, ⟨2, 3⟩⟩⟩, ⟨11, ⟨⟨4, 0⟩, ⟨9, 9⟩⟩⟩]

example : (sweepAgainst exSelf exTgt).Perm (crossPairs exSelf exTgt) ∧
    (sweepAgainst exSelf exTgt).map (fun p => (p.1.id, p.2.id)) = [(0, 10), (1, 10), (1, 11), (2, 11)] :=
  ⟨sweepAgainst_perm exSelf exTgt (by decide) (by decide), by decide⟩

end C18
