/-
C17 (scan part)  The scan-line edge iterator yields exactly the mixed 2×2 cells.

`edgeCells` is the hand model of `InterceptScanEdgeIterator` (`Model/Contour.lean`) run on the rounded intercepts of a
bitmap, with the concrete fuel `4*(w+4)*(rows.length+4)` per `next` call and the concrete cell budget `(w+2)*(rows.length+2)`;
`mixedCells` lists, in scanline order, every 2×2 cell that has both inside and outside samples, with its
corner bits packed by the generated `Gen.cell_from_corners`.
-/
import FloVerif.Lemmas.Scan

namespace C17Scan
open Prelude Gen Model.Contour ScanLemmas

/-- on ANY lines of well-formed run lists (what the rounding stage produces, `C17Round.roundFrac_good`) the iterator model,
    with its concrete fuel and cell budget, yields exactly the cells of the scanline specification `restCells` -/
theorem scan_runs_spec (w : Nat) (lines : List (List Run)) (gl : ∀ l ∈ lines, Good w 0 l) :
    edgeCellsOfRuns w lines = restCells w 0 [] lines := by
  obtain ⟨inv, hS, _, _⟩ := loadLine_spec w lines.length lines [] 0 0 trivial gl (Nat.le_refl _)
  have hfuel : (lines.length + 2) * (3 * w + 3) ≤ 4 * (w + 4) * (lines.length + 4) := by
    rw [Nat.mul_comm (4 * (w + 4))]
    exact Nat.mul_le_mul (by omega) (by omega)
  have hcount : (owed w (fromIterator lines)).length ≤ (w + 2) * (lines.length + 2) := by
    show (owed w (loadLine 0 lines [] 0)).length ≤ _
    rw [hS]
    have := restCells_length_le w lines 0 []
    refine Nat.le_trans this ?_
    rw [Nat.mul_comm (w + 2)]
    exact Nat.mul_le_mul (by omega) (by omega)
  unfold edgeCellsOfRuns
  simp only []
  rw [cellsGo_spec hfuel _ (fromIterator lines) inv hcount]
  show owed w (loadLine 0 lines [] 0) = _
  rw [hS]

/-- and so the mixed 2×2 cells of every bitmap whose rows the run lists encode (samples beyond the end of a row count
    as outside) -/
theorem scan_encoded_spec (w : Nat) (lines : List (List Run)) (rows : List (List Bool)) (gl : ∀ l ∈ lines, Good w 0 l)
    (henc : List.Forall₂ Encodes lines rows) : edgeCellsOfRuns w lines = mixedCells w rows := by
  rw [scan_runs_spec w lines gl, mixedCells_eq, List.range_eq_range',
    restCells_eq w rows lines rows 0 [] henc List.drop_zero (fun _ => rfl)]

/-- the scan iterator yields exactly the mixed 2×2 cells, with the correct corner bits, in scanline order — for EVERY bitmap -/
theorem scan_spec (w : Nat) (rows : List (List Bool)) (hrows : ∀ r ∈ rows, r.length = w) :
    edgeCells w rows = mixedCells w rows := by
  refine scan_encoded_spec w _ rows (fun l hl => ?_)
    (List.forall₂_map_left_iff.2 (List.forall₂_same.2 fun r _ => encodes_roundedRuns r))
  obtain ⟨r, hr, rfl⟩ := List.mem_map.1 hl
  exact roundedRuns_good r (Nat.le_of_eq (hrows r hr))

example : edgeCellsOfRuns 3 [[(0, 1), (2, 3)]] = restCells 3 0 [] [[(0, 1), (2, 3)]] ∧
    (edgeCellsOfRuns 3 [[(0, 1), (2, 3)]]).length = 8 := by decide

end C17Scan
