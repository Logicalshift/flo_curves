/-
C03  Colliding path graphs yields a balanced, label-preserving graph whose private bookkeeping stays consistent.

The helper development is in `FloVerif/Lemmas/Graph*.lean`.  Everything is stated about the
hand model `Model.Graph` of `GraphPath` (src/bezier/path/graph_path/mod.rs, path_collision.rs): indices only, every
geometric decision of the Rust code (which sections `from_path` skips, which collisions `find_collisions` returns,
which nearby points `combine_overlapping_points` merges, which self-loops `remove_all_very_short_edges` judges very
short) is an argument of the model, and the theorems hold for EVERY value of these arguments (any number of points and
edges, any number of collisions per edge, coinciding split points, splits at t = 0, chains of merged points, merged
points connected by an edge, repeated pairs, self-loops).  The model is tied to the code by replaying traces of the real
`from_path`, `merge` and `detect_collisions` stage by stage (lean/FloVerif/Driver/C03.lean), and the checkers proved
sound and complete here (`wfCheck_iff`) are evaluated on the real graphs.

The invariant `Wf g`:
  `FolWf`  every edge ends at an existing point; every edge (p, f) is named as `following_edge_idx` by exactly one edge,
           which ends at p; no edge names a following edge that does not exist.  (This is the library's own
           `check_following_edge_consistency`, which is compiled in test builds only, in counting form.)
  `ConnOk` `connected_from` of p lists existing points, none twice, and EVERY point with an edge to p.
`ConnExact` (every listed point really has an edge to p) is established by `from_path`, `recalculate_reverse_connections`
and kept by `merge` and `combine_overlapping_points`, but NOT by `remove_edge` (`removeEdge_leaves_stale_entry`): the code
maintains `connected_from` as a duplicate-free SUPERSET of the sources.

Not theorems (numerical, searched by `fvharness search C03`): that every crossing is found, that the union of the edges
stays within 0.05 of the input, planarity.
-/
import FloVerif.Lemmas.GraphConsistent
import Mathlib.Order.Basic

namespace C03
open Model.Graph

/-- `recalculate_reverse_connections` turns any graph with a well-formed following-edge structure into a well-formed graph
with exact `connected_from` lists (whatever they held before). -/
theorem recalc_wf {g : Graph} (h : FolWf g) : Wf (recalc g) ∧ ConnExact (recalc g) :=
  ⟨⟨recalc_folWf h, (recalc_connOk h.endValid).1⟩, (recalc_connOk h.endValid).2⟩

/-- `GraphPath::from_path` yields a well-formed graph whose `connected_from` lists are exact: for every number of path
sections, whichever sections the "too close to the previous point" filter skips, whether the path closes onto its
start (the last point is dropped and its edge redirected) or not (a closing edge is added); an empty or single-point
path gives the empty graph, a single closed section gives one point with a self-loop. -/
theorem fromPath_wf (label : Nat) (skips : List Bool) (closed : Bool) :
    Wf (fromPath label skips closed) ∧ ConnExact (fromPath label skips closed) :=
  recalc_wf ((ChainInv.fold (label := label) skips (ChainInv.init label)).close closed)

example : fromPath 7 [false, true, false, false] true =
    [⟨[⟨1, 0, 7, 0⟩], [2]⟩, ⟨[⟨2, 0, 7, 0⟩], [0]⟩, ⟨[⟨0, 0, 7, 0⟩], [1]⟩] := by decide +kernel
example : fromPath 7 [false] true = [⟨[⟨0, 0, 7, 0⟩], [0]⟩] := by decide +kernel
example : fromPath 7 [] false = [] := by decide +kernel

/-- `GraphPath::merge` keeps the invariant (and exactness): the indices of the second graph are offset consistently in
edges and `connected_from`. -/
theorem merge_wf {g h : Graph} (hg : Wf g) (hh : Wf h) :
    Wf (merge g h) ∧ (ConnExact g → ConnExact h → ConnExact (merge g h)) :=
  ⟨⟨merge_folWf hg.fol hh.fol, merge_connOk hg.conn hh.conn hg.fol.endValid⟩,
   fun eg eh => merge_connExact eg eh hg.conn.valid⟩

example : Wf (merge (fromPath 0 [false, false, false] true) (fromPath 1 [false, false] false)) :=
  (merge_wf (fromPath_wf 0 _ true).1 (fromPath_wf 1 _ false).1).1

/-- Dividing ONE edge (path_collision.rs:328-415: the first collision edits the edge in place, later ones append edges,
`following_edge_idx` is chained through `previous_edge`, the final edge inherits the old following index) keeps the
following-edge structure well formed, for EVERY list of end points that exist - in any order, with repetitions
(two collisions at one point give a self-loop), including the start or end point of the edge itself.  The only
hypothesis: the end points are points of the graph. -/
theorem splitEdge_wf {g : Graph} (h : FolWf g) (p e : Nat) (qs : List Nat) (hqs : ∀ q ∈ qs, q < g.length) :
    FolWf (splitEdgeS g p e qs) ∧ (splitEdgeS g p e qs).length = g.length :=
  ⟨(splitEdgeS_spec h p e qs hqs).1, (splitEdgeS_spec h p e qs hqs).2.1⟩

example : splitEdgeS (fromPath 7 [false, false] true ++ [Point.empty]) 0 0 [2, 2] =
    [⟨[⟨2, 0, 7, 0⟩], [1]⟩, ⟨[⟨0, 0, 7, 0⟩], [0]⟩, ⟨[⟨2, 1, 7, 0⟩, ⟨1, 0, 7, 0⟩], []⟩] := by decide +kernel

/-- Dividing an edge at `k` points adds exactly `k` edges, all carrying the label of the divided edge, and changes the
label of no other edge (`labelCount g l` = number of edges labelled `l`). -/
theorem splitEdge_labels {g : Graph} (h : FolWf g) (p e : Nat) (qs : List Nat) (hqs : ∀ q ∈ qs, q < g.length) (l : Nat) :
    labelCount (splitEdgeS g p e qs) l = labelCount g l +
      (match edgeAt g p e with | some ed => if ed.label = l then qs.length else 0 | none => 0) :=
  labelCount_splitEdgeS h p e qs hqs l

section Stage
variable {K : Type} [LT K] [LE K] [DecidableLT K] [DecidableLE K] [OfNat K 0] [OfNat K 1]

/-- The whole dividing part of `detect_collisions` (`create_collision_points`, `organize_collisions_by_edge`, sort by `t`,
skip `t = 0`, divide every hit edge in point/edge order) keeps the following-edge structure well formed and introduces no
label, for EVERY list of collisions whose edge references name existing points (`K`: any type of `t` values with
decidable order - nothing about the order is used). -/
theorem splitStage_wf {g : Graph} (h : FolWf g) (cs : List (Collision K))
    (hcs : ∀ c ∈ cs, c.p1 < g.length ∧ c.p2 < g.length) :
    FolWf (splitStage g cs) ∧ g.length ≤ (splitStage g cs).length ∧
      ∀ l, labelCount g l = 0 → labelCount (splitStage g cs) l = 0 :=
  ⟨(splitStage_folWf h cs hcs).1, (splitStage_folWf h cs hcs).2, fun _ hl => splitStage_cntP_zero h cs hcs (fun _ _ _ => rfl) hl⟩

end Stage

/-- `combine_overlapping_points` keeps the invariant, exactness and every label count, for EVERY list of merged pairs:
chains (a~b, b~c), repeated pairs, pairs connected by an edge (which become self-loops), pairs out of range (ignored).
The `following_edge_idx` offsets recorded while edges are moved address exactly the moved edges. -/
theorem combine_wf {g : Graph} (h : Wf g) (any : Bool) (accepted : List (Nat × Nat)) :
    Wf (combine g any accepted) ∧ (combine g any accepted).length = g.length ∧
      (ConnExact g → ConnExact (combine g any accepted)) ∧
      ∀ l, labelCount (combine g any accepted) l = labelCount g l :=
  ⟨(Model.Graph.combine_wf h any accepted).1, (Model.Graph.combine_wf h any accepted).2.1,
   (Model.Graph.combine_wf h any accepted).2.2, fun _ => cntP_combine h.fol any accepted fun _ _ _ => rfl⟩

example : combine (fromPath 7 [false, false, false] true) true [(2, 1), (1, 0)] =
    [⟨[⟨0, 1, 7, 0⟩, ⟨0, 2, 7, 0⟩, ⟨0, 0, 7, 0⟩], [0]⟩, ⟨[], []⟩, ⟨[], []⟩] := by decide +kernel

/-- `remove_edge` applied to a SELF-LOOP of a well-formed graph always finds the preceding edge (so the `while` loop of
`remove_all_very_short_edges` advances), keeps the invariant, removes exactly that edge and relabels nothing.
Forced hypotheses: the edge is a self-loop (see `removeEdge_general_edge_breaks_connected_from`) and `connected_from` is
complete (see `removeEdge_needs_complete_connected_from`). -/
theorem removeEdge_wf {g : Graph} (h : Wf g) {s e : Nat} {ed : Edge} (he : edgeAt g s e = some ed) (hloop : ed.endIdx = s) :
    ∃ g', removeEdge g s e = some g' ∧ Wf g' ∧ g'.length = g.length ∧
      (∀ a, (edgesAt g' a).length + (if a = s then 1 else 0) = (edgesAt g a).length) ∧
      ∀ l, labelCount g' l + (if ed.label = l then 1 else 0) = labelCount g l := by
  obtain ⟨g', h1, h2, h3, h4, h5⟩ := Model.Graph.removeEdge_wf h he hloop
  refine ⟨g', h1, h2, h3, h4, ?_⟩
  intro l
  have := h5 (fun x => x.label == l) (fun _ _ _ => rfl)
  simpa [labelCount] using this

/-- `remove_all_very_short_edges` terminates normally and keeps the invariant whichever self-loops are judged very short. -/
theorem removeAllVeryShort_wf {g : Graph} (h : Wf g) (dec : List (Nat × Nat)) :
    ∃ g' dec', removeAllVeryShort g dec = some (g', dec') ∧ Wf g' ∧ g'.length = g.length := by
  unfold removeAllVeryShort
  obtain ⟨r, hr, hp⟩ := foldlM_option_inv (fun st : Graph × List (Nat × Nat) => Wf st.1 ∧ st.1.length = g.length)
    (fun (st : Graph × List (Nat × Nat)) p => removeShortAt p (edgesAt st.1 p).length st.1 0 st.2)
    (List.range g.length) (g, dec)
    (by
      intro st p _ ⟨hw, hl⟩
      obtain ⟨g', dec', h1, h2, h3⟩ := removeShortAt_wf p (edgesAt st.1 p).length st.1 0 st.2 hw
      exact ⟨(g', dec'), h1, h2, by rw [h3, hl]⟩)
    ⟨h, rfl⟩
  exact ⟨r.1, r.2, hr, hp.1, hp.2⟩

/-- the witness graph of several statements below: 0 → 1, 1 → 1 (a self-loop), 1 → 0 -/
def loopGraph : Graph := [⟨[⟨1, 0, 7, 0⟩], [1]⟩, ⟨[⟨1, 1, 7, 0⟩, ⟨0, 0, 7, 0⟩], [0, 1]⟩]

/-- The model counts the iterations of the `while edge_idx < len` loop of `remove_all_very_short_edges` instead of testing
the condition; the count `len - edge_idx` is exact on well-formed graphs: giving the loop more iterations changes nothing,
so the model's loop is the Rust loop. -/
theorem removeShort_loop_count_exact (p k : Nat) (g : Graph) (e : Nat) (dec : List (Nat × Nat)) (h : Wf g)
    (hk : k + e = (edgesAt g p).length) (j : Nat) :
    removeShortAt p (k + j) g e dec = removeShortAt p k g e dec :=
  removeShortAt_fuel p k g e dec h hk j

example : removeShortAt 1 2 loopGraph 0 [(1, 0)] = removeShortAt 1 7 loopGraph 0 [(1, 0)] := by decide +kernel

/-- (finding) `remove_edge` does NOT keep `connected_from` exact: removing the self-loop of `loopGraph` leaves point 1 in
its own `connected_from` although no edge 1 → 1 is left (the `still_connected` test looks at edges from ANY connected
point).  Observable effect: `set_edge_kind_connected` stops its backward walk at such a point
(`connected_from.len() != 1`).  Seen in about 11% of the collisions of the correspondence run. -/
theorem removeEdge_leaves_stale_entry :
    Wf loopGraph ∧ ConnExact loopGraph ∧
      ∃ g', removeEdge loopGraph 1 0 = some g' ∧ Wf g' ∧ ¬ ConnExact g' := by
  refine ⟨(Model.Graph.wfCheck_iff _).mp (by decide +kernel), (connExactCheck_iff _).mp (by decide +kernel), _, rfl, (Model.Graph.wfCheck_iff _).mp (by decide +kernel), ?_⟩
  rw [← connExactCheck_iff]
  decide +kernel

/-- (forced precondition) `remove_edge` is only correct for self-loops: on the triangle 0 → 1 → 2 → 0 removing the edge
1 → 2 redirects 0 → 1 to 0 → 2 but leaves `connected_from` of 2 at [1] (and 0 listed at 1).  The library only calls
it for self-loops (`edge_is_very_short` tests `start_idx == end_idx` first). -/
theorem removeEdge_general_edge_breaks_connected_from :
    Wf (fromPath 7 [false, false, false] true) ∧
      ∃ g', removeEdge (fromPath 7 [false, false, false] true) 1 0 = some g' ∧ FolWf g' ∧ ¬ ConnOk g' := by
  refine ⟨(fromPath_wf 7 _ true).1, _, rfl, (folWfCheck_iff _).mp (by decide +kernel), ?_⟩
  rw [← connOkCheck_iff]
  decide +kernel

/-- (forced precondition) without a complete `connected_from` list `remove_edge` finds no preceding edge and returns
without removing anything - `remove_all_very_short_edges` would then test the same edge for ever. -/
theorem removeEdge_needs_complete_connected_from :
    FolWf [⟨[⟨0, 0, 7, 0⟩], []⟩] ∧ removeEdge [⟨[⟨0, 0, 7, 0⟩], []⟩] 0 0 = none :=
  ⟨(folWfCheck_iff _).mp (by decide +kernel), by decide +kernel⟩

section Whole
variable {K : Type} [LT K] [LE K] [DecidableLT K] [DecidableLE K] [OfNat K 0] [OfNat K 1]

/-- `detect_collisions` (self_collide, and the second half of collide) maps well-formed graphs to well-formed graphs and
never gets stuck, for every list of collisions between existing points, every set of merged point pairs and every choice
of removed self-loops.  As the result is well formed again, this holds for any number of successive collisions
(`path_add_chain`, `collide` of an already collided graph). -/
theorem detectCollisions_wf {g : Graph} (h : Wf g) (cs : List (Collision K))
    (hcs : ∀ c ∈ cs, c.p1 < g.length ∧ c.p2 < g.length) (any : Bool) (accepted dec : List (Nat × Nat)) :
    ∃ g', detectCollisions g cs any accepted dec = some g' ∧ Wf g' ∧ g.length ≤ g'.length := by
  unfold detectCollisions
  split_ifs with hempty
  · obtain ⟨hw, hl, _⟩ := combine_wf h any accepted
    obtain ⟨g', dec', h1, h2, h3⟩ := removeAllVeryShort_wf hw dec
    exact ⟨g', by rw [h1]; rfl, h2, by rw [h3, hl]⟩
  · obtain ⟨hs, hsl⟩ := splitStage_folWf h.fol cs hcs
    obtain ⟨hw, hl, _⟩ := combine_wf (recalc_wf hs).1 any accepted
    obtain ⟨g', dec', h1, h2, h3⟩ := removeAllVeryShort_wf hw dec
    exact ⟨g', by rw [h1]; rfl, h2, by rw [h3, hl, length_recalc]; exact hsl⟩

/-- `GraphPath::collide` of two well-formed graphs is well formed. -/
theorem collide_wf {g h : Graph} (hg : Wf g) (hh : Wf h) (cs : List (Collision K))
    (hcs : ∀ c ∈ cs, c.p1 < g.length + h.length ∧ c.p2 < g.length + h.length) (any : Bool) (accepted dec : List (Nat × Nat)) :
    ∃ g', collide g h cs any accepted dec = some g' ∧ Wf g' ∧ g.length + h.length ≤ g'.length := by
  have := detectCollisions_wf (merge_wf hg hh).1 cs (by rw [length_merge]; exact hcs) any accepted dec
  rwa [length_merge] at this

/-- THE PROPERTY's combinatorial half for `collide`: whatever collisions are found, points merged and short edges removed,
in the resulting graph every edge runs between existing points and every point has as many incoming as outgoing edges.
Only the points of a collision are constrained; an edge index `e1`, `e2` out of range is a no-op in the model (a panic in Rust). -/
theorem collide_balanced {g h : Graph} (hg : Wf g) (hh : Wf h) (cs : List (Collision K))
    (hcs : ∀ c ∈ cs, c.p1 < g.length + h.length ∧ c.p2 < g.length + h.length) (any : Bool) (accepted dec : List (Nat × Nat)) :
    ∃ g', collide g h cs any accepted dec = some g' ∧
      (∀ p, ∀ e ∈ edgesAt g' p, e.endIdx < g'.length) ∧ ∀ p, inDegree g' p = outDegree g' p := by
  obtain ⟨g', h1, h2, _⟩ := collide_wf hg hh cs hcs any accepted dec
  exact ⟨g', h1, h2.fol.endValid, h2.fol.balanced⟩

end Whole

/-- `t` values counted in tenths, for the examples (a type with elements strictly between its 0 and its 1 on which
`decide` can evaluate the model) -/
structure Tenths where
  n : Nat
deriving DecidableEq

instance : LinearOrder Tenths := LinearOrder.lift' Tenths.n (fun a b h => by cases a; cases b; simp_all)
instance : Zero Tenths := ⟨⟨0⟩⟩
instance : One Tenths := ⟨⟨10⟩⟩

/-- two triangles; edge 0 → 1 of the first and edge 3 → 4 of the second cross at t = 5/10, 2/10 (the `t` values are
counted in tenths); nothing is merged or removed -/
example : collide (K := Tenths) (fromPath 0 [false, false, false] true) (fromPath 1 [false, false, false] true)
    [⟨0, 0, ⟨5⟩, 3, 0, ⟨2⟩⟩] false [] [] =
    some [⟨[⟨6, 0, 0, 0⟩], [2]⟩, ⟨[⟨2, 0, 0, 0⟩], [6]⟩, ⟨[⟨0, 0, 0, 0⟩], [1]⟩,
          ⟨[⟨6, 1, 1, 0⟩], [5]⟩, ⟨[⟨5, 0, 1, 0⟩], [6]⟩, ⟨[⟨3, 0, 1, 0⟩], [4]⟩,
          ⟨[⟨1, 0, 0, 0⟩, ⟨4, 0, 1, 0⟩], [0, 3]⟩] := by decide +kernel

/-- BALANCE: in a well-formed graph every point has as many incoming as outgoing edges (the map "edge ↦ its following
edge" is a bijection of the edge set, so the edges that end at p correspond to the edges that leave p). -/
theorem wf_balanced {g : Graph} (h : FolWf g) (p : Nat) : inDegree g p = outDegree g p := h.balanced p

/-- The library's own debugging check `check_following_edge_consistency` (valid end point, valid following index, no two
edges with the same following edge; compiled only under `cfg(test)` / `extra_checks`) holds EXACTLY for the graphs with a
well-formed following-edge structure: by the pigeonhole principle "no following edge is named twice" already forces
"every edge is named once".  So that check, where it runs, implies balance. -/
theorem consistency_check_iff (g : Graph) : Consistent g ↔ FolWf g := by
  constructor
  · intro h
    refine ⟨fun a e he => (h.valid a e he).1, ?_⟩
    have hsub : ((allEdges g).map fun e => (e.endIdx, e.fol)) ⊆ allSlots g := by
      intro s hs
      rw [List.mem_map] at hs
      obtain ⟨e, he, rfl⟩ := hs
      obtain ⟨a, ha⟩ := mem_allEdges.mp he
      exact mem_allSlots.mpr (h.valid a e ha)
    have hperm := (List.subperm_of_subset h.unique hsub).perm_of_length_le
      (by rw [length_allSlots, List.length_map])
    intro p f hp
    rw [slotCount_eq_count, hperm.count_eq]
    split_ifs with hf
    · exact List.count_eq_one_of_mem (nodup_allSlots g) (mem_allSlots.mpr ⟨hp, hf⟩)
    · rw [List.count_eq_zero]
      intro hm
      exact hf (mem_allSlots.mp hm).2
  · intro h
    refine ⟨fun a e he => ⟨h.endValid a e he, h.folValid he⟩, ?_⟩
    rw [List.nodup_iff_count_le_one]
    intro s
    rw [← slotCount_eq_count g s.1 s.2]
    rw [h.slot_all s.1 s.2]
    split_ifs <;> omega

example : Consistent loopGraph := (consistency_check_iff _).mpr ((folWfCheck_iff _).mp (by decide +kernel))

/-- `reverse_edges_for_point(p)` of a well-formed graph lists every edge that ends at `p` exactly once and nothing else
(what F14 violated before `connected_from` was de-duplicated); entries of `connected_from` that no edge justifies are
invisible through this query. -/
theorem reverseEdges_each_once {g : Graph} (h : Wf g) (p : Nat) :
    (reverseEdges g p).Nodup ∧
      ∀ c i, (c, i) ∈ reverseEdges g p ↔ ∃ e, edgeAt g c i = some e ∧ e.endIdx = p := by
  refine ⟨nodup_reverseEdges h.conn.nodup p, ?_⟩
  intro c i
  rw [mem_reverseEdges]
  constructor
  · rintro ⟨_, he⟩; exact he
  · rintro ⟨e, he, hep⟩
    refine ⟨?_, e, he, hep⟩
    have := h.conn.complete c e (mem_edgesAt_of_edgeAt he)
    rwa [hep] at this

example : reverseEdges loopGraph 1 = [(0, 0), (1, 0)] := by decide +kernel

/-- The executable checkers decide the invariant: `wfCheck g = true` iff `Wf g`, `connExactCheck g = true` iff
`ConnExact g`.  The driver evaluates them on the graphs the REAL code produced (dumped through the hook / the public
queries after every stage). -/
theorem wfCheck_iff (g : Graph) :
    (wfCheck g = true ↔ Wf g) ∧ (folWfCheck g = true ↔ FolWf g) ∧ (connExactCheck g = true ↔ ConnExact g) :=
  ⟨Model.Graph.wfCheck_iff g, folWfCheck_iff g, connExactCheck_iff g⟩

example : wfCheck loopGraph = true := by decide +kernel
example : wfCheck [⟨[⟨0, 1, 7, 0⟩], [0]⟩] = false := by decide +kernel

/-! ### the hit-selection rule of `find_collisions` -/

section Hits
set_option linter.unusedSectionVars false
set_option linter.unusedVariables false
variable {K : Type} [LinearOrder K] [Zero K] [One K]

/-- A crossing at the joint of two consecutive edges with the INTERIOR of another edge has two representatives: `(1, s)`
on the edge that ends there and `(0, s)` on the edge that starts there.  The filter drops the first and keeps the
second (and symmetrically for the target side), so one of them always survives. -/
theorem joint_hit_kept (h01 : (0 : K) < 1) (s : K) (h0 : 0 < s) (h1 : s < 1) :
    keepHit (0 : K) s = true ∧ keepHit (1 : K) s = false ∧ keepHit s (0 : K) = true ∧ keepHit s (1 : K) = false := by
  have a1 : ¬ (s ≤ 0) := not_le.mpr h0
  have a2 : ¬ (1 ≤ s) := not_le.mpr h1
  have a3 : ¬ ((1 : K) ≤ 0) := not_le.mpr h01
  simp [keepHit, tIsOne, tIsZero, a1, a2, a3]

/-- The kept representative `(0, s)` of `joint_hit_kept` re-uses the existing vertex: no point is created for it. -/
theorem joint_hit_uses_vertex (g : Graph) (c : Collision K) (h : c.t1 ≤ 0) :
    createCollisionPoints g [c] = (g, [(c, c.p1)]) := by
  simp [createCollisionPoints, tIsZero, h]

/-- (finding) When the crossing is at a vertex of BOTH paths all four representatives are dropped: the two vertices are
only joined if `combine_overlapping_points` finds them within `accuracy` of each other. -/
theorem vertex_vertex_hits_all_dropped (h01 : (0 : K) < 1) :
    keepHit (0 : K) 0 = false ∧ keepHit (0 : K) 1 = false ∧ keepHit (1 : K) 0 = false ∧ keepHit (1 : K) 1 = false := by
  simp [keepHit, tIsOne, tIsZero]

/-- (finding) The code after the filter that "moves a collision at the end of an edge to the start of the following edge"
never runs: every hit with `t ≥ 1` was removed by the filter before, so `find_collisions` returns the kept hits unchanged.
Hits at `t = 1` are dropped, not moved - the crossing survives only because the sweep also reports the pair with the
following edge (`joint_hit_kept`). -/
theorem selectHits_relocation_dead (g : Graph) (src tgt : Nat × Nat) (hits : List (K × K)) :
    selectHits g src tgt hits = (hits.filter fun h => keepHit h.1 h.2).map fun h =>
      ({ p1 := src.1, e1 := src.2, t1 := h.1, p2 := tgt.1, e2 := tgt.2, t2 := h.2 } : Collision K) := by
  unfold selectHits
  rw [List.map_map]
  apply List.map_congr_left
  intro h hh
  have hk := (List.mem_filter.mp hh).2
  simp only [keepHit, Bool.not_eq_true', Bool.or_eq_false_iff] at hk
  simp [Function.comp, moveToFollowing, hk.1.1, hk.1.2]

end Hits

/-- non-vacuity: a crossing at t = 5/10 -/
example := joint_hit_kept (K := Tenths) (by decide +kernel) ⟨5⟩ (by decide +kernel) (by decide +kernel)
example : keepHit (0 : Tenths) ⟨5⟩ = true ∧ keepHit (1 : Tenths) ⟨5⟩ = false := by decide +kernel

end C03
