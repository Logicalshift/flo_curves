/-
C08 (error bound)  What `fit_curve_cubic` accepts is within `max_error` of every sample at a parameter of the curve.

`max_error_for_curve` (fit.rs) maps every sample `pᵢ` with its parameter `uᵢ` to the squared distance
`|pᵢ − C(uᵢ)|²` (`Gen.fit_point_error`, the closure of the `.map`) and then picks the biggest
(`Gen.max_error_pick`, the loop and the final square root); both are regenerated from the Rust source on every
check.  `fit_curve_cubic` returns the candidate only when that value is `≤ max_error`.  The parameters `uᵢ` come
from chord-length parameterisation and from `newton_raphson_root_find`, which stays in [0,1]
(`C08.newton_in_unit`, repair F10), so `C(uᵢ)` is a point of the curve.

`K` is any ordered field; the square root is any monotone function (`sqrt` of binary64 is one).
-/
import FloVerif.Gen.Fit
import FloVerif.Lemmas.Lit
import Mathlib.Tactic.Ring
import Mathlib.Tactic.NormNum.OfScientific
import Mathlib.Tactic.Linarith
import Mathlib.Algebra.Order.Field.Basic

set_option linter.unusedSectionVars false
namespace C08Error
open Prelude Gen

variable {K : Type} [Field K] [LinearOrder K] [IsStrictOrderedRing K] [Inhabited K] [FSqrt K]

/-- one step of the selection loop of `max_error_for_curve` (fit.rs:348-353) -/
def pickStep (st : T2 K Nat) (it : T2 Nat K) : T2 K Nat := if it.t1 > st.t0 then T2.mk it.t1 it.t0 else st

theorem max_error_pick_eq (errors : List K) :
    max_error_pick errors =
      T2.mk (fsqrt (foldlT (errors.zipIdx.map fun p => T2.mk p.2 p.1) (T2.mk 0 0) pickStep).t0)
        (foldlT (errors.zipIdx.map fun p => T2.mk p.2 p.1) (T2.mk 0 0) pickStep).t1 := by
  simp only [max_error_pick, lit0, decide_eq_true_eq]
  rfl

theorem pick_fold (l : List (T2 Nat K)) (b : K) (o : Nat) :
    let r := foldlT l (T2.mk b o) pickStep
    b ≤ r.t0 ∧ (∀ it ∈ l, it.t1 ≤ r.t0) ∧
    ((r.t0 = b ∧ r.t1 = o) ∨ ∃ it ∈ l, it.t1 = r.t0 ∧ it.t0 = r.t1 ∧ b < it.t1) := by
  induction l generalizing b o with
  | nil => exact ⟨le_refl _, fun _ h => absurd h List.not_mem_nil, .inl ⟨rfl, rfl⟩⟩
  | cons x xs ih =>
    simp only [foldlT, List.foldl_cons]
    by_cases h : x.t1 > b
    · obtain ⟨h2, h3, h4⟩ := ih x.t1 x.t0
      rw [show pickStep (T2.mk b o) x = T2.mk x.t1 x.t0 from if_pos h]
      refine ⟨le_trans h.le h2, List.forall_mem_cons.2 ⟨h2, h3⟩, .inr ?_⟩
      rcases h4 with ⟨e1, e2⟩ | ⟨it, hit, e1, e2, e3⟩
      · exact ⟨x, List.mem_cons_self, e1.symm, e2.symm, h⟩
      · exact ⟨it, List.mem_cons_of_mem _ hit, e1, e2, lt_trans h e3⟩
    · obtain ⟨h2, h3, h4⟩ := ih b o
      rw [show pickStep (T2.mk b o) x = T2.mk b o from if_neg h]
      refine ⟨h2, List.forall_mem_cons.2 ⟨le_trans (not_lt.1 h) h2, h3⟩, ?_⟩
      rcases h4 with h4 | ⟨it, hit, e⟩
      · exact .inl h4
      · exact .inr ⟨it, List.mem_cons_of_mem _ hit, e⟩

/-- THE REPORTED ERROR DOMINATES EVERY SAMPLE: for every list of squared errors, the value `max_error_for_curve` returns is the
    square root of a number `m ≥ 0` with `e ≤ m` for every squared error `e`; `m` is `0` or one of the squared errors -/
theorem max_error_pick_spec (errors : List K) :
    ∃ m : K, (max_error_pick errors).t0 = fsqrt m ∧ 0 ≤ m ∧ (∀ e ∈ errors, e ≤ m) ∧ (m = 0 ∨ m ∈ errors) := by
  obtain ⟨h1, h3, h4⟩ := pick_fold (K := K) (List.map (fun p => T2.mk p.2 p.1) (List.zipIdx errors)) 0 0
  refine ⟨_, ?_, h1, ?_, ?_⟩
  · rw [max_error_pick_eq]
  · intro e he
    obtain ⟨i, hi, rfl⟩ := List.mem_iff_getElem.1 he
    exact h3 (T2.mk i errors[i]) (List.mem_map.2 ⟨(errors[i], i), List.mem_zipIdx_iff_getElem?.2 (List.getElem?_eq_getElem hi), rfl⟩)
  · rcases h4 with h4 | ⟨it, hit, e, _⟩
    · exact Or.inl h4.1
    · obtain ⟨p, hp, rfl⟩ := List.mem_map.1 hit
      exact Or.inr (e ▸ List.mem_of_getElem? (List.mem_zipIdx_iff_getElem?.1 hp))

/-- WHAT IS ACCEPTED IS WITHIN `max_error` OF EVERY SAMPLE: if the value returned by `max_error_for_curve` for the candidate
    `w1..w4` and the parameters `us` is `≤ max_error` (the acceptance test of `fit_curve_cubic`), then for every sample `p` with
    its parameter `u` the distance `sqrt |p − C(u)|²` to the curve point at `u` is `≤ max_error` - for any monotone square root.
    Points are of any type with a dot product (1-D, 2-D, 3-D).  With `C08.newton_in_unit` (every re-parameterised `u` is in [0,1]) the
    curve point at `u` is a point of the returned curve. -/
theorem accepted_within_error {P : Type} [Inhabited P] [Add P] [Sub P] [HMul P K P] [Dot P K]
    (hmono : ∀ a b : K, a ≤ b → (fsqrt a : K) ≤ fsqrt b)
    (w1 w2 w3 w4 : P) (samples : List (P × K)) (max_error : K)
    (hacc : (max_error_pick (samples.map (fun s => fit_point_error w1 w2 w3 w4 s.1 s.2))).t0 ≤ max_error) :
    ∀ s ∈ samples, (fsqrt (dot (s.1 - curve_point_at_pos w1 w2 w3 w4 s.2) (s.1 - curve_point_at_pos w1 w2 w3 w4 s.2) : K) : K) ≤ max_error := by
  intro s hs
  obtain ⟨m, hm, _, hle, _⟩ := max_error_pick_spec (samples.map (fun s => fit_point_error w1 w2 w3 w4 s.1 s.2))
  have : fit_point_error w1 w2 w3 w4 s.1 s.2 ≤ m := hle _ (List.mem_map.2 ⟨s, hs, rfl⟩)
  rw [hm] at hacc
  exact le_trans (hmono _ _ this) hacc

/-- THE SPLIT INDEX POINTS AT A POSITIVE ERROR: `max_error_for_curve` returns `(sqrt 0, 0)`, or `(sqrt e, i)` where `e > 0` is the
    squared error of sample `i` -/
theorem max_error_pick_index (errors : List K) :
    ((max_error_pick errors).t0 = fsqrt 0 ∧ (max_error_pick errors).t1 = 0) ∨
    ∃ (i : Nat) (hi : i < errors.length), (max_error_pick errors).t1 = i ∧ (max_error_pick errors).t0 = fsqrt errors[i] ∧ 0 < errors[i] := by
  have h := (pick_fold (K := K) (List.map (fun p => T2.mk p.2 p.1) (List.zipIdx errors)) 0 0).2.2
  rw [max_error_pick_eq]
  rcases h with ⟨h1, h2⟩ | ⟨it, hit, e1, e2, e3⟩
  · exact .inl ⟨congrArg _ h1, h2⟩
  · obtain ⟨p, hp, rfl⟩ := List.mem_map.1 hit
    obtain ⟨hi, hv⟩ := List.getElem?_eq_some_iff.1 (List.mem_zipIdx_iff_getElem?.1 hp)
    exact .inr ⟨p.2, hi, e2.symm, hv ▸ congrArg _ e1.symm, hv ▸ e3⟩

/-- A REJECTED CANDIDATE IS SPLIT AT AN INTERIOR SAMPLE: if the first and the last sample have no error (the candidate starts at the
    first point and ends at the last one, their parameters being 0 and 1), the tolerance is `≥ 0` and `sqrt 0 ≤ 0`, then whenever the
    reported error is NOT `≤` the tolerance the split index `i` satisfies `1 ≤ i` and `i + 1 < n`: both `points[0..=i]` and
    `points[i..]` are strictly shorter than `points` and have at least two points - the recursion of `fit_curve_cubic` terminates,
    and `points[i-1]`, `points[i+1]` (fit.rs: `tangent_between`) are in range -/
theorem split_interior (errors : List K) (tol : K) (htol : 0 ≤ tol) (hs0 : (fsqrt (0 : K) : K) ≤ 0)
    (hfirst : ∀ h : 0 < errors.length, errors[0] ≤ 0)
    (hlast : ∀ h : 0 < errors.length, errors[errors.length - 1]'(by omega) ≤ 0)
    (hrej : ¬ (max_error_pick errors).t0 ≤ tol) :
    1 ≤ (max_error_pick errors).t1 ∧ (max_error_pick errors).t1 + 1 < errors.length := by
  rcases max_error_pick_index errors with ⟨h0, _⟩ | ⟨i, hi, hidx, _, hpos⟩
  · exact absurd (h0 ▸ le_trans hs0 htol) hrej
  · rw [hidx]
    refine ⟨Nat.pos_of_ne_zero fun h0 => ?_, Nat.lt_of_le_of_ne hi fun h1 => ?_⟩
    · subst h0
      exact not_le.2 hpos (hfirst hi)
    · obtain rfl : i = errors.length - 1 := by omega
      exact not_le.2 hpos (hlast (by omega))

theorem split_interior_map {α : Type} (l : List α) (f : α → K) (tol : K) (htol : 0 ≤ tol) (hs0 : (fsqrt (0 : K) : K) ≤ 0)
    (hfirst : ∀ s, l.head? = some s → f s ≤ 0) (hlast : ∀ s, l.getLast? = some s → f s ≤ 0)
    (hrej : ¬ (max_error_pick (l.map f)).t0 ≤ tol) :
    1 ≤ (max_error_pick (l.map f)).t1 ∧ (max_error_pick (l.map f)).t1 + 1 < l.length := by
  have h := split_interior (l.map f) tol htol hs0
    (fun h0 => by
      rw [List.length_map] at h0
      rw [List.getElem_map]
      exact hfirst _ (by rw [List.head?_eq_getElem?, List.getElem?_eq_getElem h0]))
    (fun h0 => by
      rw [List.length_map] at h0
      rw [List.getElem_map]
      exact hlast _ (by rw [List.getLast?_eq_getElem?, List.getElem?_eq_getElem (by omega)]; simp only [List.length_map]))
    hrej
  rwa [List.length_map] at h

/-- non-vacuity: three squared errors; the biggest is picked with its index -/
example : letI : FSqrt ℚ := ⟨id⟩; (max_error_pick (K := ℚ) [1, 4, 2]).t1 = 1 := by
  simp only [max_error_pick, foldlT, List.zipIdx, List.map, List.foldl]
  norm_num

end C08Error
