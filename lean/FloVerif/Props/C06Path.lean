/-
C06 (path level)  The bounding boxes of a path are the union of the boxes of its curves.

`Gen.path_bounding_box` / `Gen.path_fast_bounding_box` are regenerated from src/bezier/path/bounds.rs on every check
(`path_to_curves(path).map(box).reduce(union).unwrap_or_else(origin box)`), in the 1-D instance used throughout C06: a
curve is its four control values, a box is `(min, max)`.  `union_bounds` skips a box with `min = max` (it counts as
empty), so containment is stated for boxes of positive width, exactly as the code behaves.
-/
import FloVerif.Props.C06

namespace C06Path
open Prelude Gen C06

-- the instance `Props/C06.lean` states its theorems with (local there)
attribute [local instance] C06.instFSqrtReal

/-- the generated functions are `reduce` over the list of per-curve boxes; the box of a path without curves is the origin box -/
theorem path_bounding_box_eq (curves : List (T4 ℝ ℝ ℝ ℝ)) :
    path_bounding_box curves =
      match curves.map (fun c => bounding_box4 c.t0 c.t1 c.t2 c.t3) with
      | [] => T2.mk 0 0
      | b :: bs => bs.foldl (fun first second => union_bounds first second) b := by
  unfold path_bounding_box
  cases curves.map (fun c => bounding_box4 c.t0 c.t1 c.t2 c.t3) with
  | nil => exact congrArg₂ T2.mk lit0 lit0
  | cons b bs => rfl

theorem path_fast_bounding_box_eq (curves : List (T4 ℝ ℝ ℝ ℝ)) :
    path_fast_bounding_box curves =
      match curves.map (fun c => fast_bounding_box c.t0 c.t1 c.t2 c.t3) with
      | [] => T2.mk 0 0
      | b :: bs => bs.foldl (fun first second => union_bounds first second) b := by
  unfold path_fast_bounding_box
  cases curves.map (fun c => fast_bounding_box c.t0 c.t1 c.t2 c.t3) with
  | nil => exact congrArg₂ T2.mk lit0 lit0
  | cons b bs => rfl

/-- THE PATH BOX CONTAINS EVERY CURVE OF THE PATH: for every curve of the path whose own box has positive width (a curve that moves
    in this coordinate) and every `t` in [0,1], the curve point lies in `path_bounding_box`. -/
theorem path_bounding_box_contains (curves : List (T4 ℝ ℝ ℝ ℝ)) (c : T4 ℝ ℝ ℝ ℝ) (hc : c ∈ curves)
    (hpos : (bounding_box4 c.t0 c.t1 c.t2 c.t3).t0 < (bounding_box4 c.t0 c.t1 c.t2 c.t3).t1) (t : ℝ) (h0 : 0 ≤ t) (h1 : t ≤ 1) :
    (path_bounding_box curves).t0 ≤ de_casteljau4 t c.t0 c.t1 c.t2 c.t3 ∧
    de_casteljau4 t c.t0 c.t1 c.t2 c.t3 ≤ (path_bounding_box curves).t1 :=
  reduce_union_bounds_contains (fun c : T4 ℝ ℝ ℝ ℝ => bounding_box4 c.t0 c.t1 c.t2 c.t3)
    (fun c t => de_casteljau4 t c.t0 c.t1 c.t2 c.t3) (fun c => bounding_box_contains c.t0 c.t1 c.t2 c.t3)
    _ curves c hc hpos t h0 h1

/-- THE FAST PATH BOX CONTAINS THE PATH BOX'S CURVES TOO: the same for `path_fast_bounding_box` (which is the union of the curves'
    control-polygon boxes) -/
theorem path_fast_bounding_box_contains (curves : List (T4 ℝ ℝ ℝ ℝ)) (c : T4 ℝ ℝ ℝ ℝ) (hc : c ∈ curves)
    (hpos : (fast_bounding_box c.t0 c.t1 c.t2 c.t3).t0 < (fast_bounding_box c.t0 c.t1 c.t2 c.t3).t1) (t : ℝ) (h0 : 0 ≤ t) (h1 : t ≤ 1) :
    (path_fast_bounding_box curves).t0 ≤ de_casteljau4 t c.t0 c.t1 c.t2 c.t3 ∧
    de_casteljau4 t c.t0 c.t1 c.t2 c.t3 ≤ (path_fast_bounding_box curves).t1 :=
  reduce_union_bounds_contains (fun c : T4 ℝ ℝ ℝ ℝ => fast_bounding_box c.t0 c.t1 c.t2 c.t3)
    (fun c t => de_casteljau4 t c.t0 c.t1 c.t2 c.t3) (fun c => fast_contains_curve c.t0 c.t1 c.t2 c.t3)
    _ curves c hc hpos t h0 h1

/-- non-vacuity: two curves 0,1,2,3 and 3,5,4,6: the path box is [0,6] -/
example : path_fast_bounding_box [T4.mk (0:ℝ) 1 2 3, T4.mk 3 5 4 6] = T2.mk 0 6 := by
  rw [path_fast_bounding_box_eq]
  simp only [List.map_cons, List.map_nil, List.foldl_cons, List.foldl_nil, union_bounds_spec, fast_bounding_box_spec]
  norm_num

end C06Path
