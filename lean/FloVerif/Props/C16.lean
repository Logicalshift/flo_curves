/-
C16  Scan conversion of a path matches point membership.

Everything between the root solver and the returned ranges is regenerated from the Rust sources on every check
(`Gen/PathContour.lean`): `raycast_intercepts_on_line` (ray_cast_contour.rs), the closures of
`PathContour::intercepts_on_line` / `intercepts_on_column` (`row_intercepts`, `column_intercepts`),
`remove_duplicate_intercepts` with `curves_are_neighbors`, `control_polygon_length`, `points_are_same_side_horiz`
and the `CurveSection` control points, and `solve_basis_for_t` (the external root finders of crate `roots` are
parameters).  `Model.PathContour.interceptsOnLine` and `interceptsOnColumn` only pass the closure to `raycast_intercepts_on_line`.

What is proved, for ALL inputs (any number of curves, any solver answers, any scan position, any width):

* the returned ranges are inside `[0, width]`, non-empty, ascending and disjoint (rows and columns) - unconditionally;
* EVEN-ODD at the level of the hit list: `x` is in a returned range iff `0 ≤ x < width`, the number of KEPT hits at or
  left of `x` is odd, and `x` is left of the last kept hit when their number is odd (`tuples()` drops it);
* `remove_duplicate_intercepts`: the generated loop (fuel `len + 1`) never runs out of fuel and equals a fuel-free
  recursion; its result is a sub-list of its input (sorted stays sorted), every removal was licensed by the duplicate
  condition on the list as it was at that moment, and a list without any pair satisfying the condition is returned
  unchanged; `curves_are_neighbors` is characterised;
* the column closure is the row closure of the transposed curve table WITHOUT duplicate removal and WITHOUT the `t = 0`
  hits; it equals the transposed row query when these two differences do not matter, and differs otherwise (witness);
* `solve_basis_for_t`: which parameters are returned, that they are roots of the curve's polynomial (cubic branch, sound
  finder), that no root in `[0,1]` is missed except within 1e-6 of an exact end hit (complete finder), and that the
  quadratic branch returns parameters with residual below 1e-8;
* `row_hits_are_the_crossings`: on a scanline through no curve end point the gathered hits are exactly the crossings
  `(i, t, x_i(t))`, `0 < t < 1`, `y_i(t) = y`, each once (cubic branch, exact duplicate-free finder, sound bounding boxes);
  with `intercepts_on_line_generic` this is the even-odd crossing rule for generic scanlines.

What is NOT proved (searched on the real code only): that the kept hits are exactly one per geometric crossing of the
boundary - the very thing duplicate removal is there to achieve.  Recorded as theorems about the code as it is:

* `closing_joint_not_neighbors` / `subpath_boundary_neighbors` / `closing_joint_witness`: the neighbour test works on the flat
  curve index, so the joint that closes a sub-path is recognised only when the sub-path is the whole table, and the last
  curve of one sub-path counts as neighbour of the first curve of the next.  Two diamonds scanned through their start
  vertices: the first diamond's interior is reported outside and the gap between the diamonds inside.
* `column_differs_from_transposed_row`: a column through a vertex that is an extremum in x (plus another shape on the same
  column) gets an odd hit count; the transposed row query is right.

Number model: any linearly ordered field (no NaN, no signed zero, no rounding); `f64::sqrt` and `f64::signum` are ARBITRARY
functions; `total_cmp` is `≤`; Rust's `sort_unstable_by` is modelled by a stable insertion sort and the statements about the
closures are also given for an arbitrary sorted arrangement of the hits.
-/
import FloVerif.Lemmas.PathContour

set_option linter.unusedSectionVars false
namespace C16
open Prelude Gen Model.PathContour PathContourLemmas

variable {K : Type} [Field K] [LinearOrder K] [IsStrictOrderedRing K] [Inhabited K] [FSqrt K] [FSignum K]

/-! ## instances for the concrete examples (exact rationals; `sqrt` is never needed on a straight edge's end points) -/

local instance : FSqrt ℚ := ⟨id⟩
local instance : FSignum ℚ := ⟨fun x => if x < 0 then -1 else 1⟩

/-- exact solver for the straight edges of the examples (control points at 1/3 and 2/3: the coordinate is linear in `t`) -/
def lineSolve (w1 _w2 _w3 w4 p : ℚ) : List ℚ :=
  if w1 = w4 then [] else if 0 ≤ (p - w1) / (w4 - w1) ∧ (p - w1) / (w4 - w1) ≤ 1 then [(p - w1) / (w4 - w1)] else []

/-- curve table of a square standing on a corner: centre `(cx, cy)`, half diagonal `r`, started at its left vertex -/
def diamond (cx cy r : ℚ) : List (CurveRow ℚ) :=
  [lineRow (cx - r) cy cx (cy + r) (1/3), lineRow cx (cy + r) (cx + r) cy (1/3),
   lineRow (cx + r) cy cx (cy - r) (1/3), lineRow cx (cy - r) (cx - r) cy (1/3)]

/-! ## the clip stage `raycast_intercepts_on_line` (any closure, any scale factor) -/

/-- CLIP, MEMBERSHIP: for every closure `f`, position `y`, scale and width, `x` lies in a returned range iff it lies in a
    range the closure returned for `y·scale` and `0 ≤ x < width` -/
theorem clip_membership (f : K → List (RangeT K)) (y s : K) (w : Nat) (x : K) :
    inRanges x (raycast_intercepts_on_line f y s w) ↔ inRanges x (f (y * s)) ∧ 0 ≤ x ∧ x < (w : K) := by
  rw [raycast_eq]
  simp only [inRanges, List.mem_filter, List.mem_map, decide_eq_true_eq, Bool.and_eq_true]
  constructor
  · rintro ⟨r', ⟨⟨r, ⟨hr, _⟩, rfl⟩, _⟩, hx⟩
    have := (inR_clipR (w : K) x r).1 hx
    exact ⟨⟨r, hr, this.1⟩, this.2⟩
  · rintro ⟨⟨r, hr, hx⟩, h0, hw⟩
    have hx' := (inR_clipR (w : K) x r).2 ⟨hx, h0, hw⟩
    refine ⟨clipR (w : K) r, ⟨⟨r, ⟨hr, ?_, ?_⟩, rfl⟩, ?_⟩, hx'⟩
    · exact le_of_lt (lt_of_le_of_lt h0 hx.2)
    · exact lt_of_le_of_lt hx.1 hw
    · exact lt_of_le_of_lt hx'.1 hx'.2

/-- CLIP, SHAPE: every returned range is non-empty and inside `[0, width]` -/
theorem clip_ranges_inside (f : K → List (RangeT K)) (y s : K) (w : Nat) :
    ∀ r ∈ raycast_intercepts_on_line f y s w, 0 ≤ r.start ∧ r.start < r.end_ ∧ r.end_ ≤ (w : K) := by
  rw [raycast_eq]
  intro r' hr'
  simp only [List.mem_filter, List.mem_map, decide_eq_true_eq] at hr'
  obtain ⟨⟨r, _, rfl⟩, hne⟩ := hr'
  exact ⟨clipR_start _ r ▸ le_max_left _ _, hne, clipR_end _ r ▸ min_le_left _ _⟩

/-- CLIP, ORDER: if the closure returns its ranges in ascending order without overlap (each ends at or before the start of
    every later one - the contract stated at `RayCastContour::new`), so does the result, and the starts are strictly ascending -/
theorem clip_keeps_order (f : K → List (RangeT K)) (y s : K) (w : Nat) (h : Ordered (f (y * s))) :
    (raycast_intercepts_on_line f y s w).Pairwise (fun a b => a.end_ ≤ b.start ∧ a.start < b.start) := by
  have hin := clip_ranges_inside f y s w
  have hord : Ordered (raycast_intercepts_on_line f y s w) := by
    rw [raycast_eq]
    refine List.Pairwise.filter _ (List.pairwise_map.2 ?_)
    refine (List.Pairwise.filter _ h).imp ?_
    intro a b hab
    rw [clipR_end, clipR_start]
    exact (min_le_right _ _).trans (hab.trans (le_max_right _ _))
  exact hord.imp_of_mem fun ha _ hab => ⟨hab, lt_of_lt_of_le (hin _ ha).2.1 hab⟩

/-- non-vacuity: a range reaching below 0, an empty one, one reaching beyond the width, one beyond the width altogether -/
example : raycast_intercepts_on_line (K := ℚ) (fun _ => [⟨-3, 2⟩, ⟨2, 2⟩, ⟨5, 12⟩, ⟨20, 30⟩]) 7 1 10 = [⟨0, 2⟩, ⟨5, 10⟩] := by
  decide +kernel

/-- the order hypothesis of `clip_keeps_order` is needed: an unordered closure result stays unordered -/
example : raycast_intercepts_on_line (K := ℚ) (fun _ => [⟨5, 8⟩, ⟨1, 6⟩]) 0 1 10 = [⟨5, 8⟩, ⟨1, 6⟩] := by decide +kernel

/-! ## pairing a sorted hit list (`tuples()`) -/

/-- EVEN-ODD RULE for a sorted list of crossing positions of ANY length: `x` lies in one of the ranges `tuples()` forms iff
    the number of crossings at or left of `x` is odd and, when the number of crossings is odd (the last one is dropped by
    `tuples()`), `x` is left of that last crossing -/
theorem pairs_even_odd (x : K) (l : List K) (hs : l.Pairwise (· ≤ ·)) :
    inRanges x (pairRanges l) ↔ countLe x l % 2 = 1 ∧ (l.length % 2 = 0 ∨ ∀ z ∈ l.getLast?, x < z) :=
  pairs_parity x l hs

/-- the ranges formed from a sorted list are in ascending order, do not overlap and none is inverted -/
theorem pairs_ordered (l : List K) (hs : l.Pairwise (· ≤ ·)) :
    Ordered (pairRanges l) ∧ ∀ r ∈ pairRanges l, r.start ≤ r.end_ :=
  ⟨pairRanges_ordered l hs, pairRanges_nonneg l hs⟩

example : pairRanges ([1, 3, 4, 9, 11] : List ℚ) = [⟨1, 3⟩, ⟨4, 9⟩] := by decide +kernel
/-- five crossings: right of the fourth the parity is odd again but the fifth crossing was dropped -/
example : ¬ inRanges (10 : ℚ) (pairRanges [1, 3, 4, 9, 11]) ∧ countLe (10 : ℚ) [1, 3, 4, 9, 11] % 2 = 0 := by
  constructor
  · rw [pairs_even_odd 10 _ (by decide +kernel)]; decide +kernel
  · decide +kernel

/-! ## remove_duplicate_intercepts -/

/-- `curves_are_neighbors`: consecutive indices, or the first and the last index of the whole curve table (symmetric) -/
theorem neighbors_spec (n i j : Nat) :
    curves_are_neighbors n i j = true ↔ i + 1 = j ∨ j + 1 = i ∨ (i = 0 ∧ j = n - 1) ∨ (j = 0 ∧ i = n - 1) := by
  simp only [curves_are_neighbors, Bool.if_true_left, Bool.if_false_right, Bool.or_eq_true, Bool.and_eq_true,
    beq_iff_eq, decide_eq_true_eq, Bool.and_true, or_assoc]

/-- the joint that closes a sub-path (its first curve `o` and its last curve `o + k - 1`, `k ≥ 3` curves) is recognised as a
    joint only if the sub-path is the whole curve table -/
theorem closing_joint_not_neighbors (n o k : Nat) (hk : 3 ≤ k) (hn : o + k ≤ n) :
    curves_are_neighbors n o (o + k - 1) = true ↔ (o = 0 ∧ k = n) := by
  rw [neighbors_spec]; omega

/-- the last curve of one sub-path and the first curve of the next one always count as neighbours -/
theorem subpath_boundary_neighbors (n o k : Nat) (hk : 1 ≤ k) :
    curves_are_neighbors n (o + k - 1) (o + k) = true := by
  rw [neighbors_spec]; omega

/-- THE LOOP: for every curve table and every list of hits the generated `remove_duplicate_intercepts` (an `iterFuel` with
    fuel `len + 1`) never exhausts its fuel: it is the fuel-free recursion "at `idx`: remove `idx` if `dupPair` holds between
    it and its cyclic successor (and look at `idx` again), otherwise advance; stop at the end" -/
theorem remove_duplicates_eq (curves : List (CurveRow K)) (l : List (InterceptT K)) :
    remove_duplicate_intercepts curves l = dedupe (removeAt curves) l 0 := by
  rw [← iterFuel_stepSpec (removeAt curves) (l.length + 1) l 0 (by omega)]
  unfold remove_duplicate_intercepts
  simp only []
  congr 2
  funext st
  exact (step_shape _ _ _ _ _ _ _ _).trans rfl

/-- the result is a sub-list of the input: order kept, nothing invented; hence a list sorted by x stays sorted -/
theorem remove_duplicates_sublist (curves : List (CurveRow K)) (l : List (InterceptT K)) :
    (remove_duplicate_intercepts curves l).Sublist l ∧ (SortedX l → SortedX (remove_duplicate_intercepts curves l)) := by
  have h : (remove_duplicate_intercepts curves l).Sublist l := by
    rw [remove_duplicates_eq]; exact dedupe_sublist _ _ _
  exact ⟨h, fun hs => hs.sublist h⟩

/-- every removal is licensed: the result is reached from the input by removing, one at a time, a hit `l'[idx]` for which the
    duplicate condition `dupPair` held against its cyclic successor in the list `l'` as it was at that moment:
    neighbouring curve indices, x positions within 1e-6, control polygon between the hits and the joint at most 1e-6 long
    (0 for an exact `t = 1`/`t = 0` pair) and y-tangents of equal sign (or zero) -/
theorem remove_duplicates_licensed (curves : List (CurveRow K)) (l : List (InterceptT K)) :
    Removals (removeAt curves) l (remove_duplicate_intercepts curves l) := by
  rw [remove_duplicates_eq]; exact dedupe_removals _ _ _

/-- if no two hits of the scanline (a hit paired with itself included) satisfy the duplicate condition, nothing is removed -/
theorem remove_duplicates_untouched (curves : List (CurveRow K)) (l : List (InterceptT K))
    (h : ∀ a ∈ l, ∀ b ∈ l, dupPair curves a b = false) : remove_duplicate_intercepts curves l = l := by
  rw [remove_duplicates_eq]
  exact dedupe_id _ _ _ fun i hi => h _ (listGet_mem hi) _ (listGet_mem (nextIdx_lt hi))

/-- non-vacuity (one diamond scanned through its left and right vertices): each joint is hit twice (`t = 1` on one curve,
    `t = 0` on the next) and one hit of each pair is removed, the first and last curve being neighbours here -/
example : remove_duplicate_intercepts (diamond 10 10 10)
    [⟨3, 1, 0⟩, ⟨0, 0, 0⟩, ⟨1, 1, 20⟩, ⟨2, 0, 20⟩] = [⟨0, 0, 0⟩, ⟨2, 0, 20⟩] := by decide +kernel

/-- a vertex where the boundary turns back (top of the diamond: tangents of opposite sign) keeps both hits -/
example : remove_duplicate_intercepts (diamond 10 10 10) [⟨0, 1, 10⟩, ⟨1, 0, 10⟩] = [⟨0, 1, 10⟩, ⟨1, 0, 10⟩] := by
  decide +kernel

/-! ## rows: `PathContour::intercepts_on_line` -/

/-- what the row closure makes of its hits once they are sorted: duplicates removed, positions paired -/
def rowOf (curves : List (CurveRow K)) (s : List (InterceptT K)) : List (RangeT K) :=
  pairRanges ((remove_duplicate_intercepts curves s).map (·.x_pos))

/-- THE ROW CLOSURE, for every solver and curve table: gather the hits curve by curve (`rowRaw`: bounding-box test, solver
    parameters, `x = curve_x(t)`), sort them by x, and apply `rowOf`; the sorted list is a sorted permutation of the hits -/
theorem row_closure_eq (solve : K → K → K → K → K → List K) (curves : List (CurveRow K)) (y : K) :
    row_intercepts solve curves y = rowOf curves (listSortBy leX (rowRaw solve curves y)) ∧
    (listSortBy leX (rowRaw solve curves y)).Perm (rowRaw solve curves y) ∧
    SortedX (listSortBy leX (rowRaw solve curves y)) :=
  ⟨row_intercepts_eq solve curves y, listSortBy_perm _ _, sortedX_sort _⟩

/-- for ANY sorted arrangement `s` of the hits (whatever order the unstable sort leaves equal positions in) -/
theorem row_ranges_wellformed (curves : List (CurveRow K)) (s : List (InterceptT K)) (hs : SortedX s) (y sc : K) (w : Nat) :
    (∀ r ∈ raycast_intercepts_on_line (fun _ => rowOf curves s) y sc w, 0 ≤ r.start ∧ r.start < r.end_ ∧ r.end_ ≤ (w : K)) ∧
    (raycast_intercepts_on_line (fun _ => rowOf curves s) y sc w).Pairwise (fun a b => a.end_ ≤ b.start ∧ a.start < b.start) :=
  ⟨clip_ranges_inside _ y sc w,
   clip_keeps_order _ y sc w (pairRanges_ordered _ (hs.sublist (remove_duplicates_sublist curves s).1).map)⟩

/-- ROWS, EVEN-ODD MEMBERSHIP, for ANY sorted arrangement `s` of the hits: `x` is in a returned range iff `0 ≤ x < width`,
    the number of hits KEPT by `remove_duplicate_intercepts` at or left of `x` is odd, and - when an odd number of hits is
    kept - `x` is left of the last kept hit -/
theorem row_membership (curves : List (CurveRow K)) (s : List (InterceptT K)) (hs : SortedX s) (y sc : K) (w : Nat) (x : K) :
    inRanges x (raycast_intercepts_on_line (fun _ => rowOf curves s) y sc w) ↔
      (0 ≤ x ∧ x < (w : K)) ∧
      countLe x ((remove_duplicate_intercepts curves s).map (·.x_pos)) % 2 = 1 ∧
      ((remove_duplicate_intercepts curves s).length % 2 = 0 ∨
        ∀ z ∈ ((remove_duplicate_intercepts curves s).map (·.x_pos)).getLast?, x < z) := by
  rw [clip_membership, rowOf, pairs_parity x _ (hs.sublist (remove_duplicates_sublist curves s).1).map, List.length_map]
  exact and_comm

theorem interceptsOnLine_eq (solve : K → K → K → K → K → List K) (curves : List (CurveRow K)) (w : Nat) (y : K) :
    interceptsOnLine solve curves w y =
      raycast_intercepts_on_line (fun _ => rowOf curves (listSortBy leX (rowRaw solve curves y))) y 1 w := by
  simp only [interceptsOnLine, raycast_intercepts_on_line, lit1, row_intercepts_eq, mul_one, rowOf]

/-- `intercepts_on_line`, SHAPE, unconditionally: for every solver (whatever it answers), curve table, width and `y` the
    returned ranges are inside `[0, width]`, non-empty, strictly ascending and disjoint -/
theorem intercepts_on_line_wellformed (solve : K → K → K → K → K → List K) (curves : List (CurveRow K)) (w : Nat) (y : K) :
    (∀ r ∈ interceptsOnLine solve curves w y, 0 ≤ r.start ∧ r.start < r.end_ ∧ r.end_ ≤ (w : K)) ∧
    (interceptsOnLine solve curves w y).Pairwise (fun a b => a.end_ ≤ b.start ∧ a.start < b.start) := by
  rw [interceptsOnLine_eq]
  exact row_ranges_wellformed curves _ (sortedX_sort _) y 1 w

/-- `intercepts_on_line`, EVEN-ODD MEMBERSHIP: with `kept` the hits of the scanline after sorting and duplicate removal,
    `x` is in a returned range iff `0 ≤ x < width`, an odd number of kept hits lies at or left of `x`, and `x` is left of the
    last kept hit if their number is odd -/
theorem intercepts_on_line_membership (solve : K → K → K → K → K → List K) (curves : List (CurveRow K)) (w : Nat) (y x : K) :
    let kept := remove_duplicate_intercepts curves (listSortBy leX (rowRaw solve curves y))
    inRanges x (interceptsOnLine solve curves w y) ↔
      (0 ≤ x ∧ x < (w : K)) ∧ countLe x (kept.map (·.x_pos)) % 2 = 1 ∧
      (kept.length % 2 = 0 ∨ ∀ z ∈ (kept.map (·.x_pos)).getLast?, x < z) := by
  rw [interceptsOnLine_eq]
  exact row_membership curves _ (sortedX_sort _) y 1 w x

/-- GENERIC SCANLINES: if no two hits satisfy the duplicate condition and their number is even, `x` is in a returned range iff
    `0 ≤ x < width` and the number of solver hits at or left of `x` is odd -/
theorem intercepts_on_line_generic (solve : K → K → K → K → K → List K) (curves : List (CurveRow K)) (w : Nat) (y x : K)
    (hdup : ∀ a ∈ rowRaw solve curves y, ∀ b ∈ rowRaw solve curves y, dupPair curves a b = false)
    (heven : (rowRaw solve curves y).length % 2 = 0) :
    inRanges x (interceptsOnLine solve curves w y) ↔
      (0 ≤ x ∧ x < (w : K)) ∧ countLe x ((rowRaw solve curves y).map (·.x_pos)) % 2 = 1 := by
  have hp := listSortBy_perm (leX (K := K)) (rowRaw solve curves y)
  have hun : remove_duplicate_intercepts curves (listSortBy leX (rowRaw solve curves y)) = listSortBy leX (rowRaw solve curves y) :=
    remove_duplicates_untouched curves _ (fun a ha b hb => hdup a (hp.subset ha) b (hp.subset hb))
  have h := intercepts_on_line_membership solve curves w y x
  simp only [hun] at h
  rw [h, countLe_perm (hp.map _), hp.length_eq]
  simp [heven]

/-- non-vacuity: one diamond (vertices (0,10), (10,20), (20,10), (10,0)), a generic row and the row through two vertices -/
example : interceptsOnLine lineSolve (diamond 10 10 10) 100 5 = [⟨5, 15⟩] := by decide +kernel
example : interceptsOnLine lineSolve (diamond 10 10 10) 100 10 = [⟨0, 20⟩] := by decide +kernel
/-- clipping to a width of 12 -/
example : interceptsOnLine lineSolve (diamond 10 10 10) 12 10 = [⟨0, 12⟩] := by decide +kernel

/-- FINDING (closing joint of a sub-path): two diamonds side by side - (0,10),(10,20),(20,10),(10,0) and
    (30,10),(40,20),(50,10),(40,0) - scanned at `y = 10` through their start vertices.  By the even-odd rule the inside is
    `[0,20) ∪ [30,50)`.  The joint at (0,10) closes the first sub-path: its curves have indices 0 and 3 of 8 and are not
    neighbours, both hits are kept; likewise at (30,10).  The model - and the real `PathContour` (correspondence run, fixed
    scene 2) - answers `[20,30) ∪ [30,50)`: the point (5,10) inside the first diamond is reported outside and the point
    (25,10) between the diamonds inside.  The first diamond alone is scanned correctly. -/
theorem closing_joint_witness :
    interceptsOnLine lineSolve (diamond 10 10 10 ++ diamond 40 10 10) 100 10 = [⟨20, 30⟩, ⟨30, 50⟩] ∧
    interceptsOnLine lineSolve (diamond 10 10 10) 100 10 = [⟨0, 20⟩] ∧
    ¬ inRanges 5 (interceptsOnLine lineSolve (diamond 10 10 10 ++ diamond 40 10 10) 100 10) ∧
    inRanges 25 (interceptsOnLine lineSolve (diamond 10 10 10 ++ diamond 40 10 10) 100 10) := by
  have h1 : interceptsOnLine lineSolve (diamond 10 10 10 ++ diamond 40 10 10) 100 10 = [⟨20, 30⟩, ⟨30, 50⟩] := by decide +kernel
  refine ⟨h1, by decide +kernel, ?_, ?_⟩
  · rw [h1]; simp only [inRanges, InR, List.mem_cons, List.not_mem_nil, or_false, exists_eq_or_imp, exists_eq_left]; norm_num
  · rw [h1]; simp only [inRanges, InR, List.mem_cons, List.not_mem_nil, or_false, exists_eq_or_imp, exists_eq_left]; norm_num

/-! ## columns: `PathContour::intercepts_on_column` -/

/-- THE COLUMN CLOSURE, for every solver and curve table: the positions `curve_y(t)` of the solver parameters `t > 0` of
    every curve whose bounding box contains `x`, sorted and paired - no duplicate removal -/
theorem column_closure_eq (solve : K → K → K → K → K → List K) (curves : List (CurveRow K)) (x : K) :
    column_intercepts solve curves x = pairRanges (listSortBy (fun a b => ftotalLe a b) (curves.flatMap (colHits solve x))) := by
  unfold column_intercepts
  simp only [foldlT]
  rw [foldl_skip_append]
  simp only [pairRanges, List.nil_append]
  rfl

/-- `intercepts_on_column`, SHAPE, unconditionally: inside `[0, height]`, non-empty, strictly ascending, disjoint -/
theorem intercepts_on_column_wellformed (solve : K → K → K → K → K → List K) (curves : List (CurveRow K)) (h : Nat) (x : K) :
    (∀ r ∈ interceptsOnColumn solve curves h x, 0 ≤ r.start ∧ r.start < r.end_ ∧ r.end_ ≤ (h : K)) ∧
    (interceptsOnColumn solve curves h x).Pairwise (fun a b => a.end_ ≤ b.start ∧ a.start < b.start) := by
  refine ⟨clip_ranges_inside _ x _ h, clip_keeps_order _ x _ h ?_⟩
  rw [column_closure_eq]
  exact pairRanges_ordered _ (sortedK_sort _)

/-- `intercepts_on_column`, EVEN-ODD MEMBERSHIP on the column's hits (all of them: nothing is removed): `y` is in a returned
    range iff `0 ≤ y < height`, an odd number of hits lies at or below `y`, and `y` is below the topmost hit if their number is odd -/
theorem intercepts_on_column_membership (solve : K → K → K → K → K → List K) (curves : List (CurveRow K)) (h : Nat) (x y : K) :
    let hits := listSortBy (fun a b => ftotalLe a b) (curves.flatMap (colHits solve x))
    inRanges y (interceptsOnColumn solve curves h x) ↔
      (0 ≤ y ∧ y < (h : K)) ∧ countLe y hits % 2 = 1 ∧ (hits.length % 2 = 0 ∨ ∀ z ∈ hits.getLast?, y < z) := by
  intro hits
  simp only [interceptsOnColumn]
  rw [clip_membership, lit1, mul_one, column_closure_eq, pairs_parity y _ (sortedK_sort _)]
  exact and_comm

/-- COLUMN = ROW OF THE TRANSPOSED PATHS, UP TO TWO DIFFERENCES, for every solver, curve table and position: the column
    closure is what the row closure computes on the transposed curve table if `remove_duplicate_intercepts` is skipped and
    hits with `t = 0` are dropped before sorting -/
theorem column_is_transposed_row_without_dedupe (solve : K → K → K → K → K → List K) (curves : List (CurveRow K)) (x : K) :
    column_intercepts solve curves x =
      pairRanges (listSortBy (fun a b => ftotalLe a b)
        (((rowRaw solve (transpose curves) x).filter (fun h => decide (h.t > (0.0 : K)))).map (·.x_pos))) := by
  rw [column_closure_eq, colRaw_eq_rowRaw_transpose]

/-- where the two differences do not matter - no hit of the transposed row has `t ≤ 0` and no two of them satisfy the
    duplicate condition - `intercepts_on_column` IS `intercepts_on_line` of the transposed paths -/
theorem column_eq_transposed_row (solve : K → K → K → K → K → List K) (curves : List (CurveRow K)) (n : Nat) (x : K)
    (ht : ∀ h ∈ rowRaw solve (transpose curves) x, (0 : K) < h.t)
    (hdup : ∀ a ∈ rowRaw solve (transpose curves) x, ∀ b ∈ rowRaw solve (transpose curves) x,
      dupPair (transpose curves) a b = false) :
    interceptsOnColumn solve curves n x = interceptsOnLine solve (transpose curves) n x := by
  have hp := listSortBy_perm (leX (K := K)) (rowRaw solve (transpose curves) x)
  have hun := remove_duplicates_untouched (transpose curves) _ (fun a ha b hb => hdup a (hp.subset ha) b (hp.subset hb))
  have hfil : (rowRaw solve (transpose curves) x).filter (fun h => decide (h.t > (0.0 : K))) = rowRaw solve (transpose curves) x := by
    rw [List.filter_eq_self]; intro h hh; simpa [lit0] using ht h hh
  have hrow := row_intercepts_eq solve (transpose curves)
  have hcol := column_is_transposed_row_without_dedupe solve curves
  simp only [interceptsOnColumn, interceptsOnLine, raycast_intercepts_on_line, lit1, mul_one]
  rw [hcol, hrow, hfil, hun, map_listSortBy (·.x_pos) leX (fun a b => ftotalLe a b) (fun a b => rfl)]

/-- FINDING (columns differ from the transposed rows): diamond (0,10),(10,20),(20,10),(10,0) plus a second diamond
    (-5,40),(10,55),(25,40),(10,25); the column `x = 0` passes through the first diamond's left vertex (an extremum in x: the
    boundary touches the column) and through the second diamond between y = 35 and y = 45.  `intercepts_on_column` keeps
    one hit at the vertex (the `t = 0` hit of the other curve is dropped) and answers `[10,35)` - wrong by the even-odd rule,
    which gives `[35,45)`; `intercepts_on_line` of the transposed paths answers `[35,45)`.  Same on the real code
    (correspondence run, fixed scene 3). -/
theorem column_differs_from_transposed_row :
    interceptsOnColumn lineSolve (diamond 10 10 10 ++ diamond 10 40 15) 100 0 = [⟨10, 35⟩] ∧
    interceptsOnLine lineSolve (transpose (diamond 10 10 10 ++ diamond 10 40 15)) 100 0 = [⟨35, 45⟩] := by
  constructor <;> decide +kernel

/-- non-vacuity of `column_eq_transposed_row`: a generic column of the same scene -/
example : interceptsOnColumn lineSolve (diamond 10 10 10 ++ diamond 10 40 15) 100 5 = [⟨5, 15⟩, ⟨30, 50⟩] ∧
    interceptsOnLine lineSolve (transpose (diamond 10 10 10 ++ diamond 10 40 15)) 100 5 = [⟨5, 15⟩, ⟨30, 50⟩] := by
  constructor <;> decide +kernel

/-! ## solve_basis_for_t -/

/-- WHICH PARAMETERS `solve_basis_for_t` RETURNS, for every pair of root finders: with `S` the answer of the finder the code
    selects (the quadratic one iff `|a| < 1e-8`) for the coefficients `a, b, c, d` it computes, `r` is returned iff it is 0 and
    `w1 = p`, or 1 and `w4 = p`, or a member of `S` strictly inside (0,1) that is more than 1e-6 away from an end of the curve
    lying exactly on `p` -/
theorem solve_basis_mem (fq : K → K → K → List K) (fc : K → K → K → K → List K) (w1 w2 w3 w4 p r : K) :
    let d := w1 - p
    let c := 3 * (w2 - w1)
    let b := 3 * (w3 - w2) - c
    let a := w4 - w1 - c - b
    let S := if |a| < 0.00000001 then fq b c d else fc a b c d
    r ∈ solve_basis_for_t fq fc w1 w2 w3 w4 p ↔
      (r = 0 ∧ w1 = p) ∨ (r = 1 ∧ w4 = p) ∨
      (r ∈ S ∧ 0 < r ∧ r < 1 ∧ (w1 = p → 1e-6 < r) ∧ (w4 = p → r < 1 - 1e-6)) := by
  intro d c b a S
  have hz : (0 : K) < 1 - 1e-6 := by norm_num
  unfold solve_basis_for_t
  simp only []
  rw [mem_ite_filter_append, List.insertIdx_zero, mem_ite_filter_cons, List.mem_filter]
  simp only [beq_iff_eq, decide_eq_true_eq, Bool.and_eq_true, fabs_eq, lit0, lit1, lit3, gt_iff_lt]
  constructor
  · rintro (h | ⟨⟨rfl, h1⟩ | ⟨⟨hS, h0, h1⟩, ha⟩, hb⟩)
    exacts [Or.inr (Or.inl h), Or.inl ⟨rfl, h1⟩, Or.inr (Or.inr ⟨hS, h0, h1, ha, hb⟩)]
  · rintro (⟨rfl, h1⟩ | h | ⟨hS, h0, h1, ha, hb⟩)
    exacts [Or.inr ⟨Or.inl ⟨rfl, h1⟩, fun _ => hz⟩, Or.inl h, Or.inr ⟨Or.inr ⟨⟨hS, h0, h1⟩, ha⟩, hb⟩]

/-- the polynomial the finders are asked about is the curve's coordinate minus `p` -/
theorem solve_basis_polynomial (w1 w2 w3 w4 p t : K) :
    let d := w1 - p
    let c := 3 * (w2 - w1)
    let b := 3 * (w3 - w2) - c
    let a := w4 - w1 - c - b
    a * t ^ 3 + b * t ^ 2 + c * t + d = basis t w1 w2 w3 w4 - p := by
  simp only [basis, lit1, lit3]; ring

/-- every returned parameter is in `[0, 1]` -/
theorem solve_basis_in_unit (fq : K → K → K → List K) (fc : K → K → K → K → List K) (w1 w2 w3 w4 p r : K)
    (h : r ∈ solve_basis_for_t fq fc w1 w2 w3 w4 p) : 0 ≤ r ∧ r ≤ 1 := by
  rcases (solve_basis_mem fq fc w1 w2 w3 w4 p r).1 h with ⟨rfl, _⟩ | ⟨rfl, _⟩ | ⟨_, h0, h1, _⟩
  · exact ⟨le_refl _, zero_le_one⟩
  · exact ⟨zero_le_one, le_refl _⟩
  · exact ⟨le_of_lt h0, le_of_lt h1⟩

/-- SOUNDNESS on the cubic branch: if the cubic finder returns only roots of the polynomial it is given and the leading
    coefficient is at least 1e-8 in size, every returned parameter is a point where the curve's coordinate equals `p` -/
theorem solve_basis_sound (fq : K → K → K → List K) (fc : K → K → K → K → List K) (w1 w2 w3 w4 p r : K)
    (hfc : ∀ a b c d x, x ∈ fc a b c d → a * x ^ 3 + b * x ^ 2 + c * x + d = 0)
    (ha : ¬ |w4 - w1 - 3 * (w2 - w1) - (3 * (w3 - w2) - 3 * (w2 - w1))| < 0.00000001)
    (h : r ∈ solve_basis_for_t fq fc w1 w2 w3 w4 p) : basis r w1 w2 w3 w4 = p := by
  rcases (solve_basis_mem fq fc w1 w2 w3 w4 p r).1 h with ⟨rfl, h1⟩ | ⟨rfl, h4⟩ | ⟨hS, _⟩
  · rw [basis_zero, h1]
  · rw [basis_one, h4]
  · rw [if_neg ha] at hS
    exact sub_eq_zero.1 ((solve_basis_polynomial w1 w2 w3 w4 p r).symm.trans (hfc _ _ _ _ r hS))

/-- COMPLETENESS on the cubic branch: if the cubic finder returns every root of a polynomial with non-zero leading
    coefficient and the leading coefficient is at least 1e-8 in size, every `t ∈ [0,1]` where the curve's coordinate equals `p`
    is returned - except parameters within 1e-6 of an end of the curve that lies exactly on `p` (they are merged into the end) -/
theorem solve_basis_complete (fq : K → K → K → List K) (fc : K → K → K → K → List K) (w1 w2 w3 w4 p t : K)
    (hfc : ∀ a b c d x, a ≠ 0 → a * x ^ 3 + b * x ^ 2 + c * x + d = 0 → x ∈ fc a b c d)
    (ha : ¬ |w4 - w1 - 3 * (w2 - w1) - (3 * (w3 - w2) - 3 * (w2 - w1))| < 0.00000001)
    (h0 : 0 ≤ t) (h1 : t ≤ 1) (ht : basis t w1 w2 w3 w4 = p) :
    t ∈ solve_basis_for_t fq fc w1 w2 w3 w4 p ∨ (w1 = p ∧ 0 < t ∧ t ≤ 1e-6) ∨ (w4 = p ∧ 1 - 1e-6 ≤ t ∧ t < 1) := by
  have hpoly := solve_basis_polynomial w1 w2 w3 w4 p t
  simp only at hpoly
  rw [ht, sub_self] at hpoly
  have hane := abs_pos.1 ((by norm_num : (0 : K) < 0.00000001).trans_le (not_lt.1 ha))
  have hm := solve_basis_mem fq fc w1 w2 w3 w4 p t
  simp only [if_neg ha] at hm
  rw [hm]
  rcases eq_or_lt_of_le h0 with rfl | h0'
  · exact Or.inl (Or.inl ⟨rfl, by rw [← ht, basis_zero]⟩)
  rcases eq_or_lt_of_le h1 with rfl | h1'
  · exact Or.inl (Or.inr (Or.inl ⟨rfl, by rw [← ht, basis_one]⟩))
  by_cases hA : w1 = p ∧ t ≤ 1e-6
  · right; left; exact ⟨hA.1, h0', hA.2⟩
  by_cases hB : w4 = p ∧ 1 - 1e-6 ≤ t
  · right; right; exact ⟨hB.1, hB.2, h1'⟩
  left; right; right
  refine ⟨hfc _ _ _ _ t hane hpoly, h0', h1', ?_, ?_⟩
  · intro h; exact not_le.1 (fun hle => hA ⟨h, hle⟩)
  · intro h; exact not_le.1 (fun hle => hB ⟨h, hle⟩)

/-- THE QUADRATIC BRANCH IS AN APPROXIMATION: for `|a| < 1e-8` the cubic term is dropped; if the quadratic finder returns only
    roots of `b t² + c t + d`, a returned parameter strictly inside (0,1) misses `p` by less than 1e-8 (and need not hit it) -/
theorem solve_basis_quadratic_residual (fq : K → K → K → List K) (fc : K → K → K → K → List K) (w1 w2 w3 w4 p r : K)
    (hfq : ∀ b c d x, x ∈ fq b c d → b * x ^ 2 + c * x + d = 0)
    (ha : |w4 - w1 - 3 * (w2 - w1) - (3 * (w3 - w2) - 3 * (w2 - w1))| < 0.00000001)
    (h : r ∈ solve_basis_for_t fq fc w1 w2 w3 w4 p) (hr0 : 0 < r) (hr1 : r < 1) :
    |basis r w1 w2 w3 w4 - p| < 0.00000001 := by
  have hpoly := solve_basis_polynomial w1 w2 w3 w4 p r
  rcases (solve_basis_mem fq fc w1 w2 w3 w4 p r).1 h with ⟨rfl, _⟩ | ⟨rfl, _⟩ | ⟨hS, _⟩
  · exact absurd hr0 (lt_irrefl _)
  · exact absurd hr1 (lt_irrefl _)
  · rw [if_pos ha] at hS
    simp only at hpoly
    -- the curve misses `p` by the dropped cubic term `a r³`
    have e : ∀ a b c d : K, b * r ^ 2 + c * r + d = 0 → a * r ^ 3 + b * r ^ 2 + c * r + d = a * r ^ 3 :=
      fun a b c d h => by rw [add_assoc, add_assoc, ← add_assoc (b * r ^ 2), h, add_zero]
    rw [← hpoly, e _ _ _ _ (hfq _ _ _ r hS), abs_mul, abs_of_pos (pow_pos hr0 3)]
    exact (mul_le_of_le_one_right (abs_nonneg _) (pow_le_one₀ hr0.le hr1.le)).trans_lt ha

/-- non-vacuity: the straight coordinate 0, 1, 2, 3 (a = b = 0: quadratic branch) with an exact linear finder; `p = 3/2` gives
    `t = 1/2`, `p = 3` gives the end `t = 1` -/
example : solve_basis_for_t (K := ℚ) (fun _ c d => [-d / c]) (fun _ _ _ _ => []) 0 1 2 3 (3/2) = [1/2] := by decide +kernel
example : solve_basis_for_t (K := ℚ) (fun _ c d => [-d / c]) (fun _ _ _ _ => []) 0 1 2 3 3 = [1] := by decide +kernel

/-! ## generic scanlines: the hits are exactly the crossings -/

/-- the leading coefficient `solve_basis_for_t` computes from the control values `w` -/
def leadCoeff (w : T4 K K K K) : K := w.t3 - w.t0 - 3 * (w.t1 - w.t0) - (3 * (w.t2 - w.t1) - 3 * (w.t1 - w.t0))

/-- THE HITS OF A SCANLINE ARE EXACTLY ITS CROSSINGS, each once - relative to the contract of the external cubic finder
    (returns exactly the real roots, each once) - for every curve table whose y polynomials take the cubic branch
    (`|a| ≥ 1e-8`), whose bounding boxes contain their curves in y, and every `y` that is not the y of a curve end point:
    the list gathered by the row closure has no repetition and contains `⟨i, t, x⟩` iff curve `i` exists, `0 < t < 1`,
    `curve_y_i(t) = y` and `x = curve_x_i(t)`.  Together with `intercepts_on_line_membership` / `_generic` this is the
    even-odd crossing rule for generic scanlines; what it does not cover is precisely the property's hard part (scanlines
    through vertices and tangent points, where `remove_duplicate_intercepts` has to repair the count) -/
theorem row_hits_are_the_crossings (fq : K → K → K → List K) (fc : K → K → K → K → List K) (curves : List (CurveRow K)) (y : K)
    (hsound : ∀ a b c d x, x ∈ fc a b c d → a * x ^ 3 + b * x ^ 2 + c * x + d = 0)
    (hcomplete : ∀ a b c d x, a ≠ 0 → a * x ^ 3 + b * x ^ 2 + c * x + d = 0 → x ∈ fc a b c d)
    (hnodup : ∀ a b c d, (fc a b c d).Nodup)
    (hcubic : ∀ c ∈ curves, ¬ |leadCoeff c.t1| < 0.00000001)
    (hbox : ∀ c ∈ curves, ∀ t, 0 ≤ t → t ≤ 1 →
      c.t2.t0.y ≤ basis t c.t1.t0 c.t1.t1 c.t1.t2 c.t1.t3 ∧ basis t c.t1.t0 c.t1.t1 c.t1.t2 c.t1.t3 ≤ c.t2.t1.y)
    (hends : ∀ c ∈ curves, c.t1.t0 ≠ y ∧ c.t1.t3 ≠ y) :
    (rowRaw (solve_basis_for_t fq fc) curves y).Nodup ∧
    ∀ h : InterceptT K, h ∈ rowRaw (solve_basis_for_t fq fc) curves y ↔
      ∃ c, curves[h.curve_idx]? = some c ∧ 0 < h.t ∧ h.t < 1 ∧ basis h.t c.t1.t0 c.t1.t1 c.t1.t2 c.t1.t3 = y ∧
        h.x_pos = basis h.t c.t0.t0 c.t0.t1 c.t0.t2 c.t0.t3 := by
  have hsolve : ∀ c ∈ curves, ∀ t, t ∈ solve_basis_for_t fq fc c.t1.t0 c.t1.t1 c.t1.t2 c.t1.t3 y ↔
      0 < t ∧ t < 1 ∧ basis t c.t1.t0 c.t1.t1 c.t1.t2 c.t1.t3 = y := by
    intro c hc t
    obtain ⟨he0, he1⟩ := hends c hc
    constructor
    · intro h
      have hb := solve_basis_sound fq fc _ _ _ _ y t hsound (hcubic c hc) h
      rcases (solve_basis_mem fq fc _ _ _ _ y t).1 h with ⟨_, h1⟩ | ⟨_, h4⟩ | ⟨_, h0, h1, _⟩
      exacts [absurd h1 he0, absurd h4 he1, ⟨h0, h1, hb⟩]
    · rintro ⟨h0, h1, hb⟩
      rcases solve_basis_complete fq fc _ _ _ _ y t hcomplete (hcubic c hc) h0.le h1.le hb with h | ⟨h, _⟩ | ⟨h, _⟩
      exacts [h, absurd h he0, absurd h he1]
  -- with both ends off the scanline the answer is a filtered answer of the cubic finder
  have hnd : ∀ c ∈ curves, (solve_basis_for_t fq fc c.t1.t0 c.t1.t1 c.t1.t2 c.t1.t3 y).Nodup := by
    intro c hc
    have hcub := hcubic c hc
    simp only [leadCoeff] at hcub
    simp only [solve_basis_for_t, fabs_eq, lit3, beq_iff_eq, (hends c hc).1, (hends c hc).2, if_false, decide_eq_true_eq,
      if_neg hcub]
    exact (hnodup _ _ _ _).filter _
  refine ⟨nodup_rowRaw _ curves y hnd, fun h => ?_⟩
  rw [mem_rowRaw]
  constructor
  · rintro ⟨c, hget, _, ht, _, hx⟩
    obtain ⟨h0, h1, hb⟩ := (hsolve c (List.mem_of_getElem? hget) h.t).1 ht
    exact ⟨c, hget, h0, h1, hb, hx⟩
  · rintro ⟨c, hget, h0, h1, hb, hx⟩
    have hc : c ∈ curves := List.mem_of_getElem? hget
    have hin := hbox c hc h.t h0.le h1.le
    rw [hb] at hin
    exact ⟨c, hget, fun ho => ho.elim (not_lt.2 hin.1) (not_lt.2 hin.2), (hsolve c hc h.t).2 ⟨h0, h1, hb⟩, Or.inl h0.le, hx⟩

/-- non-vacuity of the description: the row `y = 5` of the diamond hits curve 2 at `t = 1/2`, `x = 15` and curve 3 at `t = 1/2`,
    `x = 5` (curves 0 and 1 lie above `y = 10`: bounding-box test) - computed by the generated gather with the exact line solver -/
example : rowRaw lineSolve (diamond 10 10 10) 5 = [⟨2, 1/2, 15⟩, ⟨3, 1/2, 5⟩] := by decide +kernel

end C16
