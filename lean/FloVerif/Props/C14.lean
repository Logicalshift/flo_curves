/-
C14  Ray casting against a closed path is ordered and has even parity.

The side test `ray_can_intersect`, `curve_is_collinear`, `crossing_edges`, the collinear-section
filters, `collision_is_at_start/end`, `edges_are_glancing`, the tangent filter `remove_tangent_collisions`,
`flag_collisions_at_intersections`, the sort comparator (closure of `ray_collisions`, here `collision_order`),
`edges_overlap`, `control_points_overlap`, `ray_tangent_at_pos`, `ray_normal_at_pos`, `to_unit_vector`, `Line::pos_for_point` and the
`RayPath` implementation of `GraphPath` are regenerated from src/bezier/path/ray.rs, graph_path/ray_collision.rs,
graph_path/edge.rs, bezier/normal.rs, geo/coordinate.rs, line/line.rs on every check (`Gen/Ray.lean`).  The bookkeeping
loop of `crossing_and_collinear_collisions`, the stateful closure of `filter_collisions_near_vertices`, the composition of
the pipeline and the stable sort are the literal hand model `Model/Ray.lean`, which the correspondence run executes at
`Float` against the real `GraphPath::ray_collisions` (bit-exact).  `curve_intersects_ray` is C04's: here it is the
parameter `cir` (hits per edge), instantiated with C04's generated definition where geometry is concluded.

Number model: `K` is any linearly ordered field, `f64::abs` is `|·|`, `f64::signum` gives a zero the sign `+1` (IEEE `+0.0`;
a field has no `-0.0`), `f64::sqrt` (`FSqrt K`) and `f64::EPSILON` (`FConsts K`) are arbitrary unless a hypothesis says
otherwise.  NaN is outside the model (`partial_cmp` never fails).

Findings recorded as theorems:
* `edges_overlap_not_symmetric`, `comparator_not_antisymmetric`: `control_points_overlap` compares SIGNED distances with
  `SMALL_DISTANCE` (no `abs`) and tests `cp2_b` twice (never `cp1_b`), so `edges_overlap(a,b)` and `edges_overlap(b,a)`
  can differ; the comparator then answers `Less` for both argument orders.
* `control_points_overlap_far_apart`: curves whose control points are 49 and 51 units apart "overlap".
* `comparator_not_transitive`: even with a symmetric overlap test the mix of line position (outside the 0.001 window) and
  edge priority (inside it) is not transitive.
-/
import FloVerif.Lemmas.RayParity
import FloVerif.Lemmas.RaySort
import FloVerif.Lemmas.RaySide
import FloVerif.Lemmas.RayPipeline
import FloVerif.Lemmas.RayHits
import FloVerif.Lemmas.RayCoeffs
import FloVerif.Lemmas.RayExample

set_option linter.unusedSectionVars false
namespace C14
open Prelude Gen Model.Ray RaySide RaySort RayPipeline RayParity RayHits

section Field
variable {K : Type} [Field K] [LinearOrder K] [IsStrictOrderedRing K] [Inhabited K] [FSqrt K] [FConsts K]

local instance : FAbs K := ⟨fun a => |a|⟩
local instance : FSignum K := ⟨fun a => if a < 0 then -1 else 1⟩
local instance : OfInt K := ⟨fun n => (n : K)⟩

/-- **Soundness of the side test.**  When `ray_can_intersect` answers `WrongSide` the signed distance `a x + b y + c` of the
    edge's points from the ray does not change sign on the whole edge: either it is `≥ 0` for every parameter in [0,1] or it is
    `< 0` for every parameter in [0,1].  Both end points then lie on one side.  So no transversal crossing is ever pruned; what
    can be pruned is a touch from the non-negative side (distance exactly 0 without a sign change). -/
theorem wrong_side_sound (e : Curve4 K) (co : T3 K K K) (h : ray_can_intersect e co = RayCanIntersect.WrongSide) :
    (∀ t : K, 0 ≤ t → t ≤ 1 → 0 ≤ sdist co (pointAt e t)) ∨ (∀ t : K, 0 ≤ t → t ≤ 1 → sdist co (pointAt e t) < 0) := by
  rcases wrong_side_signs e co h with ⟨a0, a1, a2, a3⟩ | ⟨a0, a1, a2, a3⟩
  · left; intro t h0 h1; rw [dist_pointAt]; exact FatLineLemmas.bern_nonneg t _ _ _ _ h0 h1 a0 a1 a2 a3
  · right; intro t h0 h1; rw [dist_pointAt]
    exact (bern_le_max t _ _ _ _ h0 h1).trans_lt (max_lt (max_lt a0 a1) (max_lt a2 a3))

/-- an edge with points strictly on both sides of the ray is never pruned -/
theorem crossing_not_pruned (e : Curve4 K) (co : T3 K K K) (t₁ t₂ : K) (h1 : 0 ≤ t₁ ∧ t₁ ≤ 1) (h2 : 0 ≤ t₂ ∧ t₂ ≤ 1)
    (hneg : sdist co (pointAt e t₁) < 0) (hpos : 0 < sdist co (pointAt e t₂)) :
    ray_can_intersect e co ≠ RayCanIntersect.WrongSide := by
  intro h
  rcases wrong_side_sound e co h with hh | hh
  · exact absurd (hh t₁ h1.1 h1.2) (not_le.2 hneg)
  · exact absurd (hh t₂ h2.1 h2.2) (not_lt.2 (le_of_lt hpos))

/-- the collinear branches are taken only for an edge whose two end points (graph vertices) are both within `SMALL_DISTANCE`
    (0.001) of the ray -/
theorem collinear_needs_near_vertices (e : Curve4 K) (co : T3 K K K) :
    (ray_can_intersect e co = RayCanIntersect.Collinear ∨ curve_is_collinear e co = true) →
      |sdist co e.t0| < (SMALL_DISTANCE : K) ∧ |sdist co e.t3| < (SMALL_DISTANCE : K) := by
  intro h
  have hc := (cic_unfold e co).1 (h.elim (rci_collinear_iff e co).1 id)
  exact ⟨hc.1, hc.2.1⟩

example : ray_can_intersect (K := ℚ) (T4.mk ⟨0, 1⟩ ⟨1, 2⟩ ⟨2, 2⟩ ⟨3, 1⟩) (T3.mk 0 1 0) = RayCanIntersect.WrongSide := by decide +kernel
example : ray_can_intersect (K := ℚ) (T4.mk ⟨0, 1⟩ ⟨1, 2⟩ ⟨2, -2⟩ ⟨3, -1⟩) (T3.mk 0 1 0) = RayCanIntersect.CrossesRay := by decide +kernel
example : ray_can_intersect (K := ℚ) (T4.mk ⟨0, 0⟩ ⟨1, 0⟩ ⟨2, 0⟩ ⟨3, 0⟩) (T3.mk 0 1 0) = RayCanIntersect.Collinear := by decide +kernel

/-- the generated `RayPath` implementation of `GraphPath` satisfies `Precondition.ends` on every forward reference -/
theorem graph_path_ends (g : GraphPathM K) (e : EdgeRef) (he : e.reverse = false) :
    ((rayPathOf g).get_edge e).t0 = (rayPathOf g).point_position ((rayPathOf g).edge_start_point_idx e) ∧
    ((rayPathOf g).get_edge e).t3 = (rayPathOf g).point_position ((rayPathOf g).edge_end_point_idx e) :=
  rayPathOf_ends g e he

/-- every reference the loops of `ray_collisions` enumerate is a forward reference -/
theorem allEdgeRefs_forward (path : RayPathI K) (e : EdgeRef) (he : e ∈ allEdgeRefs path) : e.reverse = false :=
  allEdgeRefs_reverse_false path e he

/-- an edge whose start vertex is at least `SMALL_DISTANCE` from the ray passes neither collinearity test -/
theorem far_start_not_collinear (e : Curve4 K) (co : T3 K K K) (h : (SMALL_DISTANCE : K) ≤ |sdist co e.t0|) :
    curve_is_collinear e co = false ∧ ray_can_intersect e co ≠ RayCanIntersect.Collinear :=
  ⟨not_collinear_of_far_start e co h, fun hc =>
    Bool.false_ne_true ((not_collinear_of_far_start e co h).symm.trans ((rci_collinear_iff e co).1 hc))⟩

/-- Cauchy-Schwarz in the plane against a vector of length at most 1, by Lagrange's identity -/
theorem mul_self_proj_le (a b x y : K) (hn : a * a + b * b ≤ 1) : (a * x + b * y) * (a * x + b * y) ≤ x * x + y * y :=
  calc (a * x + b * y) * (a * x + b * y)
      ≤ (a * x + b * y) * (a * x + b * y) + (a * y - b * x) * (a * y - b * x) := le_add_of_nonneg_right (mul_self_nonneg _)
    _ = (a * a + b * b) * (x * x + y * y) := by ring
    _ ≤ x * x + y * y := mul_le_of_le_one_left (add_nonneg (mul_self_nonneg x) (mul_self_nonneg y)) hn

theorem not_near_of_gap (co : T3 K K K) (hn : co.t0 * co.t0 + co.t1 * co.t1 ≤ 1) (v p : V2 K) (r s ε : K)
    (hv : r ≤ |sdist co v|) (hp : |sdist co p| ≤ s) (hε : 0 ≤ ε) (hgap : ε < r - s) : is_near_to v p ε = false := by
  have hd : sdist co v - sdist co p = co.t0 * (v.x - p.x) + co.t1 * (v.y - p.y) := by simp only [sdist]; ring
  have hge : r - s ≤ |sdist co v - sdist co p| := (sub_le_sub hv hp).trans (abs_sub_abs_le_abs_sub _ _)
  have hsq := mul_self_le_mul_self (hε.trans hgap.le) hge
  rw [abs_mul_abs_self, hd] at hsq
  refine decide_eq_false (not_le.2 ?_)
  show ε * ε < 0.0 + (v.x - p.x) * (v.x - p.x) + (v.y - p.y) * (v.y - p.y)
  rw [lit0, zero_add]
  exact (mul_self_lt_mul_self hε hgap).trans_le (hsq.trans (mul_self_proj_le _ _ _ _ hn))

/-- with normalised coefficients (`a² + b² ≤ 1`) a point within 0.05 of the ray is not `is_near_to` (the distance test of
    `collision_is_at_start/end`) a vertex that is at least 0.1 from the ray -/
theorem far_vertex_not_near (co : T3 K K K) (hn : co.t0 * co.t0 + co.t1 * co.t1 ≤ 1) (v p : V2 K)
    (hv : 1 / 10 ≤ |sdist co v|) (hp : |sdist co p| ≤ 1 / 20) : is_near_to v p (SMALL_DISTANCE : K) = false :=
  not_near_of_gap co hn v p _ _ _ hv hp (by norm_num [SMALL_DISTANCE]) (by norm_num [SMALL_DISTANCE])

/-- **The filters are inert under the precondition.**  The collinear bookkeeping finds nothing, the two collinear-section filters,
    the vertex de-duplication / glancing filter and the tangent filter are the identity: before the sort the collisions are exactly
    the solver's hits on the edges that pass the side test, in edge order, each flagged `SingleEdge`/`Intersection`. -/
theorem filters_inert (path : RayPathI K) (ray : T2 (V2 K) (V2 K)) (cir : EdgeRef → List (T3 K K (V2 K)))
    (pre : Precondition path ray cir) :
    ray_collisions_unsorted path ray cir =
      flag_collisions_at_intersections path ((allEdgeRefs path).flatMap (rawOf path (line_coefficients_2d ray) cir)) :=
  unsorted_inert path ray cir pre

/-- under the precondition every collision that `ray_collisions` returns is a hit of `curve_intersects_ray` on the edge it names
    (an edge of the graph that passes the side test), with the hit's curve parameter, line position and point unchanged; it is
    flagged `Intersection` only for a parameter `≤ 0` -/
theorem collisions_come_from_hits (path : RayPathI K) (ray : T2 (V2 K) (V2 K)) (cir : EdgeRef → List (T3 K K (V2 K)))
    (pre : Precondition path ray cir) (c : Collision K) (hc : c ∈ ray_collisions path ray cir) :
    ∃ e ∈ allEdgeRefs path, ray_can_intersect (path.get_edge e) (line_coefficients_2d ray) = RayCanIntersect.CrossesRay ∧
      ∃ h ∈ cir e, c.t0.edge = e ∧ c.t1 = h.t0 ∧ c.t2 = h.t1 ∧ c.t3 = h.t2 ∧
        (c.t0 = GraphRayCollision.SingleEdge e ∨ (c.t0 = GraphRayCollision.Intersection e ∧ c.t1 ≤ 0)) := by
  unfold ray_collisions at hc
  rw [mem_sortBy, filters_inert path ray cir pre, flag_eq_map, List.mem_map] at hc
  obtain ⟨x, hx, rfl⟩ := hc
  obtain ⟨e, he, hside, h, hh, rfl⟩ := mem_raw path _ cir x hx
  exact ⟨e, he, hside, h, hh, flagOne_spec path (mkHit e h)⟩

/-- **The vertex filter only removes or re-labels.**  Whatever the input, `filter_collisions_near_vertices` returns at most as many
    collisions as it receives, and each one is an input collision, unchanged, or an input collision whose parameter has become 0, with the
    same line position and the same point (in the code: a crossing exactly on a vertex, moved to the start of the following edge and
    reported once; the statement records the parameter only). -/
theorem vertex_filter_only_removes (path : RayPathI K) (ray : T2 (V2 K) (V2 K)) (cir : EdgeRef → List (T3 K K (V2 K)))
    (l : List (Hit K)) :
    (filter_collisions_near_vertices path ray cir l).length ≤ l.length ∧
    ∀ y ∈ filter_collisions_near_vertices path ray cir l, ∃ x ∈ l, y.t2 = x.t2 ∧ y.t3 = x.t3 ∧ (y = x ∨ y.t1 = 0) :=
  nearVertexLoop_only_removes path _ cir l _

/-- **The tangent filter is a filter with an explicit test**: it returns a sub-list of its input, and it keeps a collision exactly
    when `| |u·τ| - 1 | ≥ 1e-8` for the unit vector `u` of the ray and the unit tangent `τ` of the edge at the collision. -/
theorem tangent_filter_spec (path : RayPathI K) (ray : T2 (V2 K) (V2 K)) (l : List (Hit K)) (x : Hit K) :
    (remove_tangent_collisions path ray l).Sublist l ∧
    (remove_tangent_collisions path ray [x] = [x] ↔
      ¬ (-0.00000001 < |dot (to_unit_vector (line_point_at_pos ray 1 - line_point_at_pos ray 0))
            (to_unit_vector (ray_tangent_at_pos (path.get_edge x.t0) x.t1))| - 1 ∧
          |dot (to_unit_vector (line_point_at_pos ray 1 - line_point_at_pos ray 0))
            (to_unit_vector (ray_tangent_at_pos (path.get_edge x.t0) x.t1))| - 1 < (0.00000001 : K))) :=
  ⟨by unfold remove_tangent_collisions; exact List.filter_sublist, tangent_keep_iff path ray x⟩

/-- the side of the ray a graph vertex lies on -/
def vertexSide (path : RayPathI K) (co : T3 K K K) (v : Nat) : Bool := decide (sdist co (path.point_position v) < 0)

/-- **Sign changes are even in a balanced graph** (collided path graph): if every vertex has as many edges leaving as arriving,
    the number of edges whose end points lie on different sides is even, whatever the sides are. -/
theorem balanced_sign_changes_even (side : Nat → Bool) (edges : List (Nat × Nat)) (h : Balanced edges) :
    changes side edges % 2 = 0 := changes_even side edges h

/-- **Cyclic sign changes are even** (closed path): once round a closed sequence of vertices is a balanced graph. -/
theorem closed_path_sign_changes_even (side : Nat → Bool) (vs : List Nat) : changes side (cyclicEdges vs) % 2 = 0 :=
  balanced_sign_changes_even side _ (cyclic_balanced vs)

/-- the driver's executable test `balancedB` (run on every real graph of the correspondence) implies `Balanced` -/
theorem balanced_checker_sound (edges : List (Nat × Nat)) (h : balancedB edges = true) : Balanced edges := by
  intro v
  unfold balancedB at h
  rw [List.all_eq_true] at h
  by_cases hv : v ∈ edges.map Prod.fst ++ edges.map Prod.snd
  · exact beq_iff_eq.1 (h v hv)
  · rw [List.mem_append, not_or] at hv
    rw [List.count_eq_zero_of_not_mem hv.1, List.count_eq_zero_of_not_mem hv.2]

example : changes (fun v => v % 3 == 0) (cyclicEdges [0, 1, 2, 3, 4, 6]) = 4 := by decide
example : balancedB [(0, 1), (1, 2), (2, 0), (1, 3), (3, 1)] = true := by decide
example : Balanced [(0, 1), (1, 2), (2, 0), (1, 3), (3, 1)] := by decide

/-- in any graph, balanced or not -/
theorem collisions_parity (path : RayPathI K) (ray : T2 (V2 K) (V2 K)) (cir : EdgeRef → List (T3 K K (V2 K)))
    (pre : Precondition path ray cir)
    (hedge : ∀ e ∈ allEdgeRefs path, ray_can_intersect (path.get_edge e) (line_coefficients_2d ray) = RayCanIntersect.CrossesRay →
      ((cir e).length % 2 = 1 ↔
        vertexSide path (line_coefficients_2d ray) (path.edge_start_point_idx e) ≠
          vertexSide path (line_coefficients_2d ray) (path.edge_end_point_idx e))) :
    (ray_collisions path ray cir).length % 2 = changes (vertexSide path (line_coefficients_2d ray)) (edgeList path) % 2 := by
  set co := line_coefficients_2d ray with hco
  have hlen : (ray_collisions path ray cir).length = ((allEdgeRefs path).map fun e => (rawOf path co cir e).length).sum := by
    unfold ray_collisions
    rw [(sortBy_perm _ _).length_eq, filters_inert path ray cir pre, flag_eq_map, List.length_map, List.length_flatMap]
  rw [hlen, sum_parity]
  refine congrArg (· % 2) ?_
  unfold changes edgeList
  rw [List.countP_map]
  apply List.countP_congr
  intro e he
  simp only [Function.comp, beq_iff_eq, bne_iff_ne, ne_eq]
  obtain ⟨hs, ht⟩ := pre.ends e he
  unfold rawOf
  cases hr : ray_can_intersect (path.get_edge e) co
  · -- WrongSide: no hits, and both ends on one side
    have hnil : ([] : List (Hit K)).length % 2 = 1 ↔ False := by simp
    simp only [reduceCtorEq, if_false, hnil, false_iff, not_not]
    unfold vertexSide
    rw [← hs, ← ht]
    rcases wrong_side_signs _ _ hr with ⟨a0, _, _, a3⟩ | ⟨a0, _, _, a3⟩
    · simp [not_lt.2 a0, not_lt.2 a3]
    · simp [a0, a3]
  · exact absurd ((rci_collinear_iff _ _).1 hr) (by rw [pre.not_collinear e he]; simp)
  · simp only [if_true, List.length_map]
    exact hedge e he hr

/-- **Even parity.**  For a graph that is balanced (closed paths, collided path graphs), under the precondition, and when on every
    edge that passes the side test the solver reports an odd number of hits exactly if the edge's end vertices lie on different
    sides of the ray (the per-edge fact `edge_parity` proves over ℝ for a nowhere-tangent ray and an exact solver), `ray_collisions`
    returns an even number of collisions. -/
theorem collisions_even (path : RayPathI K) (ray : T2 (V2 K) (V2 K)) (cir : EdgeRef → List (T3 K K (V2 K)))
    (pre : Precondition path ray cir) (hbal : Balanced (edgeList path))
    (hedge : ∀ e ∈ allEdgeRefs path, ray_can_intersect (path.get_edge e) (line_coefficients_2d ray) = RayCanIntersect.CrossesRay →
      ((cir e).length % 2 = 1 ↔
        vertexSide path (line_coefficients_2d ray) (path.edge_start_point_idx e) ≠
          vertexSide path (line_coefficients_2d ray) (path.edge_end_point_idx e))) :
    (ray_collisions path ray cir).length % 2 = 0 := by
  rw [collisions_parity path ray cir pre hedge]
  exact balanced_sign_changes_even _ _ hbal

/-- the sort only permutes the collisions (nothing is lost or duplicated, whatever the comparator does) -/
theorem sort_is_permutation (path : RayPathI K) (ray : T2 (V2 K) (V2 K)) (cir : EdgeRef → List (T3 K K (V2 K))) :
    (ray_collisions path ray cir).Perm (ray_collisions_unsorted path ray cir) := sortBy_perm _ _

/-- **What "sorted by the comparator" means.**  Outside the tie-break window (two collisions more than `SMALL_DISTANCE` apart in x or
    y, or on edges that do not overlap) the generated comparator is the three-way comparison of the line positions; so in ANY list
    that is ordered by the comparator (each earlier element compares `≠ Greater` to each later one - the driver checks this on the
    implementation's output) an earlier collision has the smaller-or-equal line position unless the two are a tie. -/
theorem sorted_up_to_ties (path : RayPathI K) (dir : V2 K) (out : List (Collision K))
    (h : out.Pairwise fun a b => collision_order path dir a b ≠ .gt) :
    out.Pairwise fun a b => a.t2 ≤ b.t2 ∨ tie path a b := by
  refine h.imp ?_
  intro a b hab
  by_cases ht : tie path a b
  · exact Or.inr ht
  · left
    rw [order_outside_window path dir a b ht] at hab
    exact compare_le_iff_le.1 hab

/-- **Outside the window the comparator is a total preorder** (a strict weak order): if no two different collisions of a list are a
    tie, then on that list the comparator is the comparison of line positions - antisymmetric (`cmp a b` is the reverse of `cmp b a`)
    and transitive. -/
theorem comparator_consistent_outside_window (path : RayPathI K) (dir : V2 K) (l : List (Collision K))
    (hw : ∀ a ∈ l, ∀ b ∈ l, a ≠ b → ¬ tie path a b) :
    (∀ a ∈ l, ∀ b ∈ l, collision_order path dir a b = compare a.t2 b.t2) ∧
    (∀ a ∈ l, ∀ b ∈ l, collision_order path dir a b = (collision_order path dir b a).swap) ∧
    (∀ a ∈ l, ∀ b ∈ l, ∀ c ∈ l, collision_order path dir a b ≠ .gt → collision_order path dir b c ≠ .gt →
      collision_order path dir a c ≠ .gt) := by
  have key : ∀ a ∈ l, ∀ b ∈ l, collision_order path dir a b = compare a.t2 b.t2 := by
    intro a ha b hb
    by_cases hab : a = b
    · subst hab; rw [order_self]; exact (compare_eq_iff_eq.2 rfl).symm
    · exact order_outside_window path dir a b (hw a ha b hb hab)
  refine ⟨key, ?_, ?_⟩
  · intro a ha b hb
    rw [key a ha b hb, key b hb a ha]
    exact Std.OrientedCmp.eq_swap
  · intro a ha b hb c hc
    rw [key a ha b hb, key b hb c hc, key a ha c hc, compare_le_iff_le, compare_le_iff_le, compare_le_iff_le]
    exact le_trans

/-- **Sorted by position.**  If no two different collisions found are a tie (their positions are pairwise more than `SMALL_DISTANCE`
    apart in x or in y, or their edges do not overlap), the list `ray_collisions` returns is ordered by the position along the ray. -/
theorem sorted_outside_window (path : RayPathI K) (ray : T2 (V2 K) (V2 K)) (cir : EdgeRef → List (T3 K K (V2 K)))
    (hw : ∀ a ∈ ray_collisions_unsorted path ray cir, ∀ b ∈ ray_collisions_unsorted path ray cir, a ≠ b → ¬ tie path a b) :
    (ray_collisions path ray cir).Pairwise fun a b => a.t2 ≤ b.t2 :=
  sortBy_sorted_of_key _ (fun c : Collision K => c.t2) _ (comparator_consistent_outside_window path (ray.t1 - ray.t0) _ hw).1

/-- a list that is ordered by the comparator is a fixed point of the stable sort: the check "re-sorting the implementation's output
    with the model comparator changes nothing" is the check that it is ordered by the comparator -/
theorem sorted_is_fixed_point (path : RayPathI K) (dir : V2 K) (out : List (Collision K))
    (h : out.Pairwise fun a b => collision_order path dir a b ≠ .gt) : sortBy (collision_order path dir) out = out :=
  sortBy_fixed _ out h

end Field

section Real
open C04 Polynomial
variable [FSqrt ℝ] [FConsts ℝ]

noncomputable local instance : FAbs ℝ := ⟨fun a => |a|⟩
noncomputable local instance : FSignum ℝ := ⟨fun a => if a < 0 then -1 else 1⟩
noncomputable local instance : OfInt ℝ := ⟨fun n => (n : ℝ)⟩

theorem sign_ne_iff (a b : ℝ) (ha : a ≠ 0) (hb : b ≠ 0) : decide (a < 0) ≠ decide (b < 0) ↔ a * b < 0 := by
  rw [Ne, decide_eq_decide, mul_neg_iff]
  rcases lt_or_gt_of_ne ha with ha | ha <;> rcases lt_or_gt_of_ne hb with hb | hb <;>
    simp [ha, hb, not_lt_of_gt ha, not_lt_of_gt hb]

/-- **Per-edge parity** (intermediate value theorem for the distance cubic).  Let the solver be exact on this edge (its result lists
    every real root of the signed-distance cubic once and nothing else), let the ray be nowhere tangent to the edge (the cubic has
    only simple roots), let both end points be off the ray and not within the end-point snapping distance, and let the normalisation
    factor of `line_coefficients_2d` be non-zero.  Then `curve_intersects_ray` (C04's generated definition) reports an odd number of
    hits exactly when the side test's own signed distances put the two end points on different sides. -/
theorem edge_parity (solve : T4 ℝ ℝ ℝ ℝ → List ℝ) (w1 w2 w3 w4 : V2 ℝ) (l : T2 (V2 ℝ) (V2 ℝ))
    (hne : lineA l ≠ 0 ∨ lineB l ≠ 0) (hf : RayCoeffs.normFactor l ≠ 0) (hsnap : RayHits.NoSnap w1 w4 l)
    (hsolve : ∀ r, r ∈ solve (distPoly w1 w2 w3 w4 l) ↔ polyEval (distPoly w1 w2 w3 w4 l) r = 0)
    (hnodup : (solve (distPoly w1 w2 w3 w4 l)).Nodup)
    (hsimple : (RayHits.toPoly (distPoly w1 w2 w3 w4 l)).roots.Nodup)
    (h1 : sdist (line_coefficients_2d l) w1 ≠ 0) (h4 : sdist (line_coefficients_2d l) w4 ≠ 0) :
    (curve_intersects_ray solve w1 w2 w3 w4 l).length % 2 = 1 ↔
      decide (sdist (line_coefficients_2d l) w1 < 0) ≠ decide (sdist (line_coefficients_2d l) w4 < 0) := by
  obtain ⟨k, hk, hprop⟩ := RayCoeffs.side_dist_proportional l hne hf
  have hl1 : lineDist l w1 ≠ 0 := fun e => h1 (by rw [hprop, e, mul_zero])
  have hl4 : lineDist l w4 ≠ 0 := fun e => h4 (by rw [hprop, e, mul_zero])
  -- the side test's distances are `k` times the solver's, so the two products differ by the factor `k * k > 0`
  rw [RayHits.edge_parity solve w1 w2 w3 w4 l hne hsnap hsolve hnodup hsimple hl1 hl4, sign_ne_iff _ _ h1 h4, hprop, hprop,
    mul_mul_mul_comm]
  exact ⟨mul_neg_of_pos_of_neg (mul_self_pos.2 hk), fun h => (pos_iff_neg_of_mul_neg h).1 (mul_self_pos.2 hk)⟩

/-- a straight vertical edge against a horizontal ray; the solver returns the one root 1/2 -/
example (hs1 : fsqrt (1 : ℝ) = 1) (hs4 : fsqrt (4 : ℝ) = 2) :
    (curve_intersects_ray (fun _ => [(1 / 2 : ℝ)]) ⟨0, -1⟩ ⟨0, -1/3⟩ ⟨0, 1/3⟩ ⟨0, 1⟩ (T2.mk ⟨-1, 0⟩ ⟨1, 0⟩)).length % 2 = 1 := by
  show (curve_intersects_ray (fun _ => [(1 / 2 : ℝ)]) _ _ _ _ RayExample.ray).length % 2 = 1
  rw [edge_parity _ _ _ _ _ _ RayExample.ray_not_point (by rw [RayExample.nf hs1]; exact one_ne_zero)
    (RayExample.nosnap hs4 _ _ (Or.inr rfl) (Or.inl rfl))
    (fun r => by rw [RayExample.distPoly_left, ← RayExample.solve_left]; exact RayExample.solve_spec _ _ (by norm_num) r)
    (List.nodup_singleton _) (by rw [RayExample.distPoly_left]; exact RayExample.linear_nodup _ _)
    (by rw [RayExample.sdist_eq_y hs1]; norm_num) (by rw [RayExample.sdist_eq_y hs1]; norm_num)]
  rw [RayExample.sdist_eq_y hs1, RayExample.sdist_eq_y hs1]; norm_num

/-- **Even parity, assembled** (exact real arithmetic, exact solver).  A balanced graph (every closed path, every collided path graph
    whose vertices have equal in- and out-degree), a ray that is not a point, the precondition (no vertex within the collinearity /
    vertex windows, nowhere tangent), every vertex off the ray, and on every edge an exact solver, simple roots and no end-point
    snapping: the model of `ray_collisions` with C04's `curve_intersects_ray` returns an even number of collisions. -/
theorem ray_collisions_even (solve : T4 ℝ ℝ ℝ ℝ → List ℝ) (path : RayPathI ℝ) (ray : T2 (V2 ℝ) (V2 ℝ))
    (pre : Precondition path ray (cirOf solve path ray)) (hbal : Balanced (edgeList path))
    (hne : lineA ray ≠ 0 ∨ lineB ray ≠ 0) (hf : RayCoeffs.normFactor ray ≠ 0)
    (hoff : ∀ e ∈ allEdgeRefs path, sdist (line_coefficients_2d ray) (path.get_edge e).t0 ≠ 0 ∧
      sdist (line_coefficients_2d ray) (path.get_edge e).t3 ≠ 0)
    (hsnap : ∀ e ∈ allEdgeRefs path, RayHits.NoSnap (path.get_edge e).t0 (path.get_edge e).t3 ray)
    (hsolve : ∀ e ∈ allEdgeRefs path, ∀ r,
      r ∈ solve (distPoly (path.get_edge e).t0 (path.get_edge e).t1 (path.get_edge e).t2 (path.get_edge e).t3 ray) ↔
        polyEval (distPoly (path.get_edge e).t0 (path.get_edge e).t1 (path.get_edge e).t2 (path.get_edge e).t3 ray) r = 0)
    (hnodup : ∀ e ∈ allEdgeRefs path,
      (solve (distPoly (path.get_edge e).t0 (path.get_edge e).t1 (path.get_edge e).t2 (path.get_edge e).t3 ray)).Nodup)
    (hsimple : ∀ e ∈ allEdgeRefs path,
      (RayHits.toPoly (distPoly (path.get_edge e).t0 (path.get_edge e).t1 (path.get_edge e).t2 (path.get_edge e).t3 ray)).roots.Nodup) :
    (ray_collisions path ray (cirOf solve path ray)).length % 2 = 0 := by
  apply collisions_even path ray _ pre hbal
  intro e he _
  obtain ⟨hs, ht⟩ := pre.ends e he
  unfold vertexSide
  rw [← hs, ← ht]
  exact edge_parity solve _ _ _ _ ray hne hf (hsnap e he) (hsolve e he) (hnodup e he) (hsimple e he) (hoff e he).1 (hoff e he).2

/-- **Every collision lies on its edge and on the ray** (C04's `hit_sound` carried through the pipeline).  Under the precondition each
    collision returned names an edge of the graph, its parameter is in [0,1], its position is the point of that edge at that parameter,
    its line position is the one `curve_intersects_ray` computed from that point, and when the parameter is an exact root of the
    distance cubic the position is the point of the ray at that line position. -/
theorem collision_on_edge_and_ray (solve : T4 ℝ ℝ ℝ ℝ → List ℝ) (path : RayPathI ℝ) (ray : T2 (V2 ℝ) (V2 ℝ))
    (pre : Precondition path ray (cirOf solve path ray)) (c : Collision ℝ) (hc : c ∈ ray_collisions path ray (cirOf solve path ray)) :
    c.t0.edge ∈ allEdgeRefs path ∧ 0 ≤ c.t1 ∧ c.t1 ≤ 1 ∧ c.t3 = pointAt (path.get_edge c.t0.edge) c.t1 ∧ c.t2 = sOf ray c.t3 ∧
      (polyEval (distPoly (path.get_edge c.t0.edge).t0 (path.get_edge c.t0.edge).t1 (path.get_edge c.t0.edge).t2
          (path.get_edge c.t0.edge).t3 ray) c.t1 = 0 → c.t3 = along ray c.t2) := by
  obtain ⟨e, he, _, h, hh, h0, h1, h2, h3, _⟩ := collisions_come_from_hits path ray _ pre c hc
  obtain ⟨_, r, _, _, hr0, hr1, hpos, hs, hon⟩ := hit_sound solve _ _ _ _ ray h hh
  rw [h0, h1, h2, h3]
  exact ⟨he, hr0, hr1, hpos, hs, hon⟩

/-- the instance of `Lemmas/RayExample.lean` satisfies every hypothesis, for any square-root function that is right at 1 and 4 -/
example (hs1 : fsqrt (1 : ℝ) = 1) (hs4 : fsqrt (4 : ℝ) = 2) :
    (ray_collisions (rayPathOf RayExample.rect) RayExample.ray
      (cirOf RayExample.solve (rayPathOf RayExample.rect) RayExample.ray)).length % 2 = 0 :=
  ray_collisions_even RayExample.solve _ _ (RayExample.precondition hs1 hs4) RayExample.bal RayExample.ray_not_point
    (by rw [RayExample.nf hs1]; norm_num) (RayExample.off hs1) (RayExample.nosnap_all hs4) RayExample.solve_all RayExample.nodup_all
    RayExample.simple_all

/-- the same instance returns a collision, and it lies on its edge -/
example (hs1 : fsqrt (1 : ℝ) = 1) (hs4 : fsqrt (4 : ℝ) = 2) :
    ∃ c ∈ ray_collisions (rayPathOf RayExample.rect) RayExample.ray (cirOf RayExample.solve (rayPathOf RayExample.rect) RayExample.ray),
      0 ≤ c.t1 ∧ c.t1 ≤ 1 ∧ c.t3 = pointAt ((rayPathOf RayExample.rect).get_edge c.t0.edge) c.t1 := by
  obtain ⟨c, hc⟩ := RayExample.has_collision hs1 hs4
  obtain ⟨_, h0, h1, hp, _⟩ := collision_on_edge_and_ray RayExample.solve _ _ (RayExample.precondition hs1 hs4) c hc
  exact ⟨c, hc, h0, h1, hp⟩

end Real

/-! Exact rationals; the only square roots taken are of the perfect squares in the table. -/
section Witness

/-- `f64::sqrt` on the perfect squares that occur in the instances below -/
local instance : FSqrt ℚ :=
  ⟨fun x => if x = 1 then 1 else if x = 9 then 3 else if x = 16 then 4 else if x = 25 then 5 else if x = 36 then 6
    else if x = 144 then 12 else if x = 225 then 15 else 0⟩
local instance : FConsts ℚ := ⟨0, 0, 0, 0, 1 / 4503599627370496⟩

/-- two arcs between the same two vertices, bulging to the same side, 0.5 apart in the middle, traversed in opposite directions -/
def lens : GraphPathM ℚ := { points := [
  { position := ⟨0, 0⟩, forward_edges := [{ cp1 := ⟨1, -1⟩, cp2 := ⟨3, -1⟩, end_idx := 1, following_edge_idx := 0 }], connected_from := [1] },
  { position := ⟨4, 0⟩, forward_edges := [{ cp1 := ⟨3, -3/2⟩, cp2 := ⟨1, -3/2⟩, end_idx := 0, following_edge_idx := 0 }], connected_from := [0] }] }

/-- **Finding: `edges_overlap` is not symmetric.**  `control_points_overlap` (ray.rs:97-122) compares the SIGNED distances of the
    control points from the chord with `SMALL_DISTANCE` (no `abs`), so every control point on the negative side counts as "on the
    chord"; with the edges given in the other order the chord is reversed and the same points are on the positive side. -/
theorem edges_overlap_not_symmetric :
    edges_overlap (rayPathOf lens) ⟨0, 0, false⟩ ⟨1, 0, false⟩ = true ∧
    edges_overlap (rayPathOf lens) ⟨1, 0, false⟩ ⟨0, 0, false⟩ = false := by decide +kernel

/-- **Finding: the sort comparator is not antisymmetric.**  Two collisions 0.0005 apart on the two arcs of `lens` (a vertical ray at
    x = 0.001, going up): the comparator answers `Less` for both argument orders - edge priority one way round, line position the
    other way round, because `edges_overlap` answers differently.  (Seen on real graphs of nearly coincident shapes by the
    correspondence run: 7 of 20 000 rays.)  Rust's `sort_by` may panic on such a comparator. -/
theorem comparator_not_antisymmetric :
    let a : Collision ℚ := T4.mk (.SingleEdge ⟨0, 0, false⟩) (1/3000) (999/1000) ⟨1/1000, -1/1000⟩
    let b : Collision ℚ := T4.mk (.SingleEdge ⟨1, 0, false⟩) (2999/3000) (9985/10000) ⟨1/1000, -15/10000⟩
    collision_order (rayPathOf lens) ⟨0, 1⟩ a b = .lt ∧ collision_order (rayPathOf lens) ⟨0, 1⟩ b a = .lt := by decide +kernel

/-- **Finding: `control_points_overlap` never looks at the first control point of its second argument and accepts any distance on
    the negative side** (`dist_cp1_b` is computed from `cp2_b`, ray.rs:105; no `abs`, ray.rs:108): a curve "overlaps" curves whose
    control points are 49 and 51 units away from its own, on either side. -/
theorem control_points_overlap_far_apart :
    control_points_overlap (K := ℚ) (T4.mk ⟨0, 0⟩ ⟨1, -1⟩ ⟨3, -1⟩ ⟨4, 0⟩) (T4.mk ⟨0, 0⟩ ⟨1, -50⟩ ⟨3, -2⟩ ⟨4, 0⟩) = true ∧
    control_points_overlap (K := ℚ) (T4.mk ⟨0, 0⟩ ⟨1, -1⟩ ⟨3, -1⟩ ⟨4, 0⟩) (T4.mk ⟨0, 0⟩ ⟨1, 50⟩ ⟨3, -2⟩ ⟨4, 0⟩) = true := by
  decide +kernel

/-- two edges from vertex 0 to vertex 1 whose control points are 0.0004 apart (they overlap, symmetrically) and a third edge that
    passes between them -/
def sandwich : GraphPathM ℚ := { points := [
  { position := ⟨0, 0⟩, forward_edges := [
      { cp1 := ⟨1, 0⟩, cp2 := ⟨3, 0⟩, end_idx := 1, following_edge_idx := 0 },
      { cp1 := ⟨1, -4/10000⟩, cp2 := ⟨3, -4/10000⟩, end_idx := 1, following_edge_idx := 0 }], connected_from := [] },
  { position := ⟨4, 0⟩, forward_edges := [], connected_from := [0] },
  { position := ⟨0, -10002/10000⟩,
    forward_edges := [{ cp1 := ⟨4/3, -10002/10000 + 2/3⟩, cp2 := ⟨8/3, -10002/10000 + 4/3⟩, end_idx := 3, following_edge_idx := 0 }],
    connected_from := [] },
  { position := ⟨4, 9998/10000⟩, forward_edges := [], connected_from := [2] }] }

/-- **Finding: the comparator is not transitive** even where `edges_overlap` is symmetric.  Collisions `a`, `b` on the two overlapping
    edges (0.0003 apart) are ordered by edge priority, `a` before `b`; the collision `c` on the third edge lies between them and is
    ordered against each by line position, `b` before `c` before `a`: a cycle.  The result of a sort then depends on the order of its
    input and is not ordered by position (the two sorts below return different lists). -/
theorem comparator_not_transitive :
    let a : Collision ℚ := T4.mk (.SingleEdge ⟨0, 0, false⟩) (1/2) 1 ⟨2, 0⟩
    let b : Collision ℚ := T4.mk (.SingleEdge ⟨0, 1, false⟩) (1/2) (9997/10000) ⟨2, -3/10000⟩
    let c : Collision ℚ := T4.mk (.SingleEdge ⟨2, 0, false⟩) (1/2) (9998/10000) ⟨2, -2/10000⟩
    let cmp := collision_order (rayPathOf sandwich) ⟨0, 1⟩
    edges_overlap (rayPathOf sandwich) ⟨0, 0, false⟩ ⟨0, 1, false⟩ = edges_overlap (rayPathOf sandwich) ⟨0, 1, false⟩ ⟨0, 0, false⟩ ∧
    cmp a b = .lt ∧ cmp b c = .lt ∧ cmp a c = .gt ∧ cmp c a = .lt ∧
    (sortBy cmp [a, b, c]).map (·.t2) = [1, 9997/10000, 9998/10000] ∧
    (sortBy cmp [c, b, a]).map (·.t2) = [9998/10000, 1, 9997/10000] := by decide +kernel

/-- a 3-4-5 triangle with straight edges, a horizontal ray at height 1 and its two crossings -/
def triangle : GraphPathM ℚ := { points := [
  { position := ⟨0, 0⟩, forward_edges := [{ cp1 := ⟨4/3, 0⟩, cp2 := ⟨8/3, 0⟩, end_idx := 1, following_edge_idx := 0 }], connected_from := [2] },
  { position := ⟨4, 0⟩, forward_edges := [{ cp1 := ⟨4, 1⟩, cp2 := ⟨4, 2⟩, end_idx := 2, following_edge_idx := 0 }], connected_from := [0] },
  { position := ⟨4, 3⟩, forward_edges := [{ cp1 := ⟨8/3, 2⟩, cp2 := ⟨4/3, 1⟩, end_idx := 0, following_edge_idx := 0 }], connected_from := [1] }] }
def triangleRay : T2 (V2 ℚ) (V2 ℚ) := T2.mk ⟨-1, 1⟩ ⟨5, 1⟩
def triangleHits (e : EdgeRef) : List (T3 ℚ ℚ (V2 ℚ)) :=
  if e = ⟨1, 0, false⟩ then [T3.mk (1/3) (5/6) ⟨4, 1⟩] else if e = ⟨2, 0, false⟩ then [T3.mk (2/3) (7/18) ⟨4/3, 1⟩] else []

/-- the triangle satisfies the hypotheses of `collisions_even` and `sorted_outside_window`, and the model returns the two crossings in
    order -/
example : Precondition (rayPathOf triangle) triangleRay triangleHits :=
  ⟨by decide +kernel, by decide +kernel, by decide +kernel, by decide +kernel, by decide +kernel, by decide +kernel⟩
example : Balanced (edgeList (rayPathOf triangle)) := by decide +kernel
example : ∀ e ∈ allEdgeRefs (rayPathOf triangle),
    ray_can_intersect ((rayPathOf triangle).get_edge e) (line_coefficients_2d triangleRay) = RayCanIntersect.CrossesRay →
      ((triangleHits e).length % 2 = 1 ↔
        vertexSide (rayPathOf triangle) (line_coefficients_2d triangleRay) ((rayPathOf triangle).edge_start_point_idx e) ≠
          vertexSide (rayPathOf triangle) (line_coefficients_2d triangleRay) ((rayPathOf triangle).edge_end_point_idx e)) := by
  decide +kernel
example : ∀ a ∈ ray_collisions_unsorted (rayPathOf triangle) triangleRay triangleHits,
    ∀ b ∈ ray_collisions_unsorted (rayPathOf triangle) triangleRay triangleHits, a ≠ b → ¬ tie (rayPathOf triangle) a b := by
  decide +kernel
example : (ray_collisions (rayPathOf triangle) triangleRay triangleHits).map (fun c => (c.t0.edge.start_idx, c.t2)) = [(2, 7/18), (1, 5/6)] := by
  decide +kernel

/-- the hypothesis of `sorted_up_to_ties` and `sorted_is_fixed_point` -/
example : (ray_collisions (rayPathOf triangle) triangleRay triangleHits).Pairwise
    fun a b => collision_order (rayPathOf triangle) (triangleRay.t1 - triangleRay.t0) a b ≠ .gt := by decide +kernel
example : ((rayPathOf triangle).get_edge ⟨1, 0, false⟩).t3 = (⟨4, 3⟩ : V2 ℚ) := by decide +kernel
/-- the hypothesis of `far_start_not_collinear` -/
example : (SMALL_DISTANCE : ℚ) ≤ |sdist (line_coefficients_2d triangleRay) ((rayPathOf triangle).get_edge ⟨1, 0, false⟩).t0| := by
  decide +kernel
/-- the vertex filter at work outside the precondition: the horizontal ray through the top vertex (4,3) of the triangle touches it without
    entering; the two collisions found there (end of one edge, start of the next) are both removed as a glancing contact -/
example : (filter_collisions_near_vertices (rayPathOf triangle) (T2.mk ⟨-1, 3⟩ ⟨5, 3⟩)
      (fun e => if e = ⟨1, 0, false⟩ then [T3.mk 1 (5/6) ⟨4, 3⟩] else if e = ⟨2, 0, false⟩ then [T3.mk 0 (5/6) ⟨4, 3⟩] else [])
      [T4.mk ⟨1, 0, false⟩ 1 (5/6) ⟨4, 3⟩, T4.mk ⟨2, 0, false⟩ 0 (5/6) ⟨4, 3⟩]).map (fun h => (h.t0.start_idx, h.t1)) = [] := by
  decide +kernel

end Witness

/-! Section `Witness` computes with the Prelude's `ℚ` instances of `FAbs`, `FSignum`, `OfInt`; the theorems of section `Field` are
stated for the ones below, so they are applied here. -/
section WitnessField
local instance : FAbs ℚ := ⟨fun a => |a|⟩
local instance : FSignum ℚ := ⟨fun a => if a < 0 then -1 else 1⟩
local instance : OfInt ℚ := ⟨fun n => (n : ℚ)⟩
local instance : FSqrt ℚ := ⟨fun _ => 0⟩
local instance : FConsts ℚ := ⟨0, 0, 0, 0, 0⟩

example : ray_can_intersect (K := ℚ) (T4.mk ⟨0, 1⟩ ⟨1, 2⟩ ⟨2, -2⟩ ⟨3, -1⟩) (T3.mk 0 1 0) ≠ RayCanIntersect.WrongSide :=
  crossing_not_pruned _ _ 1 0 ⟨by norm_num, by norm_num⟩ ⟨by norm_num, by norm_num⟩
    (show sdist (K := ℚ) (T3.mk 0 1 0) (pointAt (T4.mk ⟨0, 1⟩ ⟨1, 2⟩ ⟨2, -2⟩ ⟨3, -1⟩) 1) < 0 by decide +kernel)
    (show 0 < sdist (K := ℚ) (T3.mk 0 1 0) (pointAt (T4.mk ⟨0, 1⟩ ⟨1, 2⟩ ⟨2, -2⟩ ⟨3, -1⟩) 0) by decide +kernel)
example : |sdist (K := ℚ) (T3.mk 0 1 0) ⟨0, 0⟩| < SMALL_DISTANCE :=
  (collinear_needs_near_vertices (T4.mk ⟨0, 0⟩ ⟨1, 0⟩ ⟨2, 0⟩ ⟨3, 0⟩) (T3.mk 0 1 0) (Or.inl (by decide +kernel))).1
example : is_near_to (K := ℚ) ⟨0, 1⟩ ⟨0, 1/100⟩ SMALL_DISTANCE = false :=
  far_vertex_not_near (T3.mk 0 1 0) (by norm_num) ⟨0, 1⟩ ⟨0, 1/100⟩
    (show (1 / 10 : ℚ) ≤ |sdist (T3.mk 0 1 0) ⟨0, 1⟩| by decide +kernel) (show |sdist (K := ℚ) (T3.mk 0 1 0) ⟨0, 1/100⟩| ≤ 1 / 20 by decide +kernel)

end WitnessField

end C14
