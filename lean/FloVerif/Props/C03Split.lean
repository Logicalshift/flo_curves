/-
C03 (geometry of the dividing loops)  Dividing an edge at `t₁, …, tₖ` with the code's re-parameterisation
`t2 = (t − (1 − remaining_t)) / remaining_t` yields exactly the sections `[0,t₁], [t₁,t₂], …, [tₖ,1]` of the original
curve: in exact arithmetic the union of the new edges IS the old edge, so dividing preserves the traced point set.

`Model.GraphSplit.splitCurve` is the loop (compared bit for bit, at `Float`, with the control points of the real edges
by the driver); the subdivision inside it is `Gen.curve_subdivide`, regenerated from `BezierCurve::subdivide` on every
check and characterised by `C05.subdivide_left` / `C05.subdivide_right`.  `K` is any ordered field (ℚ contains every
finite f64); points are proved at `P = K` and hold per component in 2-D (`splitCurve` is component-wise, `splitCurve_V2`).
-/
import FloVerif.Model.GraphSplit
import FloVerif.Props.C05
import FloVerif.Lemmas.Lit

set_option linter.unusedSectionVars false
namespace C03Split
open Prelude Gen Model.GraphSplit

variable {K : Type} [Field K] [LinearOrder K] [IsStrictOrderedRing K] [Inhabited K] [FAbs K]

/-- `pieces` are the sections `[a,t₁], [t₁,t₂], …, [tₖ,1]` of the cubic `w` (each piece `p` satisfies
`p(s) = w(lo + s·(hi − lo))` for all `s`) -/
def AreSections (w : T4 K K K K) : K → List K → List (T4 K K K K) → Prop
  | a, [], [p] => ∀ s, basis s p.t0 p.t1 p.t2 p.t3 = basis (a + s * (1 - a)) w.t0 w.t1 w.t2 w.t3
  | a, t :: ts, p :: ps => (∀ s, basis s p.t0 p.t1 p.t2 p.t3 = basis (a + s * (t - a)) w.t0 w.t1 w.t2 w.t3) ∧ AreSections w t ts ps
  | _, _, _ => False

/-- the loop "Deal with the rest of the collisions": if `rem` is the section `[a,1]` and `remaining_t = 1 − a`, the edges
it produces are the sections `[a,t₁], …, [tₖ,1]`.  Forced hypothesis: no division by `remaining_t = 0`, i.e. no
parameter that is followed by another one equals 1 (`a ≠ 1` here, `t ≠ 1` for every `t` but the last). -/
theorem splitRest_sections (w : T4 K K K K) : ∀ (ts : List K) (a : K) (rem : T4 K K K K),
    (∀ s, basis s rem.t0 rem.t1 rem.t2 rem.t3 = basis (a + s * (1 - a)) w.t0 w.t1 w.t2 w.t3) →
    (∀ x ∈ (a :: ts).dropLast, x ≠ 1) →
    AreSections w a ts (splitRest rem ((1.0 : K) - a) ts) := by
  intro ts
  induction ts with
  | nil => intro a rem h _; exact h
  | cons t ts ih =>
    intro a rem h hne
    have ha' : (1 : K) - a ≠ 0 := sub_ne_zero.mpr (Ne.symm (hne a (by simp)))
    simp only [splitRest, AreSections]
    have hkey : (t - ((1.0 : K) - ((1.0 : K) - a))) / ((1.0 : K) - a) * (1 - a) = t - a := by
      rw [lit1, div_mul_cancel₀ _ ha']; ring
    generalize (t - ((1.0 : K) - ((1.0 : K) - a))) / ((1.0 : K) - a) = t2 at hkey ⊢
    refine ⟨fun s => ?_, ih _ _ (fun s => ?_) ?_⟩
    · refine (C05.subdivide_left t2 s rem.t0 rem.t1 rem.t2 rem.t3).trans ((h _).trans ?_)
      congr 1
      rw [← hkey]; ring
    · refine (C05.subdivide_right t2 s rem.t0 rem.t1 rem.t2 rem.t3).trans ((h _).trans ?_)
      congr 1
      calc a + (t2 + s * (1 - t2)) * (1 - a) = a + (t2 * (1 - a)) + s * ((1 - a) - t2 * (1 - a)) := by ring
        _ = t + s * (1 - t) := by rw [hkey]; ring
    · intro x hx
      apply hne x
      rw [List.dropLast_cons_of_ne_nil (by simp)]
      exact List.mem_cons_of_mem _ hx

/-- SEQUENTIAL SPLIT = SECTIONS.  The edges that replace an edge divided at `ts` are exactly the sections
`[0,t₁], [t₁,t₂], …, [tₖ,1]` of its curve, for every cubic and every list of parameters in which only the last one may
be 1 (nothing else is needed: not even that the list is sorted - an unsorted list gives sections traversed backwards).
The hypothesis is forced by the division by `remaining_t = 1 − t`: a parameter 1 followed by another one makes the f64 code
compute 0/0 = NaN control points.  `find_collisions` never returns `t ≥ 1` (`C03.selectHits_relocation_dead`); only the
self-intersection test of `find_self_collisions` can return one `t₂ = 1.0` per edge, which then is the last parameter. -/
theorem sequential_split_is_section (w : T4 K K K K) (ts : List K) (hne : ∀ x ∈ ts.dropLast, x ≠ 1) :
    AreSections w 0 ts (splitCurve w ts) := by
  cases ts with
  | nil =>
    simp only [splitCurve, AreSections]
    intro s; congr 1; ring
  | cons t ts =>
    simp only [splitCurve, AreSections]
    refine ⟨?_, ?_⟩
    · intro s
      have := C05.subdivide_left t s w.t0 w.t1 w.t2 w.t3
      simp only at this
      rw [this]; congr 1; ring
    · apply splitRest_sections
      · intro s
        have := C05.subdivide_right t s w.t0 w.t1 w.t2 w.t3
        simp only at this
        exact this
      · exact hne

/-! Non-vacuity: a cubic divided at 1/4 and 1/2. -/
example : AreSections (⟨0, 1, 3, 2⟩ : T4 ℚ ℚ ℚ ℚ) 0 [1/4, 1/2] (splitCurve ⟨0, 1, 3, 2⟩ [1/4, 1/2]) :=
  sequential_split_is_section _ _ (by intro x hx; simp at hx; subst hx; norm_num)

/-- in 2-D the loop works component by component -/
theorem splitCurve_V2 (a b c d : V2 K) (ts : List K) :
    (splitCurve (⟨a, b, c, d⟩ : T4 (V2 K) (V2 K) (V2 K) (V2 K)) ts).map (fun p => (⟨p.t0.x, p.t1.x, p.t2.x, p.t3.x⟩ : T4 K K K K)) =
      splitCurve ⟨a.x, b.x, c.x, d.x⟩ ts ∧
    (splitCurve (⟨a, b, c, d⟩ : T4 (V2 K) (V2 K) (V2 K) (V2 K)) ts).map (fun p => (⟨p.t0.y, p.t1.y, p.t2.y, p.t3.y⟩ : T4 K K K K)) =
      splitCurve ⟨a.y, b.y, c.y, d.y⟩ ts := by
  have rest : ∀ (ts : List K) (r : T4 (V2 K) (V2 K) (V2 K) (V2 K)) (rt : K),
      (splitRest r rt ts).map (fun p => (⟨p.t0.x, p.t1.x, p.t2.x, p.t3.x⟩ : T4 K K K K)) =
        splitRest ⟨r.t0.x, r.t1.x, r.t2.x, r.t3.x⟩ rt ts ∧
      (splitRest r rt ts).map (fun p => (⟨p.t0.y, p.t1.y, p.t2.y, p.t3.y⟩ : T4 K K K K)) =
        splitRest ⟨r.t0.y, r.t1.y, r.t2.y, r.t3.y⟩ rt ts := by
    intro ts
    induction ts with
    | nil => intro r rt; exact ⟨rfl, rfl⟩
    | cons t ts ih =>
      intro r rt
      simp only [splitRest, List.map_cons]
      have := ih (curve_subdivide r.t0 r.t1 r.t2 r.t3 ((t - ((1.0 : K) - rt)) / rt)).t1 ((1.0 : K) - t)
      exact ⟨by rw [this.1]; rfl, by rw [this.2]; rfl⟩
  cases ts with
  | nil => exact ⟨rfl, rfl⟩
  | cons t ts =>
    simp only [splitCurve, List.map_cons]
    have := rest ts (curve_subdivide a b c d t).t1 ((1.0 : K) - t)
    exact ⟨by rw [this.1]; rfl, by rw [this.2]; rfl⟩

end C03Split
