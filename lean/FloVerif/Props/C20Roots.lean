/-
C20 (find_bezier_roots terminates - for the GENERATED loop)

`C20.rootsLoop_terminates`, first below, is about `Model.Total.rootsLoop`, a hand-written control skeleton of `find_bezier_roots`.
`Gen.find_bezier_roots` is the function itself, regenerated from find_roots.rs on every check, and `C09L.find_bezier_roots_spec`
shows that it is the loop `C09L.runSpec` with fuel 100000.  Here the skeleton is proved to be that loop, step by step (`step_cases`) and hence for every fuel
(`runSpec_eq_rootsLoop`), so the termination theorem is about the generated code and the skeleton leaves the trusted base.  It asks for
fuel `≥ 2^49`, more than the 100000 the generated function passes.
-/
import FloVerif.Props.C20
import FloVerif.Lemmas.NearestRoots

namespace C20
open Prelude Model.Total

/-- The control skeleton of `find_bezier_roots` (depth cap MAX_DEPTH of repair 24cd67f): whatever the crossing count, flatness test,
    intercept and subdivision compute, the loop has emptied its stack after fewer than `2^(MAX_DEPTH+1)` iterations.  With
    MAX_DEPTH = 48 that is 5.6·10¹⁴ - a termination proof (the unrepaired code had none: defect F12), NOT a usable work bound; the
    practical bound (the number of sections with a crossing) is not a theorem. -/
theorem rootsLoop_terminates {S K : Type} (maxDepth : Nat) (crossings : S → Nat) (flat : S → Bool) (intercept mid : S → K)
    (split : S → S × S) (fuel : Nat) (hf : 2 ^ (maxDepth + 1) ≤ fuel) (points : S) :
    rootsLoop maxDepth crossings flat intercept mid split fuel points ≠ none := by
  unfold rootsLoop
  refine iterFuel_variant (fun s : List (S × Nat) × List K => ∀ e ∈ s.1, e.2 ≤ maxDepth) (fun r => r ≠ none)
    (fun s => rootsMeasure maxDepth s.1) _ _ ?_ ?_ fuel _ ?_ ?_
  · intro s s' hinv hstep
    unfold rootsStep at hstep
    cases hl : s.1.getLast? with
    | none => simp only [hl] at hstep; cases hstep
    | some top =>
      obtain ⟨sec, depth⟩ := top
      simp only [hl] at hstep
      have hpop := stack_pop (fun e : S × Nat => rootsWeight maxDepth e.2) (fun e => e.2 ≤ maxDepth)
        (fun _ => treeSize_pos _) hl hinv
      split_ifs at hstep with h1 h2 h3
      · obtain rfl := Sum.inl.inj hstep; exact hpop
      · obtain rfl := Sum.inl.inj hstep; exact hpop
      · obtain rfl := Sum.inl.inj hstep; exact hpop
      · obtain rfl := Sum.inl.inj hstep
        simp only [ge_iff_le, not_le] at h3
        have := rootsWeight_split maxDepth depth h3
        exact stack_split (fun e : S × Nat => rootsWeight maxDepth e.2) (fun e => e.2 ≤ maxDepth) hl hinv
          (show depth + 1 ≤ maxDepth from h3) (show depth + 1 ≤ maxDepth from h3)
          (show rootsWeight maxDepth (depth + 1) + rootsWeight maxDepth (depth + 1) + 1 ≤ rootsWeight maxDepth depth by omega)
  · intro s r _ hstep
    unfold rootsStep at hstep
    cases hl : s.1.getLast? with
    | none => simp only [hl] at hstep; cases hstep; nofun
    | some top =>
      simp only [hl] at hstep
      split_ifs at hstep
  · intro e he
    simp only [List.mem_singleton] at he
    subst he; exact Nat.zero_le _
  · simp only [rootsMeasure, rootsWeight, List.map_cons, List.map_nil, List.sum_cons, List.sum_nil]
    have := treeSize_lt maxDepth
    simp only [Nat.sub_zero, Nat.add_zero]
    omega

example : rootsLoop (S := Nat) (K := Nat) 2 (fun _ => 2) (fun _ => false) id id (fun s => (s, s)) 8 0 ≠ none :=
  rootsLoop_terminates 2 _ _ _ _ _ 8 (by norm_num) 0

end C20

set_option linter.unusedSectionVars false
namespace C20Roots
open Prelude Gen Model.Total C09L

variable {K : Type} [Field K] [LinearOrder K] [IsStrictOrderedRing K] [Inhabited K]
attribute [local instance] C09L.fabsNearestRoots
variable [FSqrt K] [FSignum K] [OfInt K]

/-- the skeleton's state for a state of the generated loop -/
def toM (st : St K) : List (List (V2 K) × Nat) × List K := (st.t0.map (fun e => (e.t0, e.t1)), st.t1)

/-- the skeleton instantiated with the generated numeric pieces -/
def skelStep (st : List (List (V2 K) × Nat) × List K) : Sum (List (List (V2 K) × Nat) × List K) (List K) :=
  rootsStep 48 (count_x_axis_crossings 6) (flat_enough 6) flatValue capValue
    (fun s => ((subdivide_n 6 (0.5 : K) s).t0, (subdivide_n 6 (0.5 : K) s).t1)) st

theorem step_cases (st : St K) :
    (∃ s', specStep st = .inl s' ∧ skelStep (toM st) = .inl (toM s')) ∨
    (∃ r, specStep st = .inr (.ret r) ∧ skelStep (toM st) = .inr r) := by
  unfold specStep skelStep rootsStep toM
  simp only [List.getLast?_map]
  cases st.t0.getLast? with
  | none => exact .inr ⟨_, rfl, rfl⟩
  | some top =>
    left
    -- the skeleton tests with `==` and `&&` what `classify` tests with `=` and `∧`
    simp only [Option.map_some, classify, ← List.map_dropLast, beq_iff_eq, Bool.and_eq_true, ge_iff_le]
    by_cases h0 : count_x_axis_crossings 6 top.t0 = 0
    · rw [if_pos h0, if_pos h0]
      exact ⟨_, rfl, rfl⟩
    rw [if_neg h0, if_neg h0]
    by_cases h1 : count_x_axis_crossings 6 top.t0 = 1 ∧ flat_enough 6 top.t0 = true
    · rw [if_pos h1, if_pos h1]
      exact ⟨_, rfl, rfl⟩
    rw [if_neg h1, if_neg h1]
    by_cases h2 : 48 ≤ top.t1
    · rw [if_pos h2, if_pos h2]
      exact ⟨_, rfl, rfl⟩
    rw [if_neg h2, if_neg h2]
    exact ⟨_, rfl, by simp only [List.map_append, List.map_cons, List.map_nil, List.append_assoc, List.cons_append, List.nil_append]⟩

/-- ONE STEP OF THE GENERATED LOOP IS ONE STEP OF THE SKELETON: continuing states correspond, and the generated loop returns its
    roots exactly when the skeleton does (it never leaves through `brk`) -/
theorem specStep_simulates (st : St K) :
    (∀ s', specStep st = .inl s' → skelStep (toM st) = .inl (toM s')) ∧
    (∀ r, specStep st = .inr (.ret r) → skelStep (toM st) = .inr r) ∧
    (∀ b, specStep st ≠ .inr (.brk b)) := by
  rcases step_cases st with ⟨s, h, hk⟩ | ⟨r, h, hk⟩ <;> rw [h, hk]
  · exact ⟨fun _ hs => by cases hs; rfl, nofun, nofun⟩
  · exact ⟨nofun, fun _ hr => by cases hr; rfl, nofun⟩

/-- the result of the generated loop as an option: `none` when the fuel ran out -/
def toOpt : LoopExit (St K) (List K) → Option (List K)
  | .ret r => some r
  | .brk _ => none

theorem iter_eq (fuel : Nat) (st : St K) :
    toOpt (iterFuel fuel specStep (fun s => LoopExit.brk s) st) =
      iterFuel fuel (fun s => match skelStep s with | .inl s' => .inl s' | .inr r => .inr (some r)) (fun _ => none) (toM st) := by
  induction fuel generalizing st with
  | zero => rfl
  | succ n ih =>
    simp only [iterFuel]
    rcases step_cases st with ⟨s', h, hk⟩ | ⟨r, h, hk⟩ <;> rw [h, hk]
    · exact ih s'
    · rfl

/-- THE SKELETON IS THE GENERATED LOOP: same roots for every control polygon and every fuel -/
theorem runSpec_eq_rootsLoop (fuel : Nat) (pts : List (V2 K)) :
    toOpt (runSpec fuel pts) =
      rootsLoop 48 (count_x_axis_crossings 6) (flat_enough 6) flatValue capValue
        (fun s => ((subdivide_n 6 (0.5 : K) s).t0, (subdivide_n 6 (0.5 : K) s).t1)) fuel pts := by
  unfold runSpec rootsLoop
  have h := iter_eq fuel (⟨[⟨pts, 0⟩], []⟩ : St K)
  simp only [toM, List.map_cons, List.map_nil] at h
  rw [h]
  congr 1
  funext s
  simp only [skelStep]
  cases rootsStep 48 (count_x_axis_crossings 6) (flat_enough 6) flatValue capValue
    (fun s => ((subdivide_n 6 (0.5 : K) s).t0, (subdivide_n 6 (0.5 : K) s).t1)) s <;> rfl

/-- THE GENERATED `find_bezier_roots` LOOP TERMINATES: with fuel `≥ 2^49` it ends by emptying its stack (returns through `ret`), for
    every control polygon and whatever the crossing count, the flatness test, Newton-Raphson / bisection and the subdivision compute -/
theorem find_bezier_roots_loop_terminates (fuel : Nat) (hf : 2 ^ 49 ≤ fuel) (pts : List (V2 K)) :
    ∃ roots, runSpec fuel pts = LoopExit.ret roots := by
  have h := C20.rootsLoop_terminates 48 (count_x_axis_crossings 6) (flat_enough 6) (flatValue (K := K)) capValue
    (fun s => ((subdivide_n 6 (0.5 : K) s).t0, (subdivide_n 6 (0.5 : K) s).t1)) fuel (by simpa using hf) pts
  rw [← runSpec_eq_rootsLoop] at h
  cases hr : runSpec fuel pts with
  | ret r => exact ⟨r, rfl⟩
  | brk b => rw [hr] at h; exact absurd rfl h

end C20Roots
