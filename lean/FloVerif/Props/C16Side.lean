/-
C16 (the same-side test)  Which two hits at a joint count as ONE crossing.

`Gen.points_are_same_side_horiz` is regenerated from path_contour.rs on every check.  `remove_duplicate_intercepts` drops the first of
two neighbouring hits at a joint when this test answers `true` (`C16.remove_duplicates_licensed`).  What the test has to mean
geometrically: the boundary runs through the row in the same vertical direction before and after the joint, i.e. the derivative of
the FIRST curve's y polynomial at the FIRST hit's parameter and the derivative of the SECOND curve's y polynomial at the SECOND hit's
parameter have the same sign (or one of them vanishes).  The specification below is written in terms of the polynomial derivative
`yDeriv`, not of the code's helper functions, so evaluating a tangent at the wrong hit's parameter or on the wrong curve breaks it.
-/
import FloVerif.Props.C16

set_option linter.unusedSectionVars false
namespace C16Side
open Prelude Gen

variable {K : Type} [Field K] [LinearOrder K] [IsStrictOrderedRing K] [Inhabited K] [FSqrt K] [FSignum K]

/-- the derivative of the cubic with Bernstein coefficients `c` at `t` -/
def yDeriv (c : T4 K K K K) (t : K) : K :=
  3 * (c.t1 - c.t0) * (1 - t) ^ 2 + 6 * (c.t2 - c.t1) * t * (1 - t) + 3 * (c.t3 - c.t2) * t ^ 2

/-- `yDeriv` IS the derivative: the cubic's value at `t + h` is its value at `t` plus `h * yDeriv c t` plus terms of order `h²` -/
theorem yDeriv_is_derivative (c : T4 K K K K) (t h : K) :
    de_casteljau4 (t + h) c.t0 c.t1 c.t2 c.t3 =
      de_casteljau4 t c.t0 c.t1 c.t2 c.t3 + h * yDeriv c t +
        h ^ 2 * (3 * (c.t2 - 2 * c.t1 + c.t0) * (1 - t) + 3 * (c.t3 - 2 * c.t2 + c.t1) * t + h * (c.t3 - 3 * c.t2 + 3 * c.t1 - c.t0)) := by
  simp only [de_casteljau4, de_casteljau3, de_casteljau2, yDeriv, lit1]
  ring

/-- THE SAME-SIDE TEST COMPARES THE RIGHT TANGENTS: for every curve table and every two hits, the generated test answers `true`
    exactly when the y-derivative of the first hit's curve AT THE FIRST HIT'S PARAMETER and the y-derivative of the second hit's curve
    AT THE SECOND HIT'S PARAMETER have the same `signum`, or one of the two derivatives is zero -/
theorem same_side_spec (curves : List (T3 (T4 K K K K) (T4 K K K K) (T2 (V2 K) (V2 K)))) (prev next : InterceptT K) :
    points_are_same_side_horiz curves prev next = true ↔
      (fsignum (yDeriv (listGet curves prev.curve_idx).t1 prev.t) = (fsignum (yDeriv (listGet curves next.curve_idx).t1 next.t) : K) ∨
        yDeriv (listGet curves prev.curve_idx).t1 prev.t = 0 ∨ yDeriv (listGet curves next.curve_idx).t1 next.t = 0) := by
  have hd : ∀ (c : T4 K K K K) (t : K),
      de_casteljau3 t (derivative4_1d c.t0 c.t1 c.t2 c.t3).t0 (derivative4_1d c.t0 c.t1 c.t2 c.t3).t1
        (derivative4_1d c.t0 c.t1 c.t2 c.t3).t2 = yDeriv c t := by
    intro c t
    simp only [de_casteljau3, de_casteljau2, derivative4_1d, yDeriv, lit1, lit3]
    ring
  simp only [points_are_same_side_horiz, hd, lit0, Bool.or_eq_true, beq_iff_eq, or_assoc]

/-- non-vacuity: the rising line 0,1,2,3 and the falling line 3,2,1,0 are on different sides; two rising ones on the same side -/
example : let tbl : List (T3 (T4 ℚ ℚ ℚ ℚ) (T4 ℚ ℚ ℚ ℚ) (T2 (V2 ℚ) (V2 ℚ))) :=
      [T3.mk (T4.mk 0 1 2 3) (T4.mk 0 1 2 3) (T2.mk ⟨0, 0⟩ ⟨3, 3⟩), T3.mk (T4.mk 3 4 5 6) (T4.mk 3 2 1 0) (T2.mk ⟨3, 0⟩ ⟨6, 3⟩)]
    yDeriv (listGet tbl 0).t1 (1 : ℚ) = 3 ∧ yDeriv (listGet tbl 1).t1 (0 : ℚ) = -3 := by
  simp [yDeriv, listGet]
  norm_num

end C16Side
