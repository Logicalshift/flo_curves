/-
C10 (offset with the generated fitter)  `offset` / `offset_lms_sampling` with NOTHING abstract in the fitting stage.

`C10.offset_lms_chain` / `offset_constant_chain` hold for any fitter that meets C08's chain contract.  The whole fitter is
generated (`Gen/FitKernel`, `Model.FitKernel.fitCubicGen`) and `C08Kernel.generated_fit_chain` / `generated_fit_near` are
theorems about it - so they can be plugged in: the curves `offset` returns form a connected chain from the first to the last sample AND
EVERY SAMPLE - a point exactly on the parallel curve `C(t) + n̂(t)·d(t)` at one of the 33 .. 129 sample parameters - IS WITHIN 0.1 OF THE
CHAIN, at a parameter in [0,1].  Hypothesis: no three consecutive samples coincide (they do for a point curve with
a zero offset; then `chords_for_points` divides 0 by 0).
-/
import FloVerif.Props.C10
import FloVerif.Props.C08Kernel

namespace C10Fit
open Prelude Gen C10 C08 C08Cubic C08Kernel

variable {K : Type} [Field K] [LinearOrder K] [IsStrictOrderedRing K] [Inhabited K]
local instance : FAbs K := ⟨fun a => |a|⟩
local instance : OfInt K := ⟨fun n => (n : K)⟩
variable [FSqrt K] [FConsts K] [FSignum K]

/-- the generated fitter as `offset_lms_sampling` calls it -/
def genFitter (ps : List (V2 K)) (st et : V2 K) (e : K) : List (Cub K) := Model.FitKernel.fitCubicGen (ps.length + 1) ps st et e

/-- **`offset_lms_sampling` WITH THE GENERATED FITTER**: for every curve, every feature class, every pair of offset functions, every
    `n ≥ 2` and every `max_error`: with `ts` the sample parameters and `samples` the points `C(t) + n̂(t)·normal_offset(t) +
    t̂(t)·tangent_offset(t)` at them, if no three consecutive samples coincide the function returns `Some` connected chain from the first
    sample to the last one and every sample is within the (clamped) `max_error` of one of its curves at a parameter in [0,1]. -/
theorem offset_lms_sampling_generated (hs : SqrtOK K) (hmono : ∀ a b : K, a ≤ b → (fsqrt a : K) ≤ fsqrt b)
    (features_for_curve : K → CurveFeatures K) (w1 w2 w3 w4 : V2 K) (nof tof : K → K) (n : Nat) (e : K) (hn : 2 ≤ n)
    (ts : List K) (hts : offset_lms_sample_ts features_for_curve n = some ts)
    (hnr : NoTripleRun (ts.map (samplePoint w1 w2 w3 w4 nof tof))) :
    ∃ cs, offset_lms_sampling features_for_curve genFitter w1 w2 w3 w4 nof tof n e = some cs ∧
      FitsChain (fun c : Cub K => c.t0) (fun c : Cub K => c.t3) (ts.map (samplePoint w1 w2 w3 w4 nof tof)) cs ∧
      ∀ p ∈ ts.map (samplePoint w1 w2 w3 w4 nof tof), Near (clampTol e) cs p := by
  obtain ⟨ts', hts', _, _, _, _, _, hlen, _⟩ := sample_ts_spec features_for_curve n hn
  rw [hts] at hts'; cases hts'
  rw [offset_lms_sampling_eq, hts]
  refine ⟨_, rfl, ?_, ?_⟩
  · exact generated_fit_chain hs _ hnr _ _ _ _ e List.infix_rfl (by rw [List.length_map]; omega) (Nat.le_succ _)
  · intro p hp
    exact generated_fit_near hs hmono _ hnr e _ _ _ _ List.infix_rfl (by rw [List.length_map]; omega) (Nat.le_succ _) p hp

/-- **`offset(curve, d0, d1)` WITH THE GENERATED FITTER**: 32 subdivisions per section, fit error 0.1, the linear offset
    `(d1 − d0)·t + d0` along the unit normal: the returned curves are a connected chain from the first to the last sample and every one of
    the 33 .. 129 samples of the parallel curve is within 0.1 of the chain. -/
theorem offset_generated (hs : SqrtOK K) (hmono : ∀ a b : K, a ≤ b → (fsqrt a : K) ≤ fsqrt b)
    (features_for_curve : K → CurveFeatures K) (w1 w2 w3 w4 : V2 K) (d0 d1 : K)
    (ts : List K) (hts : offset_lms_sample_ts features_for_curve 32 = some ts)
    (hnr : NoTripleRun (ts.map (samplePoint w1 w2 w3 w4 (fun t => (d1 - d0) * t + d0) (fun _ => (0.0 : K))))) :
    let samples := ts.map (samplePoint w1 w2 w3 w4 (fun t => (d1 - d0) * t + d0) (fun _ => (0.0 : K)))
    let cs := offset features_for_curve genFitter w1 w2 w3 w4 d0 d1
    FitsChain (fun c : Cub K => c.t0) (fun c : Cub K => c.t3) samples cs ∧ ∀ p ∈ samples, Near (0.1 : K) cs p := by
  intro samples cs
  obtain ⟨cs', hcs, hfc, hnear⟩ := offset_lms_sampling_generated hs hmono features_for_curve w1 w2 w3 w4
    (fun t => (d1 - d0) * t + d0) (fun _ => (0.0 : K)) 32 (0.1 : K) (by norm_num) ts hts hnr
  obtain rfl : cs = cs' := Option.some.inj ((offset_eq features_for_curve genFitter w1 w2 w3 w4 d0 d1).trans hcs)
  have hc : clampTol (0.1 : K) = 0.1 := by unfold clampTol; rw [if_neg (by norm_num)]
  exact ⟨hfc, hc ▸ hnear⟩

end C10Fit
