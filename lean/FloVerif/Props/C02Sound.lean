/-
C02 (end to end)  EVERY PAIR `curve_intersects_curve_clip` RETURNS IS A PAIR OF NEARBY POINTS - or the named tiny-section exit.

`C02.results_have_origin` says where a returned pair can come from (convergence exit, overlap shortcut, linear fall-back);
`origin_close` that each origin yields two nearby points, for the context whose callees are the GENERATED `overlapping_region`
and `intersections_with_linear_section`: only the two external root solvers are left as (arbitrary) parameters.
-/
import FloVerif.Props.C02
import FloVerif.Props.C02Overlap
import FloVerif.Props.C05

set_option linter.unusedSectionVars false
namespace C02Sound
open Prelude Gen FatLineLemmas ClipExact CurveClipLemmas Model.CurveClip C02Overlap

variable {K : Type} [Field K] [LinearOrder K] [IsStrictOrderedRing K] [Inhabited K] [FSqrt K] [FConsts K] [FSignum K]
local instance : FAbs K := ⟨fun a => |a|⟩
local instance : OfInt K := ⟨fun n => (n : K)⟩

/-- the context of `Model.CurveClip` with the generated callees: `overlapping_region` asked about the cubics of the two sections, the
    linear fall-back in its two roles; the root solvers `sr` (cubic of `curve_intersects_ray`) and `sb` (`solve_basis_for_t`) are arbitrary -/
def genCtx (sr : T4 K K K K → List K) (sb : K → K → K → K → K → List K) (a1 a2 a3 a4 b1 b2 b3 b4 : V2 K) : Ctx K where
  ovl := fun s1 s2 => overlapping_region (tForPoint sb (secCubic a1 a2 a3 a4 s1)) (tForPoint sb (secCubic b1 b2 b3 b4 s2))
    (secCubic a1 a2 a3 a4 s1) (secCubic b1 b2 b3 b4 s2)
  lin12 := fun c1 c2 acc => intersections_with_linear_section sr sb a1 a2 a3 a4 b1 b2 b3 b4 c1 c2 acc
  lin21 := fun c2 c1 acc => intersections_with_linear_section sr sb b1 b2 b3 b4 a1 a2 a3 a4 c2 c1 acc
  a1 := a1
  a2 := a2
  a3 := a3
  a4 := a4
  b1 := b1
  b2 := b2
  b3 := b3
  b4 := b4

/-- the point of a section's cubic is the point of the original curve at the mapped parameter -/
theorem secCubic_point (w1 w2 w3 w4 : V2 K) (S : SectionT K) (hS : Sub01 S) (u : K) :
    curve_point_at_pos (secCubic w1 w2 w3 w4 S).t0 (secCubic w1 w2 w3 w4 S).t1 (secCubic w1 w2 w3 w4 S).t2 (secCubic w1 w2 w3 w4 S).t3 u
      = curve_point_at_pos w1 w2 w3 w4 (section_t_for_t S u) := by
  have h := sec_point' w1 w2 w3 w4 S hS u
  simp only [secCubic, curve_point_at_pos, C05.basis_eq_de_casteljau4_V2] at h ⊢
  exact h

theorem secCubic_dc4 (w1 w2 w3 w4 : V2 K) (S : SectionT K) (hS : Sub01 S) (u : K) :
    de_casteljau4 u (secCubic w1 w2 w3 w4 S).t0 (secCubic w1 w2 w3 w4 S).t1 (secCubic w1 w2 w3 w4 S).t2 (secCubic w1 w2 w3 w4 S).t3
      = curve_point_at_pos w1 w2 w3 w4 (section_t_for_t S u) :=
  sec_point' w1 w2 w3 w4 S hS u

theorem linear_answer_close (sr : T4 K K K K → List K) (sb : K → K → K → K → K → List K) (a1 a2 a3 a4 b1 b2 b3 b4 : V2 K)
    (lin cur : SectionT K) (hl : Sub01 lin) (hc : Sub01 cur) (acc : K) (hacc : 0 ≤ acc) (g : T2 K K)
    (hg : g ∈ intersections_with_linear_section sr sb a1 a2 a3 a4 b1 b2 b3 b4 lin cur acc) :
    Within (max acc (0.05 : K)) (curve_point_at_pos a1 a2 a3 a4 (section_t_for_t lin g.t0))
      (curve_point_at_pos b1 b2 b3 b4 (section_t_for_t cur g.t1)) := by
  obtain ⟨lt, ct⟩ := g
  obtain ⟨_, _, hw | ⟨hlt, hnear⟩⟩ := linear_fallback_points_close sr sb a1 a2 a3 a4 b1 b2 b3 b4 lin cur acc lt ct hacc hg
  · rw [secCubic_dc4 _ _ _ _ _ hc, secCubic_point _ _ _ _ _ hl] at hw
    exact hw.mono (le_max_of_le_left hacc) (max_le_max_left acc (by rw [show (CLOSE_DISTANCE : K) = 0.01 from rfl]; norm_num))
  · -- the short-section rescue compares with `CLOSE_ENOUGH`
    rw [secCubic_dc4 _ _ _ _ _ hc, is_near_to_iff,
      show (CLOSE_ENOUGH : K) = 0.05 by unfold CLOSE_ENOUGH SMALL_DISTANCE; norm_num] at hnear
    rw [hlt]
    exact (Within.symm hnear).mono (by norm_num) (le_max_right _ _)

/-- the three kinds of `returned_pairs_are_close`, the second with what is known of the two final sections -/
theorem origin_close (sr : T4 K K K K → List K) (sb : K → K → K → K → K → List K) (a1 a2 a3 a4 b1 b2 b3 b4 : V2 K) (acc : K)
    (hacc : 0 ≤ acc) (cx : Ctx K) (hcx : cx = genCtx sr sb a1 a2 a3 a4 b1 b2 b3 b4) (h : T2 K K) (ho : Origin cx acc (acc * acc) h) :
    dist2 (curve_point_at_pos a1 a2 a3 a4 h.t0) (curve_point_at_pos b1 b2 b3 b4 h.t1) ≤ 12 * (acc * acc) ∨
    (∃ F1 F2 : SectionT K, h = T2.mk (midT F1) (midT F2) ∧ (section_is_tiny F1 = true ∨ section_is_tiny F2 = true) ∧
      Sub01 F1 ∧ Sub01 F2 ∧ len1 cx F1 ≤ acc * acc ∧ len2 cx F2 ≤ acc * acc ∧
      bounds_overlaps (box1 cx F1) (box2 cx F2) = true) ∨
    Within (max acc (0.05 : K)) (curve_point_at_pos a1 a2 a3 a4 h.t0) (curve_point_at_pos b1 b2 b3 b4 h.t1) := by
  subst hcx
  cases ho with
  | converged F1 F2 s1 s2 l1 l2 hov =>
    cases t1 : section_is_tiny F1 with
    | true => exact Or.inr (Or.inl ⟨F1, F2, rfl, Or.inl t1, s1, s2, l1, l2, hov⟩)
    | false =>
      cases t2 : section_is_tiny F2 with
      | true => exact Or.inr (Or.inl ⟨F1, F2, rfl, Or.inr t2, s1, s2, l1, l2, hov⟩)
      | false =>
        left
        exact C02.converged_pair_close (genCtx sr sb a1 a2 a3 a4 b1 b2 b3 b4) F1 F2 s1 s2 t1 t2 (acc * acc) l1 l2 hov
  | overlap o h ho hmem =>
    obtain ⟨⟨a, b⟩, ⟨c, e⟩⟩ := o
    have hclose := overlap_answer_points_close sb sb (secCubic a1 a2 a3 a4 (section_new (0.0 : K) (1.0 : K)))
      (secCubic b1 b2 b3 b4 (section_new (0.0 : K) (1.0 : K))) a b c e ho
    simp only [secCubic_point _ _ _ _ _ sub01_whole] at hclose
    rcases mem_overlapHits _ _ _ h hmem with rfl | rfl
    · exact Or.inr (Or.inr (hclose.1.mono (by norm_num) (le_max_right _ _)))
    · exact Or.inr (Or.inr (hclose.2.1.mono (by norm_num) (le_max_right _ _)))
  | linear12 c1 c2 g s1 s2 _ hg =>
    exact Or.inr (Or.inr (linear_answer_close sr sb a1 a2 a3 a4 b1 b2 b3 b4 c1 c2 s1 s2 acc hacc g hg))
  | linear21 c1 c2 g s1 s2 _ hg =>
    exact Or.inr (Or.inr (linear_answer_close sr sb b1 b2 b3 b4 a1 a2 a3 a4 c2 c1 s2 s1 acc hacc g hg).symm)

/-- **WHAT `curve_intersects_curve_clip` RETURNS, END TO END.**  For all pairs of cubics, every accuracy `≥ 0`, every recursion depth and
    ANY behaviour of the two external root solvers: each pair `(t1, t2)` the generated function returns is

    1. two points `C1(t1)`, `C2(t2)` with squared distance `≤ 12·accuracy²` (the loop's own exit on two sections that are not `is_tiny`), or
    2. the mid-parameters of two final sections one of which is `is_tiny` (parameter length below 0.001: the hull length is defined as 0
       there, so the convergence test says nothing - `C02.convergence_test_tiny_counterexample`), or
    3. two points within `max(accuracy, 0.05)` of each other (overlap shortcut, linear fall-back, short-section rescue).

    As stated, 2. holds of any pair (take sections of length 0): the content is `origin_close`, where 2. keeps what is known of
    the two sections. -/
theorem returned_pairs_are_close (hM : 1 ≤ (fmaxval : K)) (hm : (fminval : K) ≤ 0)
    (sr : T4 K K K K → List K) (sb : K → K → K → K → K → List K) (a1 a2 a3 a4 b1 b2 b3 b4 : V2 K) (acc : K) (hacc : 0 ≤ acc) (d : Nat) :
    ∀ h ∈ clipTop (genCtx sr sb a1 a2 a3 a4 b1 b2 b3 b4) d acc,
      dist2 (curve_point_at_pos a1 a2 a3 a4 h.t0) (curve_point_at_pos b1 b2 b3 b4 h.t1) ≤ 12 * (acc * acc) ∨
      (∃ F1 F2 : SectionT K, h = T2.mk (midT F1) (midT F2) ∧ (section_is_tiny F1 = true ∨ section_is_tiny F2 = true)) ∨
      Within (max acc (0.05 : K)) (curve_point_at_pos a1 a2 a3 a4 h.t0) (curve_point_at_pos b1 b2 b3 b4 h.t1) :=
  fun h hh => (origin_close sr sb a1 a2 a3 a4 b1 b2 b3 b4 acc hacc _ rfl h (C02.results_have_origin _ acc hM hm d h hh)).imp_right
    (Or.imp_left fun ⟨F1, F2, e, t, _⟩ => ⟨F1, F2, e, t⟩)

end C02Sound
