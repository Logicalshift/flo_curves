/-
C17 (tracing part)  `trace_contours_from_edges` on the edge cells of a bitmap does not panic and returns closed
loops that together use every edge between an inside and an outside sample exactly once.

`Gen.cell_connected_edges`, `Gen.cell_from_corners`, `Gen.edge_at_coordinates` are
regenerated from the Rust sources on every check; `buildGraph`, `followLoop`, `traceLoops`, `mixedCells`,
`boundaryEdges` are the hand models of `Model/Contour.lean`.
`List.IsChain R l` says that consecutive elements of `l` are related by `R`.
-/
import FloVerif.Lemmas.Trace

namespace C17Trace
open Prelude Gen Model.Contour

/-- two edge ids are joined inside one cell of the list -/
def Joined (w : Nat) (cells : List ((Nat × Nat) × Nat)) (a b : Nat) : Prop :=
  ∃ c ∈ cells, ∃ p ∈ cell_connected_edges c.2,
    (a = edge_at_coordinates p.1 w c.1.1 c.1.2 ∧ b = edge_at_coordinates p.2 w c.1.1 c.1.2) ∨
    (b = edge_at_coordinates p.1 w c.1.1 c.1.2 ∧ a = edge_at_coordinates p.2 w c.1.1 c.1.2)

/-- the tracer on an abstract graph (association list `key ↦ neighbours`), independent of bitmaps.
    Hypotheses: the keys are distinct; every key lists exactly two neighbours, never itself (the same neighbour
    may be listed twice: a 2-cycle); every listed neighbour is a key; `b` is listed under `a` as often as `a`
    under `b`; listed neighbours are `R`-related to their key.
    Conclusion: with fuel `g.length + 1` the tracer does not fail (`none` = the Rust code would panic), every
    loop is closed (first element repeated last), consecutive elements are `R`-related, and the loops without
    their repeated last element are a permutation of the keys. -/
theorem trace_abstract (R : Nat → Nat → Prop) (g : Graph)
    (hkeys : (g.map (·.1)).Nodup)
    (hdeg : ∀ e ∈ g, e.2.length = 2 ∧ e.1 ∉ e.2)
    (hclosed : ∀ e ∈ g, ∀ v ∈ e.2, v ∈ g.map (·.1))
    (hsym : ∀ e ∈ g, ∀ e' ∈ g, e.2.count e'.1 = e'.2.count e.1)
    (hR : ∀ e ∈ g, ∀ v ∈ e.2, R e.1 v) :
    ∃ loops, traceLoops (g.length + 1) g = some loops ∧
      (∀ l ∈ loops, 2 ≤ l.length ∧ l.head? = l.getLast? ∧ l.IsChain R) ∧
      (loops.flatMap (·.dropLast)).Perm (g.map (·.1)) := by
  have good : Trace.Closed2Regular R g := by
    refine ⟨hkeys, fun e he => ⟨(hdeg e he).1, (hdeg e he).2, hR e he⟩, ?_⟩
    intro a b
    have hzero : ∀ a b, a ∈ Trace.keys g → b ∉ Trace.keys g → (Trace.nb g a).count b = 0 := by
      intro a b ha hb
      rw [List.count_eq_zero]
      exact fun hm => hb (hclosed _ (Trace.mem_of_mem_keys ha) b hm)
    by_cases ha : a ∈ Trace.keys g
    · by_cases hb : b ∈ Trace.keys g
      · exact hsym _ (Trace.mem_of_mem_keys ha) _ (Trace.mem_of_mem_keys hb)
      · rw [hzero a b ha hb, Trace.nb_of_not_mem hb]; rfl
    · by_cases hb : b ∈ Trace.keys g
      · rw [hzero b a hb ha, Trace.nb_of_not_mem ha]; rfl
      · rw [Trace.nb_of_not_mem ha, Trace.nb_of_not_mem hb]; rfl
  exact Trace.traceLoops_spec R (g.length + 1) g good (Nat.lt_succ_self _)

/-- for EVERY bitmap: tracing the mixed cells does not panic and returns closed loops (first element repeated
    last) whose consecutive elements are joined inside one cell and which together use every edge between an
    inside and an outside sample exactly once -/
theorem trace_loops (w : Nat) (rows : List (List Bool)) (hrows : ∀ r ∈ rows, r.length = w) :
    ∃ loops, traceLoops ((buildGraph w (mixedCells w rows)).length + 1) (buildGraph w (mixedCells w rows)) = some loops ∧
      (∀ l ∈ loops, 2 ≤ l.length ∧ l.head? = l.getLast? ∧ l.IsChain (Joined w (mixedCells w rows))) ∧
      (loops.flatMap (·.dropLast)).Perm (boundaryEdges w rows) := by
  have good : Trace.Closed2Regular (Joined w (mixedCells w rows)) (buildGraph w (mixedCells w rows)) :=
    Trace.build_good w rows hrows _ (fun p hp => Trace.mem_arcsOf hp)
  obtain ⟨loops, h1, h2, h3⟩ := Trace.traceLoops_spec _ _ _ good (Nat.lt_succ_self _)
  exact ⟨loops, h1, h2, h3.trans (Trace.build_keys w rows hrows)⟩

/-! non-vacuity: a single pixel gives one loop of its four boundary edges -/
example : traceLoops ((buildGraph 1 (mixedCells 1 [[true]])).length + 1) (buildGraph 1 (mixedCells 1 [[true]])) =
    some [[5, 2, 7, 6, 5]] ∧ boundaryEdges 1 [[true]] = [2, 5, 7, 6] := by decide

end C17Trace
