/-
C18 (Space1D)  `Space1D::from_data` divides the line into sorted, disjoint, non-empty pieces, each carrying
exactly the handles of the input ranges that cover it; the query functions return what their doc comments
say.

Stated about the hand-written model `Model.Space1D` (validated against the Rust implementation by the
harness).  `K` is any linear order (f64 without NaN under `total_cmp`, ℚ, ℤ, …); `==` on `K` is the one
derived from decidable equality.

`fromData_inv` carries the hypothesis that no input range is inverted (`r.1 ≤ r.2`): for an inverted
range the code emits an inverted piece, e.g. `fromData [(5, 3)] = [{ s := 5, e := 3, hs := [0] }]`,
which violates `Inv.nonempty` (see `inverted_counterexample`).
-/
import FloVerif.Lemmas.Space1D

namespace C18Space
open Model.Space1D

variable {K : Type} [LinearOrder K]

def Contains (r : K × K) (x : K) : Prop := r.1 ≤ x ∧ x < r.2

/-- the specification a divided space must meet for the input `data` (handle i = position i in `data`) -/
structure Inv (data : List (K × K)) (sp : List (Piece K)) : Prop where
  nonempty : ∀ p ∈ sp, p.s < p.e
  sorted   : sp.Pairwise (fun p q => p.e ≤ q.s)
  handles  : ∀ p ∈ sp, ∀ x, p.s ≤ x → x < p.e → ∀ i, i ∈ p.hs ↔ ∃ r, data[i]? = some r ∧ Contains r x
  nodup    : ∀ p ∈ sp, p.hs.Nodup
  cover    : ∀ (i : Nat) r x, data[i]? = some r → Contains r x → ∃ p ∈ sp, p.s ≤ x ∧ x < p.e

/-- (B) the construction establishes the specification, for every input list (any length; touching,
    nested, identical or zero-width ranges) without inverted ranges -/
theorem fromData_inv (data : List (K × K)) (hle : ∀ r ∈ data, r.1 ≤ r.2) : Inv data (fromData data) := by
  have hg := fromData_good data hle
  refine ⟨hg.nonempty, hg.sorted, ?_, hg.nodup, ?_⟩
  · intro p hp x h1 h2 i
    rw [hg.handles p hp x h1 h2 i]
    exact exists_congr fun r => and_congr_left' mem_sortByStart
  · intro i r x hr hc
    exact hg.cover r i x (mem_sortByStart.mpr hr) hc.1 hc.2

/-- the hypothesis of `fromData_inv` cannot be dropped: an inverted input range yields an inverted piece -/
theorem inverted_counterexample : ¬ Inv [((5 : Int), 3)] (fromData [((5 : Int), 3)]) := by
  intro h
  have e : fromData [((5 : Int), 3)] = [{ s := 5, e := 3, hs := [0] }] := by
    simp [fromData, sortByStart, step, popLoop, drain]
  have := h.nonempty { s := 5, e := 3, hs := [0] } (by rw [e]; exact List.mem_singleton.mpr rfl)
  exact absurd this (by decide)

/-- data_at_point returns exactly the items whose half-open range contains x, each once -/
theorem dataAtPoint_spec {data : List (K × K)} {sp : List (Piece K)} (h : Inv data sp) (x : K) :
    (∀ i, i ∈ dataAtPoint sp x ↔ ∃ r, data[i]? = some r ∧ Contains r x) ∧ (dataAtPoint sp x).Nodup := by
  rcases dataAtPoint_cases h.nonempty h.sorted x with ⟨p, hp, h1, h2, e⟩ | ⟨hno, e⟩
  · rw [e]
    exact ⟨fun i => h.handles p hp x h1 h2 i, h.nodup p hp⟩
  · rw [e]
    refine ⟨fun i => ⟨fun hi => (nomatch hi), ?_⟩, List.nodup_nil⟩
    rintro ⟨r, hr, hc⟩
    obtain ⟨p, hp, hx⟩ := h.cover i r x hr hc
    exact absurd hx (hno p hp)

/-- regions_in_range returns exactly the pieces meeting `[rs, re)`, in order -/
theorem regionsInRange_spec {data : List (K × K)} {sp : List (Piece K)} (h : Inv data sp) (rs re : K) :
    regionsInRange sp rs re = sp.filter (fun p => decide (rs < p.e) && decide (p.s < re)) :=
  regionsInRange_eq h.nonempty h.sorted rs re

/-- data_in_region returns each item overlapping the region once -/
theorem dataInRegion_spec {data : List (K × K)} {sp : List (Piece K)} (h : Inv data sp) (rs re : K)
    (hr : rs < re) :
    (∀ i, i ∈ dataInRegion sp rs re ↔ ∃ r, data[i]? = some r ∧ ∃ x, Contains r x ∧ rs ≤ x ∧ x < re) ∧
    (dataInRegion sp rs re).Nodup := by
  unfold dataInRegion
  obtain ⟨hd1, hd2⟩ := dedup_spec ((regionsInRange sp rs re).flatMap (·.hs)) []
  refine ⟨?_, hd2⟩
  intro i
  rw [hd1 i, regionsInRange_spec h rs re]
  simp only [List.mem_flatMap, List.mem_filter, Bool.and_eq_true, decide_eq_true_eq, List.not_mem_nil,
    not_false_eq_true, and_true]
  constructor
  · rintro ⟨p, ⟨hp, h1, h2⟩, hi⟩
    -- `max p.s rs` lies in the piece and in the region
    obtain ⟨r, hr', hc⟩ :=
      (h.handles p hp (max p.s rs) (le_max_left _ _) (max_lt (h.nonempty p hp) h1) i).mp hi
    exact ⟨r, hr', max p.s rs, hc, le_max_right _ _, max_lt h2 hr⟩
  · rintro ⟨r, hr', x, hc, h1, h2⟩
    obtain ⟨p, hp, h3, h4⟩ := h.cover i r x hr' hc
    exact ⟨p, ⟨hp, lt_of_le_of_lt h1 h4, lt_of_le_of_lt h3 h2⟩, (h.handles p hp x h3 h4 i).mpr ⟨r, hr', hc⟩⟩

/-- all_regions is sorted, non-overlapping and has no empty range -/
theorem allRegions_spec {data : List (K × K)} {sp : List (Piece K)} (h : Inv data sp) :
    sp.Pairwise (fun p q => p.e ≤ q.s) ∧ ∀ p ∈ sp, p.s < p.e :=
  ⟨h.sorted, h.nonempty⟩

end C18Space

section AxiomCheck
#print axioms C18Space.fromData_inv
#print axioms C18Space.dataAtPoint_spec
#print axioms C18Space.regionsInRange_spec
#print axioms C18Space.dataInRegion_spec
#print axioms C18Space.allRegions_spec
#print axioms C18Space.inverted_counterexample
end AxiomCheck
