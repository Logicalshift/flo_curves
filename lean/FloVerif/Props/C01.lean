/-
C01  Path boolean arithmetic has exact set semantics — the decision logic.

`Gen.pred_add/sub/intersect/remove_interior/chain` and the operation layers
`Gen.path_add_layer/path_sub_layer/path_intersect_layer` (the empty-operand short-circuits in front of the
graph algorithm, which is the opaque parameter `core`) are regenerated from add.rs / sub.rs / intersect.rs /
chain_add.rs on every check.  `Model.RayCast` is the hand model of the classification machine, tied to the
code by replaying the traces recorded through hook H2.
-/
import FloVerif.Model.RayCast
import Mathlib.Tactic.Ring
import Mathlib.Tactic.NormNum
import Mathlib.Tactic.Linarith

namespace C01
open Prelude Gen Model.RayCast

/-- `c & 1` on a crossing count is its remainder mod 2 (two's complement, any sign) -/
theorem bitand_one (c : Int) : bitand c 1 = c % 2 := by
  have hl : Nat.log2 (1 : Int).toNat + 1 = 1 := by decide
  have hlt : (c % 2).toNat < 2 := by omega
  simp only [bitand]
  rw [if_neg (by decide), hl]
  show Int.ofNat ((c % 2).toNat &&& 1) = c % 2
  rw [Nat.and_one_is_mod, Nat.mod_eq_of_lt hlt]
  exact Int.toNat_of_nonneg (Int.emod_nonneg c (by decide))

/-- `(c & 1) != 0` says the count is odd -/
theorem odd_test (c : Int) : (bitand c 1 != 0) = decide (c % 2 = 1) := by
  rw [bitand_one]
  rcases Int.emod_two_eq c with h | h <;> simp [h]

theorem even_test (c : Int) : (bitand c 1 == 0) = !decide (c % 2 = 1) := by
  rw [← odd_test, bne, Bool.not_not]

/-- the inside-predicates are what set algebra says, for every pair of crossing counts (even-odd rule) -/
theorem pred_spec (a b : Int) :
    pred_add [a, b] = (decide (a % 2 = 1) || decide (b % 2 = 1)) ∧
    pred_sub [a, b] = (decide (a % 2 = 1) && !decide (b % 2 = 1)) ∧
    pred_intersect [a, b] = (decide (a % 2 = 1) && decide (b % 2 = 1)) ∧
    pred_remove_interior [a, b] = (decide (a ≠ 0) || decide (b ≠ 0)) := by
  refine ⟨?_, ?_, ?_, ?_⟩
  · show (bitand a 1 != 0 || bitand b 1 != 0) = _; rw [odd_test, odd_test]
  · show (bitand a 1 != 0 && bitand b 1 == 0) = _; rw [odd_test, even_test]
  · show (bitand a 1 != 0 && bitand b 1 != 0) = _; rw [odd_test, odd_test]
  · simp only [ne_eq, decide_not]; rfl

/-- the chain predicate: some operand's count is odd (union under the even-odd rule) -/
theorem pred_chain_spec (cs : List Int) : pred_chain cs = cs.any (fun c => decide (c % 2 = 1)) := by
  simp only [pred_chain, odd_test]
  cases cs.any fun c => decide (c % 2 = 1) <;> rfl

/-- outside every shape nothing is inside the result: all predicates are false on zero counts -/
theorem pred_zero : pred_add [0, 0] = false ∧ pred_sub [0, 0] = false ∧ pred_intersect [0, 0] = false ∧
    pred_remove_interior [0, 0] = false ∧ ∀ n, pred_chain (List.replicate n 0) = false :=
  ⟨by decide, by decide, by decide, by decide, fun n => by simp [pred_chain_spec]⟩

/-- add and intersect do not care about the order of the operands -/
theorem pred_symmetric (a b : Int) : pred_add [a, b] = pred_add [b, a] ∧ pred_intersect [a, b] = pred_intersect [b, a] := by
  obtain ⟨h1, _, h3, _⟩ := pred_spec a b
  obtain ⟨h1', _, h3', _⟩ := pred_spec b a
  rw [h1, h1', h3, h3']
  exact ⟨Bool.or_comm _ _, Bool.and_comm _ _⟩

/-- EMPTY OPERANDS: A+∅=A, ∅+B=B, A−∅=A, ∅−B=∅, A∩∅=∅=∅∩B for the operation layers as the code writes them,
    whatever the graph algorithm `core` does -/
theorem empty_operand_laws {PathT : Type} (core : List PathT → List PathT → List PathT) (a b : List PathT) :
    path_add_layer a [] core = a ∧ path_add_layer [] b core = b ∧
    path_sub_layer a [] core = a ∧ path_sub_layer [] b core = [] ∧
    path_intersect_layer a [] core = [] ∧ path_intersect_layer [] b core = [] := by
  cases a <;> cases b <;> simp [path_add_layer, path_sub_layer, path_intersect_layer]

/-- NON-EMPTY OPERANDS: every operation layer is the graph algorithm `core` -/
theorem nonempty_operands {PathT : Type} (core : List PathT → List PathT → List PathT) (a b : List PathT)
    (ha : a ≠ []) (hb : b ≠ []) :
    path_add_layer a b core = core a b ∧ path_sub_layer a b core = core a b ∧ path_intersect_layer a b core = core a b := by
  cases a with
  | nil => exact absurd rfl ha
  | cons x xs =>
    cases b with
    | nil => exact absurd rfl hb
    | cons y ys => simp [path_add_layer, path_sub_layer, path_intersect_layer]

/-! ### the classification machine -/

/-- parity of a list of Booleans -/
def parity : List Bool → Bool
  | [] => false
  | b :: bs => xor b (parity bs)

/-- whether the predicate flips across each group -/
def flips (isInside : List Int → Bool) : List Int → List (List Hit) → List Bool
  | _, [] => []
  | cs, g :: gs => (isInside cs != isInside (processGroup isInside cs g).1) :: flips isInside (processGroup isInside cs g).1 gs

def countsAfter (isInside : List Int → Bool) : List Int → List (List Hit) → List Int
  | cs, [] => cs
  | cs, g :: gs => countsAfter isInside (processGroup isInside cs g).1 gs

/-- MEMBERSHIP TELESCOPES: along any ray, the number of groups across which the inside-predicate flips is odd
    iff the predicate differs between the start and the end of the ray -/
theorem membership_telescopes (isInside : List Int → Bool) (cs : List Int) (groups : List (List Hit)) :
    parity (flips isInside cs groups) = xor (isInside cs) (isInside (countsAfter isInside cs groups)) := by
  induction groups generalizing cs with
  | nil => simp [flips, countsAfter, parity]
  | cons g gs ih =>
    simp only [flips, countsAfter, parity, ih]
    cases isInside cs <;> cases isInside (processGroup isInside cs g).1 <;>
      cases isInside (countsAfter isInside (processGroup isInside cs g).1 gs) <;> rfl

/-- starting outside everything (`isInside [0,0] = false`): odd number of flips ⇔ inside at the end -/
theorem inside_iff_odd_flips (isInside : List Int → Bool) (groups : List (List Hit)) (h0 : isInside [0, 0] = false) :
    parity (flips isInside [0, 0] groups) = isInside (countsAfter isInside [0, 0] groups) := by
  rw [membership_telescopes, h0]; simp

/-- a group marks at most one edge exterior, and exactly one iff the predicate flips across the group and
    some edge of the group may be set (not an intersection, not hit near its end) -/
theorem group_exterior_count (isInside : List Int → Bool) (cs : List Int) (g : List Hit) :
    let r := processGroup isInside cs g
    ((r.2.filter (fun e => e.2.2)).length ≤ 1) ∧
    ((r.2.filter (fun e => e.2.2)).length = 1 ↔
      (isInside cs != isInside r.1) = true ∧ ((orderGroup isInside cs g).filter (fun h => !h.isIntersection && !h.nearEnd)) ≠ []) := by
  -- the events of hits that are not the first are all marked interior
  have hnone (l : List Hit) : (l.map fun h => ((h.startIdx, h.edgeIdx, false) : SetEvent)).filter (fun e => e.2.2) = [] :=
    List.filter_eq_nil_iff.2 fun e he => by obtain ⟨_, _, rfl⟩ := List.mem_map.1 he; exact Bool.false_ne_true
  simp only [processGroup]
  split
  · rename_i hflip
    split
    · rename_i hnil
      simp [hnil, hflip]
    · rename_i first rest hcons
      simp [hnone, hcons, hflip]
  · rename_i hflip
    simp [hnone, hflip]

/-- every edge the group may set gets exactly one kind: the events are the settable hits, in order -/
theorem group_events_cover (isInside : List Int → Bool) (cs : List Int) (g : List Hit) :
    (processGroup isInside cs g).2.map (fun e => (e.1, e.2.1)) =
      ((orderGroup isInside cs g).filter (fun h => !h.isIntersection && !h.nearEnd)).map (fun h => (h.startIdx, h.edgeIdx)) := by
  simp only [processGroup]
  split
  · split
    · rename_i hnil; simp [hnil]
    · rename_i first rest hcons; simp [hcons, Function.comp_def]
  · simp [Function.comp_def]

theorem getD_append_replicate {α : Type} (l : List α) (n k : Nat) (d : α) : (l ++ List.replicate n d).getD k d = l.getD k d := by
  simp only [List.getD_eq_getElem?_getD, List.getElem?_append, List.getElem?_replicate]
  split_ifs with hk hn
  · rfl
  · rw [List.getElem?_eq_none (Nat.le_of_not_lt hk)]; rfl
  · rw [List.getElem?_eq_none (Nat.le_of_not_lt hk)]

theorem getD_modify_add (l : List Int) (i k : Nat) (d : Int) (hi : i < l.length) :
    (l.modify i (· + d)).getD k 0 = l.getD k 0 + if k = i then d else 0 := by
  rw [List.getD_eq_getElem?_getD, List.getD_eq_getElem?_getD, List.getElem?_modify]
  by_cases hk : k = i
  · rw [hk, List.getElem?_eq_getElem hi]; simp
  · simp [hk, Ne.symm hk]

/-- the counter of a label changes by the sign of `side` at each crossing of an edge with that label -/
theorem bump_spec (cs : List Int) (h : Hit) (l : Nat) :
    (bump cs h).getD l 0 = cs.getD l 0 + (if l = h.label then (if h.side < 0 then -1 else if h.side > 0 then 1 else 0) else 0) := by
  have hlen : h.label < (cs ++ List.replicate (h.label + 1 - cs.length) (0 : Int)).length := by
    rw [List.length_append, List.length_replicate]; omega
  rw [← getD_append_replicate cs (h.label + 1 - cs.length) l]
  unfold bump
  by_cases h1 : h.side < 0
  · simp only [if_pos h1]
    exact getD_modify_add _ _ _ (-1) hlen
  · by_cases h2 : h.side > 0
    · simp only [if_neg h1, if_pos h2]
      exact getD_modify_add _ _ _ 1 hlen
    · simp only [if_neg h1, if_neg h2, ite_self, add_zero]

/-! Non-vacuity: one ray through a shape of A then a shape of B, `add`: enters A (exterior), enters B while inside A
    (interior), leaves A inside B (interior), leaves B (exterior). -/
example : (castRay pred_add
    [[⟨0, 0, 0, 1, false, false⟩], [⟨4, 0, 1, 1, false, false⟩], [⟨2, 0, 0, -1, false, false⟩], [⟨6, 0, 1, -1, false, false⟩]]).2 =
    [(0, 0, true), (4, 0, false), (2, 0, false), (6, 0, true)] := by decide

end C01
