/-
C13  Fat-line clipping (Sederberg–Nishita): the strips built by `FatLine::from_curve` / `from_curve_perpendicular`
     contain the curve, the distance curve is a graph over the parameter, `clip_t` never leaves a parameter whose curve
     point is inside the strip outside its answer (up to the snapping slack of `round_y_value`), and `clip` only widens
     what `clip_t` returns.

The `Gen` definitions these theorems speak of (`fat_from_curve`, `fat_from_curve_perpendicular`, `from_line_and_points`,
`clip_t`, `clip`, `line_coefficients_2d`, …) are regenerated from the Rust sources on every check.

Number model: `K` is any linearly ordered field, `f64::abs` is `|·|`, `f64::sqrt` (`FSqrt K`) is an ARBITRARY function
unless a hypothesis says otherwise (so the normalisation factor may be anything, 0 included: `x / 0 = 0` makes the strip
degenerate and the statements still hold), and the sentinels `f64::MAX/MIN/±∞` (`FConsts K`) are arbitrary: only
`clip_t_range` (`hminval : f64::MIN ≤ 1`) and `clip_t_shape` (`hM : 1 ≤ f64::MAX`, `hm : f64::MIN ≤ 0`) assume anything
about them; the soundness theorems `clip_t_sound`, `clip_returns_widened_range`, `clip_none`, `clip_keeps_intersections`
assume nothing.

Findings recorded as theorems:
* `perp_strip_near_counterexample`: for coincident end points `from_curve_perpendicular` measures the substituted end
  point `w1 + (cp2 − cp1)` instead of `w4`; the strip then misses `w4` (by at most 1e-7, `perp_strip_contains_curve_near_slack`).
* `clip_t_shape`: with real sentinels the branches `Some((0.0, t2))`, `Some((t1, 1.0))`, `t1 < 0.0 …`, `t1 > 1.0` of the
  decision tree of `clip_t` are dead.
-/
import FloVerif.Lemmas.FatLine

set_option linter.unusedSectionVars false
set_option linter.unusedVariables false -- `hfl` of `clip_t_sound`
namespace C13
open Prelude Gen FatLineLemmas

variable {K : Type} [Field K] [LinearOrder K] [IsStrictOrderedRing K] [Inhabited K]

/-- in exact arithmetic `f64::abs` is the absolute value -/
local instance : FAbs K := ⟨fun a => |a|⟩

theorem distance_affine (fl : FatLineT K) (w1 w2 w3 w4 : V2 K) (t : K) :
    fat_distance fl (de_casteljau4 t w1 w2 w3 w4) =
      (1-t)^3 * fat_distance fl w1 + 3*(1-t)^2*t * fat_distance fl w2 + 3*(1-t)*t^2 * fat_distance fl w3
        + t^3 * fat_distance fl w4 := by
  simp only [fat_distance, dc4_x, dc4_y, dc4_bernstein]
  ring

theorem bernstein_between (t a b c d lo hi : K) (h0 : 0 ≤ t) (h1 : t ≤ 1)
    (ha : lo ≤ a ∧ a ≤ hi) (hb : lo ≤ b ∧ b ≤ hi) (hc : lo ≤ c ∧ c ≤ hi) (hd : lo ≤ d ∧ d ≤ hi) :
    lo ≤ (1-t)^3 * a + 3*(1-t)^2*t * b + 3*(1-t)*t^2 * c + t^3 * d ∧
    (1-t)^3 * a + 3*(1-t)^2*t * b + 3*(1-t)*t^2 * c + t^3 * d ≤ hi := by
  have hlo := bern_mono t h0 h1 ha.1 hb.1 hc.1 hd.1
  have hhi := bern_mono t h0 h1 ha.2 hb.2 hc.2 hd.2
  rw [bern_const] at hlo hhi
  exact ⟨hlo, hhi⟩

section Strips
variable [FSqrt K]

/-- the unnormalised coefficients are `(a, b, -(a p.x + b p.y))` or the negatives of these, for some `(a, b)` normal to
    `q - p`: the slope form with the larger of the two offsets as denominator, or all zero for `p = q` -/
theorem unnormalized_cases (p q : V2 K) :
    ∃ a b : K, a * (q.x - p.x) + b * (q.y - p.y) = 0 ∧
      (line_coefficients_2d_unnormalized (T2.mk p q) = T3.mk a b (-(a * p.x + b * p.y)) ∨
       line_coefficients_2d_unnormalized (T2.mk p q) = T3.mk (-a) (-b) (- -(a * p.x + b * p.y))) := by
  simp only [line_coefficients_2d_unnormalized, V2.sub_x, V2.sub_y, lit0, lit1, fabs, Bool.and_eq_true, beq_iff_eq,
    decide_eq_true_eq, gt_iff_lt]
  by_cases c1 : q.x - p.x = 0 ∧ q.y - p.y = 0
  · exact ⟨0, 0, by rw [zero_mul, zero_mul, add_zero], Or.inl (by rw [if_pos c1, zero_mul, zero_mul, add_zero, neg_zero])⟩
  rw [if_neg c1]
  by_cases c2 : |q.y - p.y| < |q.x - p.x|
  · rw [if_pos c2]
    refine ⟨_, _, ?_, (ite_eq_or_eq _ _ _).symm⟩
    rw [div_mul_cancel₀ _ (abs_pos.1 (lt_of_le_of_lt (abs_nonneg _) c2)), neg_one_mul, add_neg_cancel]
  · rw [if_neg c2]
    refine ⟨_, _, ?_, (ite_eq_or_eq _ _ _).symm⟩
    have hy : q.y - p.y ≠ 0 := fun e =>
      c1 ⟨abs_eq_zero.1 (le_antisymm (by rwa [e, abs_zero, not_lt] at c2) (abs_nonneg _)), e⟩
    rw [div_mul_cancel₀ _ hy, neg_one_mul, neg_add_cancel]

theorem unnormalized_through_points (p q : V2 K) :
    let u := line_coefficients_2d_unnormalized (T2.mk p q)
    u.t0 * p.x + u.t1 * p.y + u.t2 = 0 ∧ u.t0 * q.x + u.t1 * q.y + u.t2 = 0 := by
  obtain ⟨a, b, h, e | e⟩ := unnormalized_cases p q <;> simp only [e]
  · exact ⟨add_neg_cancel _, by linear_combination h⟩
  · exact ⟨by ring, by linear_combination -h⟩

/-- in the exact field model the `factor == 0.0` guard of `line_coefficients_2d` changes nothing: the guarded branch
    returns the zero coefficients, which is what `x / 0 = 0` gives for the quotients -/
theorem line_coefficients_2d_eq (l : T2 (V2 K) (V2 K)) :
    line_coefficients_2d l =
      T3.mk ((line_coefficients_2d_unnormalized l).t0 /
              fsqrt ((line_coefficients_2d_unnormalized l).t0 * (line_coefficients_2d_unnormalized l).t0 +
                (line_coefficients_2d_unnormalized l).t1 * (line_coefficients_2d_unnormalized l).t1))
            ((line_coefficients_2d_unnormalized l).t1 /
              fsqrt ((line_coefficients_2d_unnormalized l).t0 * (line_coefficients_2d_unnormalized l).t0 +
                (line_coefficients_2d_unnormalized l).t1 * (line_coefficients_2d_unnormalized l).t1))
            ((line_coefficients_2d_unnormalized l).t2 /
              fsqrt ((line_coefficients_2d_unnormalized l).t0 * (line_coefficients_2d_unnormalized l).t0 +
                (line_coefficients_2d_unnormalized l).t1 * (line_coefficients_2d_unnormalized l).t1)) := by
  simp only [line_coefficients_2d, lit0, beq_iff_eq]
  split_ifs with h
  · rw [h]; simp only [div_zero]
  · rfl

/-- the normalised coefficients vanish at both defining points, whatever the normalisation factor is (`x / 0 = 0` included) -/
theorem coeff_through_points (p q : V2 K) :
    let co := line_coefficients_2d (T2.mk p q)
    co.t0 * p.x + co.t1 * p.y + co.t2 = 0 ∧ co.t0 * q.x + co.t1 * q.y + co.t2 = 0 := by
  have scaled : ∀ {a b c x y : K} (f : K), a * x + b * y + c = 0 → a / f * x + b / f * y + c / f = 0 := fun {a b c x y} f h => by
    rw [show a / f * x + b / f * y + c / f = (a * x + b * y + c) / f by ring, h, zero_div]
  obtain ⟨hp, hq⟩ := unnormalized_through_points p q
  simp only [line_coefficients_2d_eq]
  exact ⟨scaled _ hp, scaled _ hq⟩

theorem flp_coeff (l : T2 (V2 K) (V2 K)) (p1 p2 : V2 K) :
    (from_line_and_points l p1 p2).coeff = line_coefficients_2d l := by
  simp only [from_line_and_points]

theorem flp_distance_zero (p q p1 p2 : V2 K) :
    fat_distance (from_line_and_points (T2.mk p q) p1 p2) p = 0 ∧
    fat_distance (from_line_and_points (T2.mk p q) p1 p2) q = 0 := by
  simp only [fat_distance, flp_coeff]
  exact coeff_through_points p q

theorem flp_bounds (l : T2 (V2 K) (V2 K)) (p1 p2 : V2 K) :
    let fl := from_line_and_points l p1 p2
    let d1 := fat_distance fl p1
    let d2 := fat_distance fl p2
    fl.d_min = (if d1 * d2 > 0 then (3/4 : K) else 4/9) * min (min d1 d2) 0 ∧
    fl.d_max = (if d1 * d2 > 0 then (3/4 : K) else 4/9) * max (max d1 d2) 0 := by
  have h9 : (9.0 : K) = 9 := by norm_num
  simp only [from_line_and_points, fat_distance, fmin_eq_min, fmax_eq_max, lit0, lit3, lit4, h9, decide_eq_true_eq]
  split_ifs <;> exact ⟨rfl, rfl⟩

theorem flp_contains (l : T2 (V2 K) (V2 K)) (w1 w2 w3 w4 : V2 K) (t : K) (h0 : 0 ≤ t) (h1 : t ≤ 1) :
    let fl := from_line_and_points l w2 w3
    fl.d_min + ((1-t)^3 * fat_distance fl w1 + t^3 * fat_distance fl w4) ≤ fat_distance fl (de_casteljau4 t w1 w2 w3 w4) ∧
    fat_distance fl (de_casteljau4 t w1 w2 w3 w4) ≤ fl.d_max + ((1-t)^3 * fat_distance fl w1 + t^3 * fat_distance fl w4) := by
  intro fl
  obtain ⟨hmin, hmax⟩ := flp_bounds l w2 w3
  obtain ⟨hlo, hhi⟩ := inner_bounds t (fat_distance fl w2) (fat_distance fl w3) h0 h1
  rw [distance_affine]
  show (from_line_and_points l w2 w3).d_min + _ ≤ _ ∧ _ ≤ (from_line_and_points l w2 w3).d_max + _
  rw [hmin, hmax]
  simp only [inner] at hlo hhi
  exact ⟨by linear_combination hlo, by linear_combination hhi⟩

theorem from_curve_far (w1 w2 w3 w4 : V2 K) (hfar : is_near_to w1 w4 (0.0000001 : K) = false) :
    fat_from_curve w1 w2 w3 w4 = from_line_and_points (T2.mk w1 w4) w2 w3 := by
  simp only [fat_from_curve, hfar, Bool.false_eq_true, if_false]

theorem from_curve_near (w1 w2 w3 w4 : V2 K) (hnear : is_near_to w1 w4 (0.0000001 : K) = true) :
    fat_from_curve w1 w2 w3 w4 = from_line_and_points (T2.mk w1 (w1 + (w3 - w2))) w2 w3 := by
  simp only [fat_from_curve, hnear, if_true]

/-- STRIP CONTAINS CURVE (chord branch): every point of the curve lies inside the fat line built from it -/
theorem strip_contains_curve (w1 w2 w3 w4 : V2 K) (hfar : is_near_to w1 w4 (0.0000001 : K) = false)
    (t : K) (h0 : 0 ≤ t) (h1 : t ≤ 1) :
    let fl := fat_from_curve w1 w2 w3 w4
    fl.d_min ≤ fat_distance fl (de_casteljau4 t w1 w2 w3 w4) ∧ fat_distance fl (de_casteljau4 t w1 w2 w3 w4) ≤ fl.d_max := by
  intro fl
  obtain ⟨z1, z4⟩ := flp_distance_zero w1 w4 w2 w3
  have h := flp_contains (T2.mk w1 w4) w1 w2 w3 w4 t h0 h1
  rw [← from_curve_far w1 w2 w3 w4 hfar] at h z1 z4
  simp only [z1, z4, mul_zero, add_zero] at h
  exact h

/-- coincident end points: the base line runs from the start point in the direction `cp2 − cp1`; the start point
    has distance 0, the end point `w4` has some distance `e` (it is not on the base line in general).
    Exact statement: the distance of the curve point, minus the end point's share `t³·e`, lies in `[d_min, d_max]`. -/
theorem strip_contains_curve_near (w1 w2 w3 w4 : V2 K) (hnear : is_near_to w1 w4 (0.0000001 : K) = true)
    (t : K) (h0 : 0 ≤ t) (h1 : t ≤ 1) :
    let fl := fat_from_curve w1 w2 w3 w4
    let e := fat_distance fl w4
    fat_distance fl w1 = 0 ∧
    fl.d_min + t^3 * e ≤ fat_distance fl (de_casteljau4 t w1 w2 w3 w4) ∧
    fat_distance fl (de_casteljau4 t w1 w2 w3 w4) ≤ fl.d_max + t^3 * e := by
  intro fl e
  have h := flp_contains (T2.mk w1 (w1 + (w3 - w2))) w1 w2 w3 w4 t h0 h1
  have z := (flp_distance_zero w1 (w1 + (w3 - w2)) w2 w3).1
  rw [← from_curve_near w1 w2 w3 w4 hnear] at h z
  simp only [z, mul_zero, zero_add] at h
  exact ⟨z, h⟩

theorem strip_contains_curve_near_abs (w1 w2 w3 w4 : V2 K) (hnear : is_near_to w1 w4 (0.0000001 : K) = true)
    (t : K) (h0 : 0 ≤ t) (h1 : t ≤ 1) :
    let fl := fat_from_curve w1 w2 w3 w4
    let e := fat_distance fl w4
    fl.d_min - |e| ≤ fat_distance fl (de_casteljau4 t w1 w2 w3 w4) ∧
    fat_distance fl (de_casteljau4 t w1 w2 w3 w4) ≤ fl.d_max + |e| := by
  intro fl e
  obtain ⟨_, hlo, hhi⟩ := strip_contains_curve_near w1 w2 w3 w4 hnear t h0 h1
  have ht3 : 0 ≤ t^3 := pow_nonneg h0 3
  have ht3' : t^3 ≤ 1 := pow_le_one₀ h0 h1
  have hle : |t^3 * e| ≤ |e| := by
    rw [abs_mul, abs_of_nonneg ht3]
    exact mul_le_of_le_one_left (abs_nonneg _) ht3'
  have := abs_le.1 hle
  exact ⟨(sub_eq_add_neg _ _).trans_le ((add_le_add_right this.1 _).trans hlo), hhi.trans (add_le_add_right this.2 _)⟩

/-- the fourth point whose distance `from_curve_perpendicular` uses: the end point, or – for coincident end points –
    the *substituted* end point `start + (cp2 − cp1)` -/
def perpEnd (w1 w2 w3 w4 : V2 K) : V2 K :=
  if is_near_to w1 w4 (0.0000001 : K) then w1 + (w3 - w2) else w4

theorem perp_bounds (w1 w2 w3 w4 : V2 K) :
    let fl := fat_from_curve_perpendicular w1 w2 w3 w4
    fl.d_min = min (min (min (fat_distance fl w1) (fat_distance fl w2)) (fat_distance fl w3))
                (fat_distance fl (perpEnd w1 w2 w3 w4)) ∧
    fl.d_max = max (max (max (fat_distance fl w1) (fat_distance fl w2)) (fat_distance fl w3))
                (fat_distance fl (perpEnd w1 w2 w3 w4)) := by
  simp only [fat_from_curve_perpendicular, fat_distance, fmin_eq_min, fmax_eq_max, perpEnd]
  exact ⟨trivial, trivial⟩

theorem perp_between (w1 w2 w3 w4 : V2 K) :
    let fl := fat_from_curve_perpendicular w1 w2 w3 w4
    ∀ p, (p = w1 ∨ p = w2 ∨ p = w3 ∨ p = perpEnd w1 w2 w3 w4) →
      fl.d_min ≤ fat_distance fl p ∧ fat_distance fl p ≤ fl.d_max := by
  intro fl p hp
  obtain ⟨hmin, hmax⟩ := perp_bounds w1 w2 w3 w4
  rw [show fl.d_min = _ from hmin, show fl.d_max = _ from hmax]
  rcases hp with rfl | rfl | rfl | rfl
  · exact ⟨le_trans (min_le_left _ _) (le_trans (min_le_left _ _) (min_le_left _ _)),
      le_trans (le_trans (le_max_left _ _) (le_max_left _ _)) (le_max_left _ _)⟩
  · exact ⟨le_trans (min_le_left _ _) (le_trans (min_le_left _ _) (min_le_right _ _)),
      le_trans (le_trans (le_max_right _ _) (le_max_left _ _)) (le_max_left _ _)⟩
  · exact ⟨le_trans (min_le_left _ _) (min_le_right _ _), le_trans (le_max_right _ _) (le_max_left _ _)⟩
  · exact ⟨min_le_right _ _, le_max_right _ _⟩

theorem perp_strip_general (w1 w2 w3 w4 : V2 K) (t : K) (h0 : 0 ≤ t) (h1 : t ≤ 1) :
    let fl := fat_from_curve_perpendicular w1 w2 w3 w4
    let δ := fat_distance fl w4 - fat_distance fl (perpEnd w1 w2 w3 w4)
    fl.d_min + t^3 * δ ≤ fat_distance fl (de_casteljau4 t w1 w2 w3 w4) ∧
    fat_distance fl (de_casteljau4 t w1 w2 w3 w4) ≤ fl.d_max + t^3 * δ := by
  intro fl δ
  have hp := perp_between w1 w2 w3 w4
  have hb := bernstein_between t _ _ _ _ fl.d_min fl.d_max h0 h1 (hp w1 (Or.inl rfl)) (hp w2 (Or.inr (Or.inl rfl)))
    (hp w3 (Or.inr (Or.inr (Or.inl rfl)))) (hp _ (Or.inr (Or.inr (Or.inr rfl))))
  rw [distance_affine]
  simp only [δ]
  exact ⟨by linear_combination hb.1, by linear_combination hb.2⟩

/-- the perpendicular strip contains the curve (distinct end points) -/
theorem perp_strip_contains_curve (w1 w2 w3 w4 : V2 K) (hfar : is_near_to w1 w4 (0.0000001 : K) = false)
    (t : K) (h0 : 0 ≤ t) (h1 : t ≤ 1) :
    let fl := fat_from_curve_perpendicular w1 w2 w3 w4
    fl.d_min ≤ fat_distance fl (de_casteljau4 t w1 w2 w3 w4) ∧ fat_distance fl (de_casteljau4 t w1 w2 w3 w4) ≤ fl.d_max := by
  intro fl
  have h := perp_strip_general w1 w2 w3 w4 t h0 h1
  have hE : perpEnd w1 w2 w3 w4 = w4 := by simp only [perpEnd, hfar, Bool.false_eq_true, if_false]
  simp only [hE, sub_self, mul_zero, add_zero] at h
  exact h

/-- coincident end points: the code measures the substituted end point `w1 + (w3 − w2)` instead of `w4`, so the strip
    contains the curve only up to the share `t³·(dist w4 − dist (w1 + (w3 − w2)))` of the real end point -/
theorem perp_strip_contains_curve_near (w1 w2 w3 w4 : V2 K) (hnear : is_near_to w1 w4 (0.0000001 : K) = true)
    (t : K) (h0 : 0 ≤ t) (h1 : t ≤ 1) :
    let fl := fat_from_curve_perpendicular w1 w2 w3 w4
    let δ := fat_distance fl w4 - fat_distance fl (w1 + (w3 - w2))
    fl.d_min + t^3 * δ ≤ fat_distance fl (de_casteljau4 t w1 w2 w3 w4) ∧
    fat_distance fl (de_casteljau4 t w1 w2 w3 w4) ≤ fl.d_max + t^3 * δ := by
  intro fl δ
  have h := perp_strip_general w1 w2 w3 w4 t h0 h1
  have hE : perpEnd w1 w2 w3 w4 = w1 + (w3 - w2) := by simp only [perpEnd, hnear, if_true]
  simp only [hE] at h
  exact h

/-- for any end points the curve stays within `|dist w4 − dist w1|` of the perpendicular strip -/
theorem perp_strip_contains_curve_abs (w1 w2 w3 w4 : V2 K) (t : K) (h0 : 0 ≤ t) (h1 : t ≤ 1) :
    let fl := fat_from_curve_perpendicular w1 w2 w3 w4
    let ε := |fat_distance fl w4 - fat_distance fl w1|
    fl.d_min - ε ≤ fat_distance fl (de_casteljau4 t w1 w2 w3 w4) ∧
    fat_distance fl (de_casteljau4 t w1 w2 w3 w4) ≤ fl.d_max + ε := by
  intro fl ε
  have hp := perp_between w1 w2 w3 w4
  have hε : 0 ≤ ε := abs_nonneg _
  have wid : ∀ x, fl.d_min ≤ x ∧ x ≤ fl.d_max → fl.d_min - ε ≤ x ∧ x ≤ fl.d_max + ε := fun x h =>
    ⟨(sub_le_self _ hε).trans h.1, h.2.trans (le_add_of_nonneg_right hε)⟩
  have d1 := hp w1 (Or.inl rfl)
  rw [distance_affine]
  exact bernstein_between t _ _ _ _ _ _ h0 h1 (wid _ d1) (wid _ (hp w2 (Or.inr (Or.inl rfl))))
    (wid _ (hp w3 (Or.inr (Or.inr (Or.inl rfl)))))
    ⟨(sub_le_sub_right d1.1 ε).trans (sub_le_of_abs_sub_le_left le_rfl),
      (sub_le_iff_le_add'.1 (le_abs_self _)).trans (add_le_add_left d1.2 ε)⟩

/-! The slack in the `…_near` theorems is a difference of distances of points that are at most `10⁻⁷` apart.  If the
normalisation factor never under-estimates the square root (`s ≤ fsqrt s · fsqrt s`; the exact root satisfies it), the
coefficients have `a² + b² ≤ 1`, distances are 1-Lipschitz, and the slack is at most `10⁻⁷`. -/

theorem coeff_norm_le_one (hsqrt : ∀ s : K, 0 ≤ s → s ≤ fsqrt s * fsqrt s) (l : T2 (V2 K) (V2 K)) :
    let co := line_coefficients_2d l
    co.t0 * co.t0 + co.t1 * co.t1 ≤ 1 := by
  simp only [line_coefficients_2d_eq]
  generalize line_coefficients_2d_unnormalized l = u
  rw [div_mul_div_comm, div_mul_div_comm, ← add_div]
  exact div_le_one_of_le₀ (hsqrt _ (add_nonneg (mul_self_nonneg _) (mul_self_nonneg _))) (mul_self_nonneg _)

theorem distance_lipschitz (fl : FatLineT K) (hn : fl.coeff.t0 * fl.coeff.t0 + fl.coeff.t1 * fl.coeff.t1 ≤ 1) (r r' : V2 K) :
    (fat_distance fl r - fat_distance fl r') ^ 2 ≤ (r.x - r'.x) ^ 2 + (r.y - r'.y) ^ 2 := by
  simp only [fat_distance]
  linear_combination sq_nonneg (fl.coeff.t0 * (r.y - r'.y) - fl.coeff.t1 * (r.x - r'.x)) +
    mul_le_mul_of_nonneg_right hn (add_nonneg (sq_nonneg (r.x - r'.x)) (sq_nonneg (r.y - r'.y)))

theorem near_iff (p q : V2 K) : is_near_to p q (0.0000001 : K) = true ↔ (p.x - q.x) ^ 2 + (p.y - q.y) ^ 2 ≤ (1 / 10000000) ^ 2 := by
  have e : (0.0000001 : K) = 1 / 10000000 := by norm_num
  simp only [is_near_to, dot, V2.sub_x, V2.sub_y, lit0, e, decide_eq_true_eq, zero_add, sq]

theorem near_distance (fl : FatLineT K) (hn : fl.coeff.t0 * fl.coeff.t0 + fl.coeff.t1 * fl.coeff.t1 ≤ 1) (p q : V2 K)
    (hnear : is_near_to p q (0.0000001 : K) = true) : |fat_distance fl q - fat_distance fl p| ≤ 1 / 10000000 := by
  rw [abs_sub_comm]
  exact abs_le_of_sq_le_sq (le_trans (distance_lipschitz fl hn p q) ((near_iff p q).1 hnear)) (by norm_num)

/-- coincident end points, chord strip: the curve stays within `10⁻⁷` of the strip -/
theorem strip_contains_curve_near_slack (hsqrt : ∀ s : K, 0 ≤ s → s ≤ fsqrt s * fsqrt s)
    (w1 w2 w3 w4 : V2 K) (hnear : is_near_to w1 w4 (0.0000001 : K) = true) (t : K) (h0 : 0 ≤ t) (h1 : t ≤ 1) :
    let fl := fat_from_curve w1 w2 w3 w4
    fl.d_min - 1 / 10000000 ≤ fat_distance fl (de_casteljau4 t w1 w2 w3 w4) ∧
    fat_distance fl (de_casteljau4 t w1 w2 w3 w4) ≤ fl.d_max + 1 / 10000000 := by
  intro fl
  obtain ⟨z1, _, _⟩ := strip_contains_curve_near w1 w2 w3 w4 hnear t h0 h1
  obtain ⟨hlo, hhi⟩ := strip_contains_curve_near_abs w1 w2 w3 w4 hnear t h0 h1
  have hc : fl.coeff = line_coefficients_2d (T2.mk w1 (w1 + (w3 - w2))) := by
    show (fat_from_curve w1 w2 w3 w4).coeff = _
    rw [from_curve_near w1 w2 w3 w4 hnear, flp_coeff]
  have hn : fl.coeff.t0 * fl.coeff.t0 + fl.coeff.t1 * fl.coeff.t1 ≤ 1 := by
    rw [hc]; exact coeff_norm_le_one hsqrt _
  have he := near_distance fl hn w1 w4 hnear
  rw [show fat_distance fl w1 = 0 from z1, sub_zero] at he
  exact ⟨(sub_le_sub_left he _).trans hlo, hhi.trans (add_le_add_right he _)⟩

/-- coincident end points, perpendicular strip: the curve stays within `10⁻⁷` of the strip -/
theorem perp_strip_contains_curve_near_slack (hsqrt : ∀ s : K, 0 ≤ s → s ≤ fsqrt s * fsqrt s)
    (w1 w2 w3 w4 : V2 K) (hnear : is_near_to w1 w4 (0.0000001 : K) = true) (t : K) (h0 : 0 ≤ t) (h1 : t ≤ 1) :
    let fl := fat_from_curve_perpendicular w1 w2 w3 w4
    fl.d_min - 1 / 10000000 ≤ fat_distance fl (de_casteljau4 t w1 w2 w3 w4) ∧
    fat_distance fl (de_casteljau4 t w1 w2 w3 w4) ≤ fl.d_max + 1 / 10000000 := by
  intro fl
  obtain ⟨hlo, hhi⟩ := perp_strip_contains_curve_abs w1 w2 w3 w4 t h0 h1
  have hn : fl.coeff.t0 * fl.coeff.t0 + fl.coeff.t1 * fl.coeff.t1 ≤ 1 :=
    coeff_norm_le_one hsqrt _
  have he := near_distance fl hn w1 w4 hnear
  exact ⟨(sub_le_sub_left he _).trans hlo, hhi.trans (add_le_add_right he _)⟩

end Strips

/-- the unrestricted statement is FALSE for coincident end points: with `w1 = w2 = (0,0)`, `w3 = (0,1)`,
    `w4 = (0,−10⁻⁸)` (so `|w1 − w4|² ≤ 10⁻¹⁴`) the perpendicular strip is `−1/2 ≤ y − 1/2 ≤ 1/2`, and the curve's end
    point `w4` has distance `−1/2 − 10⁻⁸ < d_min`.  (The normalisation factor is 1 here, its true value.) -/
theorem perp_strip_near_counterexample :
    letI : FSqrt ℚ := ⟨fun _ => 1⟩
    let w1 : V2 ℚ := ⟨0, 0⟩
    let w2 : V2 ℚ := ⟨0, 0⟩
    let w3 : V2 ℚ := ⟨0, 1⟩
    let w4 : V2 ℚ := ⟨0, -1/100000000⟩
    is_near_to w1 w4 (0.0000001 : ℚ) = true ∧
    ¬ ((fat_from_curve_perpendicular w1 w2 w3 w4).d_min ≤
        fat_distance (fat_from_curve_perpendicular w1 w2 w3 w4) (de_casteljau4 (1 : ℚ) w1 w2 w3 w4)) := by
  decide +kernel

theorem distance_curve_points (fl : FatLineT K) (w1 w2 w3 w4 : V2 K) :
    fat_distance_curve fl w1 w2 w3 w4 =
      T4.mk ⟨fat_distance fl w1, 0⟩ ⟨fat_distance fl w2, 1/3⟩ ⟨fat_distance fl w3, 2/3⟩ ⟨fat_distance fl w4, 1⟩ := by
  simp only [fat_distance_curve, lit0, lit1, lit2, lit3]

/-- the distance curve is the graph of the distance over the parameter: ordinates 0, 1/3, 2/3, 1 make y(t) = t -/
theorem distance_curve_param (fl : FatLineT K) (w1 w2 w3 w4 : V2 K) (t : K) :
    let dc := fat_distance_curve fl w1 w2 w3 w4
    (de_casteljau4 t dc.t0 dc.t1 dc.t2 dc.t3).y = t ∧
    (de_casteljau4 t dc.t0 dc.t1 dc.t2 dc.t3).x = fat_distance fl (de_casteljau4 t w1 w2 w3 w4) := by
  intro dc
  refine ⟨?_, ?_⟩
  · simp only [dc, distance_curve_points, dc4_y, dc4_bernstein]
    ring
  · simp only [dc, distance_curve_points, distance_affine, dc4_x, dc4_bernstein]

theorem hull_subset (dc : T4 (V2 K) (V2 K) (V2 K) (V2 K)) :
    ∀ p ∈ distance_curve_convex_hull dc, p = dc.t0 ∨ p = dc.t1 ∨ p = dc.t2 ∨ p = dc.t3 := by
  obtain ⟨P0, P1, P2, P3⟩ := dc
  intro p hp
  rcases hull_cases P0 P1 P2 P3 rfl rfl with ⟨_, ⟨_, e⟩ | ⟨_, e⟩ | ⟨_, _, e⟩⟩ | ⟨_, e⟩ <;> rw [e] at hp <;>
    simp only [List.mem_cons, List.not_mem_nil, or_false] at hp
  · rcases hp with rfl | rfl | rfl
    exacts [Or.inl rfl, Or.inr (Or.inl rfl), Or.inr (Or.inr (Or.inr rfl))]
  · rcases hp with rfl | rfl | rfl
    exacts [Or.inl rfl, Or.inr (Or.inr (Or.inl rfl)), Or.inr (Or.inr (Or.inr rfl))]
  · exact hp
  · rcases hp with rfl | rfl | rfl | rfl
    exacts [Or.inl rfl, Or.inr (Or.inl rfl), Or.inr (Or.inr (Or.inr rfl)), Or.inr (Or.inr (Or.inl rfl))]

theorem hull_ordinates (fl : FatLineT K) (w1 w2 w3 w4 : V2 K) :
    ∀ p ∈ distance_curve_convex_hull (fat_distance_curve fl w1 w2 w3 w4), 0 ≤ p.y ∧ p.y ≤ 1 := by
  intro p hp
  have h := hull_subset _ p hp
  rw [distance_curve_points] at h
  rcases h with rfl | rfl | rfl | rfl <;> norm_num

/-- `p` is a convex combination of the points of `l` (weights `ws`, in the order of the list) -/
def InConvexHull (l : List (V2 K)) (p : V2 K) : Prop :=
  ∃ ws : List K, ws.length = l.length ∧ (∀ w ∈ ws, 0 ≤ w) ∧ ws.sum = 1 ∧
    (List.zipWith (fun w v => w * v.x) ws l).sum = p.x ∧ (List.zipWith (fun w v => w * v.y) ws l).sum = p.y

theorem ratio_half (u v : K) (h1 : 0 ≤ u * v) (h2 : 2 * |v| ≤ |u|) : 0 ≤ v / u ∧ v / u ≤ 1/2 ∧ v / u * u = v := by
  refine ⟨div_nonneg_iff.2 (mul_nonneg_iff.1 (mul_comm u v ▸ h1)), ?_, div_mul_cancel_of_imp fun hu => ?_⟩
  · refine (le_abs_self _).trans ?_
    rw [abs_div]
    exact div_le_of_le_mul₀ (abs_nonneg u) (by norm_num) (by linear_combination (1/2) * h2)
  · rw [hu, abs_zero] at h2
    exact abs_eq_zero.1 (le_antisymm (by linear_combination (1/2) * h2) (abs_nonneg v))

/-- the conditions of `inConvexHull_tri` for ordinates 1/3 and 2/3, in either order -/
theorem tri_weights {β : K} (h : β ≤ 1/2) :
    (β * (1/3) ≤ 2/3 ∧ β * (1 - 1/3) ≤ 1 - 2/3) ∧ β * (2/3) ≤ 1/3 ∧ β * (1 - 2/3) ≤ 1 - 1/3 := by
  refine ⟨⟨?_, ?_⟩, ?_, ?_⟩
  · linear_combination (1/3) * h
  · linear_combination (2/3) * h
  · linear_combination (2/3) * h
  · linear_combination (1/3) * h

theorem zero_weights (f : V2 K → K) :
    ∀ l : List (V2 K), (List.zipWith (fun w v => w * f v) (List.replicate l.length (0 : K)) l).sum = 0
  | [] => rfl
  | q :: l => by
    rw [List.length_cons, List.replicate_succ, List.zipWith_cons_cons, List.sum_cons, zero_mul, zero_add]
    exact zero_weights f l

theorem inConvexHull_of_mem : ∀ {l : List (V2 K)} {p : V2 K}, p ∈ l → InConvexHull l p
  | q :: l, p, h => by
    rcases List.mem_cons.1 h with rfl | h
    · refine ⟨1 :: List.replicate l.length 0, by simp, ?_, ?_, ?_, ?_⟩
      · intro w hw
        rcases List.mem_cons.1 hw with rfl | hw
        · exact zero_le_one
        · rw [List.eq_of_mem_replicate hw]
      · rw [List.sum_cons, List.sum_replicate, smul_zero, add_zero]
      · rw [List.zipWith_cons_cons, List.sum_cons, zero_weights (fun v => v.x) l, one_mul, add_zero]
      · rw [List.zipWith_cons_cons, List.sum_cons, zero_weights (fun v => v.y) l, one_mul, add_zero]
    · obtain ⟨ws, hl, hn, hs, hx, hy⟩ := inConvexHull_of_mem h
      refine ⟨0 :: ws, by rw [List.length_cons, List.length_cons, hl], ?_, ?_, ?_, ?_⟩
      · intro w hw
        rcases List.mem_cons.1 hw with rfl | hw
        · exact le_rfl
        · exact hn w hw
      · rw [List.sum_cons, zero_add, hs]
      · rw [List.zipWith_cons_cons, List.sum_cons, zero_mul, zero_add, hx]
      · rw [List.zipWith_cons_cons, List.sum_cons, zero_mul, zero_add, hy]

/-- a point `Q` whose offset from the chord `P0 P3` is `β` times that of `M`, with `β` small enough for the three weights
    `1 - β - (Q.y - β M.y)`, `β`, `Q.y - β M.y` to be non-negative, lies in the triangle `P0 M P3` -/
theorem inConvexHull_tri {P0 M P3 Q : V2 K} {β : K} (hβ : 0 ≤ β) (h0 : P0.y = 0) (h3 : P3.y = 1)
    (hc : β * M.y ≤ Q.y) (ha : β * (1 - M.y) ≤ 1 - Q.y)
    (hx : Q.x - ((P3.x - P0.x) * Q.y + P0.x) = β * (M.x - ((P3.x - P0.x) * M.y + P0.x))) :
    InConvexHull [P0, M, P3] Q := by
  refine ⟨[1 - β - (Q.y - β * M.y), β, Q.y - β * M.y], rfl, ?_, ?_, ?_, ?_⟩
  · intro w hw
    simp only [List.mem_cons, List.not_mem_nil, or_false] at hw
    rcases hw with rfl | rfl | rfl
    · linear_combination ha
    · exact hβ
    · exact sub_nonneg.2 hc
  · simp only [List.sum_cons, List.sum_nil]; ring
  · simp only [List.zipWith_cons_cons, List.zipWith_nil_left, List.sum_cons, List.sum_nil]
    linear_combination (-1 : K) * hx
  · simp only [List.zipWith_cons_cons, List.zipWith_nil_left, List.sum_cons, List.sum_nil, h0, h3]
    ring

/-- every one of the four points of a distance curve is a convex combination of the vertices `distance_curve_convex_hull`
    returns (which are among the four points: `hull_subset`), so the list spans their convex hull.  `clip_t_sound` rests
    on the boundary chains of `FatLineLemmas.hull_bracket`, not on this. -/
theorem hull_covers (d0 d1 d2 d3 : K) :
    let dc : T4 (V2 K) (V2 K) (V2 K) (V2 K) := T4.mk ⟨d0, 0⟩ ⟨d1, 1/3⟩ ⟨d2, 2/3⟩ ⟨d3, 1⟩
    ∀ p ∈ [dc.t0, dc.t1, dc.t2, dc.t3], InConvexHull (distance_curve_convex_hull dc) p := by
  intro dc
  obtain ⟨u, hu⟩ : ∃ u, d1 - ((d3 - d0) * (1/3) + d0) = u := ⟨_, rfl⟩
  obtain ⟨v, hv⟩ : ∃ v, d2 - ((d3 - d0) * (2/3) + d0) = v := ⟨_, rfl⟩
  rcases hull_cases (K := K) ⟨d0, 0⟩ ⟨d1, 1/3⟩ ⟨d2, 2/3⟩ ⟨d3, 1⟩ hu hv with ⟨c1, ⟨c2, e⟩ | ⟨c3, e⟩ | ⟨_, _, e⟩⟩ | ⟨_, e⟩ <;>
    rw [show distance_curve_convex_hull dc = _ from e]
  · -- [P0, P1, P3]: P2 is in the triangle, with β = v/u
    obtain ⟨b0, b1, b2⟩ := ratio_half u v c1 c2
    rw [List.forall_mem_cons, List.forall_mem_cons, List.forall_mem_cons, List.forall_mem_singleton]
    exact ⟨inConvexHull_of_mem (.head _), inConvexHull_of_mem (.tail _ (.head _)),
      inConvexHull_tri b0 rfl rfl (tri_weights b1).1.1 (tri_weights b1).1.2 (by rw [hu, hv, b2]),
      inConvexHull_of_mem (.tail _ (.tail _ (.head _)))⟩
  · -- [P0, P2, P3]: P1 is in the triangle, with β = u/v
    obtain ⟨b0, b1, b2⟩ := ratio_half v u (by rw [mul_comm]; exact c1) c3
    rw [List.forall_mem_cons, List.forall_mem_cons, List.forall_mem_cons, List.forall_mem_singleton]
    exact ⟨inConvexHull_of_mem (.head _),
      inConvexHull_tri b0 rfl rfl (tri_weights b1).2.1 (tri_weights b1).2.2 (by rw [hu, hv, b2]),
      inConvexHull_of_mem (.tail _ (.head _)), inConvexHull_of_mem (.tail _ (.tail _ (.head _)))⟩
  · exact fun p hp => inConvexHull_of_mem hp
  · rw [List.forall_mem_cons, List.forall_mem_cons, List.forall_mem_cons, List.forall_mem_singleton]
    exact ⟨inConvexHull_of_mem (.head _), inConvexHull_of_mem (.tail _ (.head _)),
      inConvexHull_of_mem (.tail _ (.tail _ (.tail _ (.head _)))), inConvexHull_of_mem (.tail _ (.tail _ (.head _)))⟩

/-- THE ROUNDING MARGIN OF THE HULL CROSSINGS (`round_y_value`): a crossing parameter computed up to 0.001 OUTSIDE [0,1] is snapped
    onto the end it overshot (and one within 0.00001 inside as well); everything else is left as it is.  The outside margin is what
    keeps a hull vertex that lies exactly on a fat-line edge - two curves sharing a bit-identical end point - when rounding puts its
    crossing at `1 + 2e-16` or `-1e-17`: without it the crossing is discarded, the clip range is cut short and a second crossing of the
    two curves is lost (seeded change C02-m7; in exact arithmetic the margin is never needed, which is why no other theorem pins it). -/
theorem round_y_value_margin (y : K) :
    ((-(0.001 : K)) < y → y < (0.00001 : K) → round_y_value y = 0) ∧
    ((0.99999 : K) < y → y < (1.001 : K) → round_y_value y = 1) ∧
    (((0.00001 : K) ≤ y ∧ y ≤ (0.99999 : K)) ∨ y ≤ (-(0.001 : K)) ∨ (1.001 : K) ≤ y → round_y_value y = y) := by
  rw [round_lits.1, round_lits.2.1, round_lits.2.2.1, round_lits.2.2.2]
  rcases round_y_cases y with ⟨a, b, h⟩ | ⟨a, b, h⟩ | ⟨n1, n2, h⟩
  · refine ⟨fun _ _ => h, fun c _ => absurd (c.trans a) (by norm_num), fun c => ?_⟩
    rcases c with c | c | c
    · exact absurd a (not_lt.2 c.1)
    · exact absurd b (not_lt.2 c)
    · exact absurd (c.trans_lt a) (by norm_num)
  · refine ⟨fun _ c => absurd (a.trans c) (by norm_num), fun _ _ => h, fun c => ?_⟩
    rcases c with c | c | c
    · exact absurd a (not_lt.2 c.2)
    · exact absurd (a.trans_le c) (by norm_num)
    · exact absurd b (not_lt.2 c)
  · exact ⟨fun c1 c2 => absurd ⟨c2, c1⟩ n1, fun c1 c2 => absurd ⟨c1, c2⟩ n2, fun _ => h⟩

section ClipT
variable [FConsts K]

/-- every range returned by `clip_t` is a sub-range of [0,1] (needs `f64::MIN ≤ 1` of the sentinel) -/
theorem clip_t_range (hminval : (fminval : K) ≤ 1) (fl : FatLineT K) (w1 w2 w3 w4 : V2 K) (q : T2 K K)
    (h : clip_t fl w1 w2 w3 w4 = some q) : 0 ≤ q.t0 ∧ q.t1 ≤ 1 := by
  rw [clip_t_eq] at h
  exact clipDecide_range fl _ _ (clipLoop_inv _ fl _ (fun _ a b => ⟨a, b⟩) (hull_ordinates fl w1 w2 w3 w4)) hminval q h

/-- for a parameter whose curve point lies inside the strip, the loop of `clip_t` collects an ordinate above it and one
    below it; the upper one may have been snapped to 0 (parameter below 0.00001), the lower one to 1 (above 0.99999) -/
theorem clip_t_candidates (fl : FatLineT K) (w1 w2 w3 w4 : V2 K) (t : K) (h0 : 0 ≤ t) (h1 : t ≤ 1)
    (hin : fl.d_min ≤ fat_distance fl (de_casteljau4 t w1 w2 w3 w4) ∧
           fat_distance fl (de_casteljau4 t w1 w2 w3 w4) ≤ fl.d_max) :
    (∃ c, Has (clipLoop fl (distance_curve_convex_hull (fat_distance_curve fl w1 w2 w3 w4))) c ∧ 0 ≤ c ∧ c ≤ 1 ∧
      (t ≤ c ∨ (c = 0 ∧ t < 1/100000))) ∧
    (∃ c, Has (clipLoop fl (distance_curve_convex_hull (fat_distance_curve fl w1 w2 w3 w4))) c ∧ 0 ≤ c ∧ c ≤ 1 ∧
      (c ≤ t ∨ (c = 1 ∧ 99999/100000 < t))) := by
  have hord := hull_ordinates fl w1 w2 w3 w4
  rw [distance_curve_points] at hord ⊢
  have hC := hull_bracket (K := K) ⟨fat_distance fl w1, 0⟩ ⟨fat_distance fl w2, 1/3⟩ ⟨fat_distance fl w3, 2/3⟩
    ⟨fat_distance fl w4, 1⟩ rfl rfl rfl rfl
  rw [distance_affine] at hin
  exact ⟨candidate_above fl _ _ _ _ _ hC rfl rfl rfl rfl hord t h0 h1 hin,
    candidate_below fl _ _ _ _ _ hC rfl rfl rfl rfl hord t h0 h1 hin⟩

/-- CLIP_T SOUNDNESS: a parameter whose curve point lies inside the strip is never left outside the returned range, up to
    the snapping slack 0.00001 of `round_y_value` at either end; in particular `clip_t` does not answer `none` then.
    No assumption on the sentinels `f64::MAX/MIN/±∞` and none on the shape of the hull (vertical hull edges included). -/
theorem clip_t_sound (fl : FatLineT K) (hfl : fl.d_min ≤ fl.d_max) (w1 w2 w3 w4 : V2 K) (t : K) (h0 : 0 ≤ t) (h1 : t ≤ 1)
    (hin : fl.d_min ≤ fat_distance fl (de_casteljau4 t w1 w2 w3 w4) ∧
           fat_distance fl (de_casteljau4 t w1 w2 w3 w4) ≤ fl.d_max) :
    ∃ r, clip_t fl w1 w2 w3 w4 = some r ∧ r.t0 - 0.00001 ≤ t ∧ t ≤ r.t1 + 0.00001 := by
  obtain ⟨⟨cU, hU, u0, u1, hu⟩, cL, hL, l0, l1, hl⟩ := clip_t_candidates fl w1 w2 w3 w4 t h0 h1 hin
  rw [clip_t_eq]
  obtain ⟨r, hr, r0, r1⟩ := clipDecide_live fl _ _ (le_trans hU.1 hU.2) (le_trans hL.1 l1) (le_trans u0 hU.2)
  have hL' : r.t0 ≤ cL := le_trans r0 (max_le hL.1 l0)
  have hU' : cU ≤ r.t1 := le_trans (le_min hU.2 u1) r1
  have ε0 : (0 : K) ≤ 0.00001 := by norm_num
  refine ⟨r, hr, ?_, ?_⟩
  · rcases hl with h | h
    · exact (sub_le_self _ ε0).trans (hL'.trans h)
    · linear_combination hL' + h.1 + h.2
  · rcases hu with h | h
    · exact (h.trans hU').trans (le_add_of_nonneg_right ε0)
    · linear_combination hU' - h.1 + h.2

/-- `clip_t` answers `none` only if no point of the curve is inside the strip -/
theorem clip_t_none_sound (fl : FatLineT K) (w1 w2 w3 w4 : V2 K) (h : clip_t fl w1 w2 w3 w4 = none)
    (t : K) (h0 : 0 ≤ t) (h1 : t ≤ 1) :
    ¬ (fl.d_min ≤ fat_distance fl (de_casteljau4 t w1 w2 w3 w4) ∧
       fat_distance fl (de_casteljau4 t w1 w2 w3 w4) ≤ fl.d_max) := by
  intro hin
  obtain ⟨r, hr, _⟩ := clip_t_sound fl (le_trans hin.1 hin.2) w1 w2 w3 w4 t h0 h1 hin
  rw [h] at hr
  exact absurd hr (by simp)

/-- with sentinels on the proper sides of [0,1] (`f64::MIN ≤ 0`, `1 ≤ f64::MAX`) `clip_t` answers `None`, `Some((0,1))`,
    or a pair with `0 ≤ t1 ≤ t2 ≤ 1`; that this pair is the running `(t1, t2)`, i.e. that the branches `Some((0.0, t2))`,
    `Some((t1, 1.0))`, `t1 < 0.0 …` and `t1 > 1.0` of the decision tree are dead, is `FatLineLemmas.clipDecide_shape` -/
theorem clip_t_shape (hM : 1 ≤ (fmaxval : K)) (hm : (fminval : K) ≤ 0) (fl : FatLineT K) (w1 w2 w3 w4 : V2 K) :
    clip_t fl w1 w2 w3 w4 = none ∨ clip_t fl w1 w2 w3 w4 = some (T2.mk 0 1) ∨
    ∃ q, clip_t fl w1 w2 w3 w4 = some q ∧ 0 ≤ q.t0 ∧ q.t0 ≤ q.t1 ∧ q.t1 ≤ 1 := by
  rw [clip_t_eq]
  rcases clipDecide_shape hM hm fl _ _
    (clipLoop_tight hM hm (fun _ h => h) fl _ (fun _ a b => ⟨a, b⟩) (hull_ordinates fl w1 w2 w3 w4)) with h | h | h
  · exact Or.inl h
  · exact Or.inr (Or.inl h)
  · exact Or.inr (Or.inr ⟨_, h⟩)

end ClipT

section Clip
variable [FSqrt K] [FConsts K]

/-- what `clip` does to the range it selected (`Gen.clip`, the `t1 == t2` branch) -/
def widen (q : T2 K K) : T2 K K :=
  if q.t0 = q.t1 then T2.mk (max (q.t0 - 0.005) 0) (min (q.t1 + 0.005) 1) else q

theorem clip_eq (c1 c2 c3 c4 a1 a2 a3 a4 : V2 K) :
    clip c1 c2 c3 c4 a1 a2 a3 a4 =
      if fat_is_flat (fat_from_curve a1 a2 a3 a4) = true then ClipResult.SecondCurveIsLinear
      else match clip_t (fat_from_curve a1 a2 a3 a4) c1 c2 c3 c4,
                 clip_t (fat_from_curve_perpendicular a1 a2 a3 a4) c1 c2 c3 c4 with
        | some qa, some qb => ClipResult.Some (widen (if qa.t1 - qa.t0 < qb.t1 - qb.t0 then qa else qb))
        | _, _ => ClipResult.None := by
  simp only [clip]
  split
  · rfl
  · cases hA : clip_t (fat_from_curve a1 a2 a3 a4) c1 c2 c3 c4 with
    | none => rfl
    | some qa =>
      cases hB : clip_t (fat_from_curve_perpendicular a1 a2 a3 a4) c1 c2 c3 c4 with
      | none => rfl
      | some qb =>
        simp only [decide_eq_true_eq]
        have key : ∀ q : T2 K K,
            (match ClipResult.Some q with
              | ClipResult.Some { t0 := t1, t1 := t2 } =>
                if (t1 == t2) = true then
                  ClipResult.Some { t0 := fmax (t1 - (0.005 : K)) (0.0 : K), t1 := fmin (t2 + (0.005 : K)) (1.0 : K) }
                else ClipResult.Some { t0 := t1, t1 := t2 }
              | other => other) = ClipResult.Some (widen q) := by
          intro q
          obtain ⟨qa, qb⟩ := q
          simp only [widen, fmin_eq_min, fmax_eq_max, lit0, lit1, beq_iff_eq]
          split_ifs <;> rfl
        split_ifs with hc
        · exact key qa
        · exact key qb

theorem clip_of_some {c1 c2 c3 c4 a1 a2 a3 a4 : V2 K} {qa qb : T2 K K}
    (hA : clip_t (fat_from_curve a1 a2 a3 a4) c1 c2 c3 c4 = some qa)
    (hB : clip_t (fat_from_curve_perpendicular a1 a2 a3 a4) c1 c2 c3 c4 = some qb) :
    clip c1 c2 c3 c4 a1 a2 a3 a4 = ClipResult.SecondCurveIsLinear ∨
    clip c1 c2 c3 c4 a1 a2 a3 a4 = ClipResult.Some (widen qa) ∨ clip c1 c2 c3 c4 a1 a2 a3 a4 = ClipResult.Some (widen qb) := by
  rw [clip_eq, hA, hB]
  simp only
  split_ifs
  exacts [Or.inl rfl, Or.inr (Or.inl rfl), Or.inr (Or.inr rfl)]

theorem clip_some {c1 c2 c3 c4 a1 a2 a3 a4 : V2 K} {r : T2 K K} (h : clip c1 c2 c3 c4 a1 a2 a3 a4 = ClipResult.Some r) :
    ∃ qa qb, clip_t (fat_from_curve a1 a2 a3 a4) c1 c2 c3 c4 = some qa ∧
      clip_t (fat_from_curve_perpendicular a1 a2 a3 a4) c1 c2 c3 c4 = some qb ∧
      r = widen (if qa.t1 - qa.t0 < qb.t1 - qb.t0 then qa else qb) := by
  rw [clip_eq] at h
  split_ifs at h
  split at h
  · exact ⟨_, _, ‹_›, ‹_›, (ClipResult.Some.inj h).symm⟩
  · exact absurd h (by simp)

theorem widen_step : (0 : K) ≤ 0.005 := by norm_num

theorem widen_wider_of (q : T2 K K) (h : q.t0 = q.t1 → 0 ≤ q.t0 ∧ q.t1 ≤ 1) :
    (widen q).t0 ≤ q.t0 ∧ q.t1 ≤ (widen q).t1 := by
  simp only [widen]
  split_ifs with he
  · exact ⟨max_le (sub_le_self _ widen_step) (h he).1, le_min (le_add_of_nonneg_right widen_step) (h he).2⟩
  · exact ⟨le_rfl, le_rfl⟩

theorem widen_degenerate (q : T2 K K) (he : q.t0 = q.t1) (t : K) (h0 : 0 ≤ t) (h1 : t ≤ 1) (hlo : q.t0 - 0.005 ≤ t)
    (hhi : t ≤ q.t1 + 0.005) : (widen q).t0 ≤ t ∧ t ≤ (widen q).t1 := by
  rw [widen, if_pos he]
  exact ⟨max_le hlo h0, le_min hhi h1⟩

/-- the decision tree of `clip_t` places a range of zero length inside [0,1], whatever the sentinels are -/
theorem widen_wider {fl : FatLineT K} {c1 c2 c3 c4 : V2 K} {q : T2 K K} (hq : clip_t fl c1 c2 c3 c4 = some q) :
    (widen q).t0 ≤ q.t0 ∧ q.t1 ≤ (widen q).t1 :=
  widen_wider_of q (clipDecide_degenerate _ _ _ q (clip_t_eq fl c1 c2 c3 c4 ▸ hq))

/-- `clip` only ever returns one of the two `clip_t` ranges, possibly widened (never narrowed); no assumption on the
    sentinels -/
theorem clip_returns_widened_range (c1 c2 c3 c4 a1 a2 a3 a4 : V2 K) (r : T2 K K)
    (h : clip c1 c2 c3 c4 a1 a2 a3 a4 = ClipResult.Some r) :
    ∃ q, (clip_t (fat_from_curve a1 a2 a3 a4) c1 c2 c3 c4 = some q ∨
          clip_t (fat_from_curve_perpendicular a1 a2 a3 a4) c1 c2 c3 c4 = some q) ∧
      r.t0 ≤ q.t0 ∧ q.t1 ≤ r.t1 := by
  obtain ⟨qa, qb, hA, hB, rfl⟩ := clip_some h
  split_ifs
  · exact ⟨qa, Or.inl hA, widen_wider hA⟩
  · exact ⟨qb, Or.inr hB, widen_wider hB⟩

/-- `clip` answers `None` only if one of the two `clip_t` calls did -/
theorem clip_none (c1 c2 c3 c4 a1 a2 a3 a4 : V2 K) (h : clip c1 c2 c3 c4 a1 a2 a3 a4 = ClipResult.None) :
    clip_t (fat_from_curve a1 a2 a3 a4) c1 c2 c3 c4 = none ∨
    clip_t (fat_from_curve_perpendicular a1 a2 a3 a4) c1 c2 c3 c4 = none := by
  rw [clip_eq] at h
  split_ifs at h
  cases hA : clip_t (fat_from_curve a1 a2 a3 a4) c1 c2 c3 c4 with
  | none => exact Or.inl rfl
  | some qa =>
    cases hB : clip_t (fat_from_curve_perpendicular a1 a2 a3 a4) c1 c2 c3 c4 with
    | none => exact Or.inr rfl
    | some qb => rw [hA, hB] at h; exact absurd h (by simp)

/-- `clip` answers `SecondCurveIsLinear` exactly when the chord fat line is flat -/
theorem clip_linear_iff (c1 c2 c3 c4 a1 a2 a3 a4 : V2 K) :
    clip c1 c2 c3 c4 a1 a2 a3 a4 = ClipResult.SecondCurveIsLinear ↔ fat_is_flat (fat_from_curve a1 a2 a3 a4) = true := by
  rw [clip_eq]
  constructor
  · intro h
    by_contra hf
    rw [if_neg hf] at h
    split at h <;> exact absurd h (by simp)
  · intro h
    rw [if_pos h]

/-- END TO END: `clip` never discards a meeting point.  If the point of the first curve at parameter `t` lies on the second
    curve (whose end points are not coincident), then `clip` answers `SecondCurveIsLinear` or a range that contains `t`
    up to the snapping slack; it does not answer `None`. -/
theorem clip_keeps_intersections (c1 c2 c3 c4 a1 a2 a3 a4 : V2 K)
    (hfar : is_near_to a1 a4 (0.0000001 : K) = false) (t s : K) (ht0 : 0 ≤ t) (ht1 : t ≤ 1) (hs0 : 0 ≤ s) (hs1 : s ≤ 1)
    (hmeet : de_casteljau4 t c1 c2 c3 c4 = de_casteljau4 s a1 a2 a3 a4) :
    clip c1 c2 c3 c4 a1 a2 a3 a4 = ClipResult.SecondCurveIsLinear ∨
    ∃ r, clip c1 c2 c3 c4 a1 a2 a3 a4 = ClipResult.Some r ∧ r.t0 - 0.00001 ≤ t ∧ t ≤ r.t1 + 0.00001 := by
  have hA := strip_contains_curve a1 a2 a3 a4 hfar s hs0 hs1
  have hB := perp_strip_contains_curve a1 a2 a3 a4 hfar s hs0 hs1
  simp only at hA hB
  rw [← hmeet] at hA hB
  obtain ⟨qa, hqa, qa0, qa1⟩ := clip_t_sound _ (le_trans hA.1 hA.2) c1 c2 c3 c4 t ht0 ht1 hA
  obtain ⟨qb, hqb, qb0, qb1⟩ := clip_t_sound _ (le_trans hB.1 hB.2) c1 c2 c3 c4 t ht0 ht1 hB
  obtain ⟨wa0, wa1⟩ := widen_wider hqa
  obtain ⟨wb0, wb1⟩ := widen_wider hqb
  rcases clip_of_some hqa hqb with h | h | h
  · exact Or.inl h
  · exact Or.inr ⟨_, h, le_trans (sub_le_sub_right wa0 _) qa0, le_trans qa1 (add_le_add_left wa1 _)⟩
  · exact Or.inr ⟨_, h, le_trans (sub_le_sub_right wb0 _) qb0, le_trans qb1 (add_le_add_left wb1 _)⟩

end Clip

/-! ## Non-vacuity: the hypotheses are met by concrete curves over ℚ. -/

section Examples
/-- the unit normalisation factor is the true one for the axis-parallel lines used below -/
local instance : FSqrt ℚ := ⟨fun _ => 1⟩
local instance : FConsts ℚ := ⟨10 ^ 308, -10 ^ 308, 10 ^ 400, -10 ^ 400, 1 / 2 ^ 52⟩

example : is_near_to (⟨0, 0⟩ : V2 ℚ) ⟨3, 0⟩ (0.0000001 : ℚ) = false := by decide +kernel
example : is_near_to (⟨0, 0⟩ : V2 ℚ) ⟨0, -1/100000000⟩ (0.0000001 : ℚ) = true := by decide +kernel

/-- the S-shaped curve (0,0) (1,2/3) (2,−2/3) (3,0) and the curve (0,1) (1,−2) (2,1) (3,1) that crosses it twice -/
private def s1 : V2 ℚ := ⟨0, 0⟩
private def s2 : V2 ℚ := ⟨1, 2/3⟩
private def s3 : V2 ℚ := ⟨2, -2/3⟩
private def s4 : V2 ℚ := ⟨3, 0⟩
private def u1 : V2 ℚ := ⟨0, 1⟩
private def u2 : V2 ℚ := ⟨1, -2⟩
private def u3 : V2 ℚ := ⟨2, 1⟩
private def u4 : V2 ℚ := ⟨3, 1⟩

/-- `strip_contains_curve` applies to the S-shaped curve at `t = 1/3` (its strip is `−8/27 ≤ y ≤ 8/27`);
    the statement is the instance of the theorem, its hypotheses are discharged by evaluation -/
example := strip_contains_curve (K := ℚ) s1 s2 s3 s4 (by decide +kernel) (1/3) (by norm_num) (by norm_num)

/-- `clip_t_sound` applies: at `t = 1/8` the second curve is inside the strip of the first -/
example := clip_t_sound (K := ℚ) (fat_from_curve s1 s2 s3 s4) (by decide +kernel) u1 u2 u3 u4 (1/8) (by norm_num) (by norm_num)
  (by decide +kernel)

/-- … and the answer computed by the generated code is `[19/243, 205/243]` -/
example : clip_t (fat_from_curve s1 s2 s3 s4) u1 u2 u3 u4 = some ⟨19/243, 205/243⟩ := by decide +kernel

/-- the sentinels used here satisfy the hypotheses `hminval`, `hM`, `hm` -/
example : (fminval : ℚ) ≤ 1 ∧ (fminval : ℚ) ≤ 0 ∧ 1 ≤ (fmaxval : ℚ) := by decide +kernel

end Examples

end C13

