/-
C12 / C02 / C20 (self-intersection, end to end)  WHAT `find_self_intersection_point` REPORTS, WITH THE GENERATED CLIPPER.

`C20Self` describes the recursion for any clipper; `C02Sound.returned_pairs_are_close` describes every pair the generated
`curve_intersects_curve_clip` returns.  Here the clipper IS the generated one, run - as the Rust code does - on the two halves as
curves of their own (their cubics `secCubic`), and the two results are joined through `secCubic_point` (the cubic of a section of [0,1]
is the original curve at the mapped parameter): a reported pair `(t1, t2)` names two points of THE SAME curve that are close - or it is
one of the two named exits that promise nothing (tiny final sections of the clipper).
-/
import FloVerif.Props.C02Sound
import FloVerif.Props.C20Self

namespace C12Self
open Prelude Gen FatLineLemmas ClipExact CurveClipLemmas Model.CurveClip C02Overlap C02Sound C20Self Model.SelfIntersect

variable {K : Type} [Field K] [LinearOrder K] [IsStrictOrderedRing K] [Inhabited K] [FSqrt K] [FConsts K] [FSignum K]
local instance : FAbs K := ⟨fun a => |a|⟩
local instance : OfInt K := ⟨fun n => (n : K)⟩

/-- the clipper as `find_intersection_point_in_loop` calls it: the generated `curve_intersects_curve_clip` (recursion depth `depth`, root
    solvers `sr`, `sb` arbitrary) on the cubics of the two halves -/
def genClip (sr : T4 K K K K → List K) (sb : K → K → K → K → K → List K) (w1 w2 w3 w4 : V2 K) (depth : Nat) :
    SectionT K → SectionT K → K → List (T2 K K) :=
  fun l r acc =>
    clipTop (genCtx sr sb (secCubic w1 w2 w3 w4 l).t0 (secCubic w1 w2 w3 w4 l).t1 (secCubic w1 w2 w3 w4 l).t2 (secCubic w1 w2 w3 w4 l).t3
      (secCubic w1 w2 w3 w4 r).t0 (secCubic w1 w2 w3 w4 r).t1 (secCubic w1 w2 w3 w4 r).t2 (secCubic w1 w2 w3 w4 r).t3) depth acc

/-- **A REPORTED SELF-INTERSECTION IS A PAIR OF NEARBY POINTS OF THE CURVE** (generated recursion + generated clipper, any root
    solvers, any depths): an answer `(t1, t2)` that is not the out-of-fuel marker satisfies one of
    1. `|C(t1) − C(t2)|² ≤ 12·accuracy²`,
    2. `C(t1)`, `C(t2)` within `max(accuracy, 0.05)`,
    3. `C(t1)`, `C(t2)` `is_near_to` each other at `accuracy` (the clipper found nothing; the far ends of the two halves),
    4. the clipper's tiny-section exit (mid-parameters of two final sections one of which is `is_tiny`; nothing is promised there). -/
theorem reported_self_intersection_is_close (hM : 1 ≤ (fmaxval : K)) (hm : (fminval : K) ≤ 0)
    (sr : T4 K K K K → List K) (sb : K → K → K → K → K → List K) (w1 w2 w3 w4 : V2 K) (acc : K) (hacc : 0 ≤ acc)
    (depth fuel : Nat) (onLL onFuel : Option (T2 K K)) (r : T2 K K)
    (h : findSelfIntersection (genClip sr sb w1 w2 w3 w4 depth) onLL onFuel fuel w1 w2 w3 w4 acc = some r)
    (hF : onFuel ≠ some r) :
    dist2 (curve_point_at_pos w1 w2 w3 w4 r.t0) (curve_point_at_pos w1 w2 w3 w4 r.t1) ≤ 12 * (acc * acc) ∨
    Within (max acc (0.05 : K)) (curve_point_at_pos w1 w2 w3 w4 r.t0) (curve_point_at_pos w1 w2 w3 w4 r.t1) ∨
    is_near_to (curve_point_at_pos w1 w2 w3 w4 r.t0) (curve_point_at_pos w1 w2 w3 w4 r.t1) acc = true ∨
    (∃ d F1 F2 : SectionT K, Desc (section_new (0.0 : K) (1.0 : K)) d ∧
      r = T2.mk (section_t_for_t (leftOf d) (midT F1)) (section_t_for_t (rightOf d) (midT F2)) ∧
      (section_is_tiny F1 = true ∨ section_is_tiny F2 = true)) := by
  obtain ⟨d, hd, ht, _⟩ := self_intersection_terminal _ onLL onFuel fuel w1 w2 w3 w4 acc r h hF
  rcases terminal_some_spec _ w1 w2 w3 w4 d acc r ht with ⟨_, hn, hr'⟩ | ⟨p, hp, hr'⟩
  · subst hr'
    right; right; left
    simpa only [section_start_point, section_end_point, Prelude.lit0, Prelude.lit1] using hn
  · subst hr'
    have hl : Sub01 (leftOf d) := desc_range (Desc.left hd)
    have hr : Sub01 (rightOf d) := desc_range (Desc.right hd)
    have hc := returned_pairs_are_close hM hm sr sb _ _ _ _ _ _ _ _ acc hacc depth p hp
    rw [secCubic_point w1 w2 w3 w4 _ hl, secCubic_point w1 w2 w3 w4 _ hr] at hc
    rcases hc with hc | ⟨F1, F2, hpe, htiny⟩ | hc
    · exact Or.inl hc
    · right; right; right
      exact ⟨d, F1, F2, hd, by rw [hpe], htiny⟩
    · exact Or.inr (Or.inl hc)

end C12Self
