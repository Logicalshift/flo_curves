/-
C08 (`fit_curve_loop`)  The loop variant of `fit_curve`, generated from fit.rs.

`fit_curve_loop` is `fit_curve` with tangents taken across the ends of the point list (the points are meant to close up).  Since
repair f35a364 it has the block loop of `fit_curve` (before, consecutive blocks did not share their boundary point: the gap of F3 from
200 points on), and the theorems of `fit_curve` carry over: `None` exactly for fewer than two points, the concatenation of the fits of blocks that share their boundary
points, a connected chain from the first to the last point whenever the per-block fitter returns one - and with the generated fitter
(`C08Kernel`) that is unconditional for inputs without three coincident consecutive points.
-/
import FloVerif.Props.C08
import FloVerif.Props.C08Kernel

namespace C08
open Prelude Gen

/-- what `fit_curve_loop` hands to `fit_curve_cubic` for the block `(start, number of points)`: the block's points, the start tangent
    from the two points BEFORE the block (the last two points for the first block), the end tangent from the two points AFTER it (the
    first two points for the last block) -/
def blockFitLoop {K P C : Type} (fcc : List P → P → P → K → List C) (st et : List P → P) (points : List P) (e : K)
    (b : Nat × Nat) : List C :=
  fcc (listSlice points b.1 (b.1 + b.2))
    (if b.1 ≤ 1 then st (listSlice points (points.length - 2) (points.length - 1 + 1)) else st (listSlice points (b.1 - 2) (b.1 - 1 + 1)))
    (if b.1 + b.2 + 1 < points.length then et (listSlice points (b.1 + b.2) (b.1 + b.2 + 1 + 1)) else et (listSlice points 0 (1 + 1)))
    e

/-- `fit_curve_loop` is the concatenation of the fits of THE SAME BLOCKS as `fit_curve` (`C08.blocks`: each block starts at the last
    point of the previous one - the repaired block loop) -/
theorem fit_curve_loop_blocks {K P C : Type} (fcc : List P → P → P → K → List C) (st et : List P → P)
    (points : List P) (e : K) (h : 2 ≤ points.length) :
    fit_curve_loop fcc st et points e =
      some ((blocks points.length (max_points_to_fit points.length)).flatMap (blockFitLoop fcc st et points e)) := by
  refine (if_neg (by rw [decide_eq_true_eq]; omega)).trans (congrArg some ?_)
  refine (blockLoop_eq points.length _ fun sp np => fcc (listSlice points sp (sp + np))
    (if decide (sp ≤ 1) then st (listSlice points (points.length - 2) (points.length - 1 + 1)) else st (listSlice points (sp - 2) (sp - 1 + 1)))
    (if decide (sp + np + 1 < points.length) then et (listSlice points (sp + np) (sp + np + 1 + 1)) else et (listSlice points 0 (1 + 1)))
    e).trans ?_
  simp only [decide_eq_true_eq]
  rfl

theorem fit_curve_loop_none_iff {K P C : Type} (fcc : List P → P → P → K → List C) (st et : List P → P)
    (points : List P) (e : K) :
    fit_curve_loop fcc st et points e = none ↔ points.length < 2 := by
  by_cases h : points.length < 2
  · exact iff_of_true (if_pos (decide_eq_true h)) h
  · rw [fit_curve_loop_blocks fcc st et points e (by omega)]
    exact iff_of_false (Option.some_ne_none _) h

/-- THE CHAIN OF `fit_curve_loop`: a connected chain from the first to the last point whenever the per-block fitter returns one for
    every slice (the statement `fit_curve_chain` makes for `fit_curve`; before repair f35a364 it was false from 200 points on) -/
theorem fit_curve_loop_chain {K P C : Type} (startOf endOf : C → P)
    (fcc : List P → P → P → K → List C) (st et : List P → P) (points : List P) (e : K)
    (hfcc : ∀ (ps : List P) (s t : P), ps <:+: points → 2 ≤ ps.length → FitsChain startOf endOf ps (fcc ps s t e))
    (h : 2 ≤ points.length) :
    ∃ cs, fit_curve_loop fcc st et points e = some cs ∧ FitsChain startOf endOf points cs :=
  ⟨_, fit_curve_loop_blocks fcc st et points e h,
    blocks_flatMap_chain startOf endOf points _ (fun _ hb => hfcc _ _ _ (listSlice_infix _ _ _) hb) h⟩

section generated
open C08Cubic C08Term C08Kernel

variable {K : Type} [Field K] [LinearOrder K] [IsStrictOrderedRing K] [Inhabited K]
local instance : FAbs K := ⟨fun a => |a|⟩
local instance : OfInt K := ⟨fun n => (n : K)⟩
variable [FSqrt K] [FConsts K] [FSignum K]

/-- **`fit_curve_loop` RETURNS A CONNECTED CHAIN FROM THE FIRST TO THE LAST POINT**, with every line generated, for every list of at
    least two 2-D points in which no three consecutive points coincide and every `max_error` (after repair f35a364) -/
theorem generated_fit_curve_loop_chain (hs : SqrtOK K) (points : List (V2 K)) (hnr : NoTripleRun points) (e : K) (h2 : 2 ≤ points.length) :
    ∃ cs, Model.FitKernel.fitCurveLoopGen points e = some cs ∧ FitsChain (fun c : Cub K => c.t0) (fun c : Cub K => c.t3) points cs :=
  fit_curve_loop_chain (fun c : Cub K => c.t0) (fun c : Cub K => c.t3) _ fit_start_tangent fit_end_tangent points e
    (fun ps s t hin hps => generated_fit_chain hs points hnr (ps.length + 1) ps s t e hin hps (Nat.le_succ _)) h2

end generated

end C08
