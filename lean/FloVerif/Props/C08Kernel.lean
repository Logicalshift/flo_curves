/-
C08 (the least-squares kernel, generated)  `fit_curve_cubic` with NOTHING left as a parameter.

`Gen/FitKernel.lean` is regenerated on every check from fit.rs: `chords_for_points`, `generate_bezier` (whole, the 2x2 normal
equations with the arrays `c`, `x` scalarised), `reparameterize`, `max_error_for_curve` (whole), `tangent_between`,
`start_tangent`, `end_tangent`, at `Curve<Coord2>`.  `Model.FitKernel.fitCubicGen` ties the two self-calls of the generated body
over these with a depth; run at `Float` it reproduces the real `fit_curve` / `fit_curve_cubic` bit for bit (driver ops `fit`,
`cubic`).  Here:

* the chain / termination theorem of `C08Term` is stated with an INVARIANT on the parameters (`cubicKnot_chain_inv`, an instance of
  `C08Term.cubicKnot_induct`): the interior-split hypothesis is only needed for parameter lists the body can actually produce;
* the invariant "as many parameters as points, the first is 0, the last is 1, all in [0,1]" is established for the generated
  `chords_for_points` and kept by the generated `reparameterize` about any curve from the first to the last point;
* `generate_bezier` returns a curve from the first to the last point, its inner control points lie on the two tangent rays at a
  non-negative distance, and - when the least-squares branch is taken - the distances solve the normal equations `C·α = X`;
* hence (`generated_fit_chain`): for every list of points in which no three consecutive points coincide (isolated repeated
  points are allowed), every tolerance and every tangents, the generated `fit_curve_cubic` never uses up depth `points.length` and
  returns a connected chain from the first to the last point, and (`generated_fit_near`) every point of the slice is within the
  tolerance of one of the returned curves AT A PARAMETER IN [0,1].
-/
import FloVerif.Props.C08Term
import FloVerif.Model.FitKernel
import FloVerif.Gen.Total
import Mathlib.Tactic.Ring
import Mathlib.Tactic.NormNum.OfScientific
import Mathlib.Algebra.Order.Field.Basic
import Mathlib.Analysis.Real.Sqrt

set_option linter.unusedSectionVars false
namespace C08Kernel
open Prelude Gen C08 C08Cubic C08Term

section generic
variable {K P C : Type} [Field K] [LinearOrder K] [IsStrictOrderedRing K] [Inhabited K]
  [Inhabited P] [Add P] [Sub P] [HMul P K P] [Dot P K] [FSqrt K]

/-- `C08Term.cubicKnot_chain` WITH AN INVARIANT ON THE PARAMETERS: the interior-split hypothesis is only asked of parameter lists
    satisfying `I ps`, where `I ps` holds after the first re-parameterisation of every slice `ps` and is kept by every further one. -/
theorem cubicKnot_chain_inv (startOf endOf : C → P) (I : List P → List K → Prop)
    (cfp : List P → List K) (gb : List P → List K → P → P → C)
    (rp : List P → List K → C → List K) (mefc : List P → List K → C → T2 K Nat) (tb : P → P → P → P) (neg : P → P)
    (fl : P → P → List C) (all : List P) (tol : K)
    (hLine : ∀ p q, ∃ c, fl p q = [c] ∧ startOf c = p ∧ endOf c = q)
    (hgb : ∀ (ps : List P) (chords : List K) (s t : P), ps <:+: all → 3 ≤ ps.length →
      some (startOf (gb ps chords s t)) = ps.head? ∧ some (endOf (gb ps chords s t)) = ps.getLast?)
    (hI0 : ∀ (ps : List P) (s t : P), ps <:+: all → 3 ≤ ps.length → I ps (rp ps (cfp ps) (gb ps (cfp ps) s t)))
    (hIstep : ∀ (ps : List P) (ch : List K) (s t : P), ps <:+: all → 3 ≤ ps.length → I ps ch → I ps (rp ps ch (gb ps ch s t)))
    (hSplit : ∀ (ps : List P) (chords : List K) (s t : P), ps <:+: all → 3 ≤ ps.length → I ps chords →
      ¬ (mefc ps chords (gb ps chords s t)).t0 ≤ tol →
      1 ≤ (mefc ps chords (gb ps chords s t)).t1 ∧ (mefc ps chords (gb ps chords s t)).t1 + 1 < ps.length) :
    ∀ (fuel : Nat) (points : List P) (st et : P) (e : K), clampTol e = tol → points <:+: all → 2 ≤ points.length →
      points.length ≤ fuel →
      FitsChain startOf endOf points (cubicKnot cfp gb rp mefc tb neg fl fuel points st et e) :=
  cubicKnot_induct I (FitsChain startOf endOf) cfp gb rp mefc tb neg fl all tol hI0 hIstep hSplit
    (fun ps _ h2 => .line hLine ps h2)
    (fun ps ch s t hin h3 _ _ => .single (hgb ps ch s t hin h3).1 (hgb ps ch s t hin h3).2)
    (fun _ _ _ _ _ _ h2 hx hy => .split (by omega) hx hy)

end generic

/-! ### the generated kernel at `Curve<Coord2>` -/
section kernel
variable {K : Type} [Field K] [LinearOrder K] [IsStrictOrderedRing K] [Inhabited K]

/-- in exact arithmetic `f64::abs` is the absolute value -/
local instance : FAbs K := ⟨fun a => |a|⟩
/-- `n as f64` -/
local instance : OfInt K := ⟨fun n => (n : K)⟩

variable [FSqrt K] [FConsts K] [FSignum K]

abbrev Cub (K : Type) := T4 (V2 K) (V2 K) (V2 K) (V2 K)

theorem lit1k : (1.0 : K) = 1 := lit1

/-- what the theorems need of `f64::sqrt` -/
def SqrtOK (K : Type) [Field K] [LinearOrder K] [FSqrt K] : Prop :=
  (∀ x : K, 0 ≤ (fsqrt x : K)) ∧ (fsqrt (0 : K) : K) = 0 ∧ (∀ x : K, 0 < x → 0 < (fsqrt x : K))

/-- the invariant of the parameter list: one parameter per point, the first is 0, the last is 1, all lie in [0,1] -/
def ChordInv (ps : List (V2 K)) (ch : List K) : Prop :=
  ch.length = ps.length ∧ ch.head? = some 0 ∧ ch.getLast? = some 1 ∧ ∀ c ∈ ch, 0 ≤ c ∧ c ≤ 1

/-- THE KNOT: `Model.FitKernel.fitCubicGen` (what the driver runs against the real `fit_curve_cubic`, bit for bit) is
    `C08Term.cubicKnot` over the generated kernel -/
theorem fitCubicGen_eq_cubicKnot (n : Nat) :
    Model.FitKernel.fitCubicGen (K := K) n =
      cubicKnot (K := K) (P := V2 K) (C := Cub K) chords_for_points generate_bezier reparameterize max_error_for_curve tangent_between
        (fun p => p * (-(1.0 : K))) (fit_line (K := K)) n := by
  induction n with
  | zero => rfl
  | succ n ih => funext points st et e; simp only [Model.FitKernel.fitCubicGen, cubicKnot, ih]

/-- the sums of the normal equations as the generated loop of `generate_bezier` accumulates them:
    `(c[0][0], c[0][1], c[1][0], c[1][1], x[0], x[1])` with `a_i = (start_tangent·B1(u_i), end_tangent·B2(u_i))`,
    `c[j][k] = Σ a_ij·a_ik`, `x[j] = Σ a_ij·(p_i − (p_0·(B0+B1) + p_last·(B2+B3)))` -/
def lsSums (points : List (V2 K)) (chords : List K) (st et : V2 K) : T6 K K K K K K :=
  let a := (List.map (fun chord =>
    let inverse_chord := ((1.0 : K) - chord)
    let b1 := (((3.0 : K) * chord) * (inverse_chord * inverse_chord))
    let b2 := ((((3.0 : K) * chord) * chord) * inverse_chord)
    (T2.mk (st * b1) (et * b2))) chords)
  let last_point := (listGet points ((List.length points) - 1))
  (foldlT (List.range' 0 ((List.length points) - 0)) (T6.mk (0.0 : K) (0.0 : K) (0.0 : K) (0.0 : K) (0.0 : K) (0.0 : K)) (fun st_1 it_1 =>
    let c_0_0 := st_1.t0
    let c_0_1 := st_1.t1
    let c_1_1 := st_1.t3
    let x_0 := st_1.t4
    let x_1 := st_1.t5
    let point := it_1
    let c_0_0 := (c_0_0 + (dot (listGet a point).t0 (listGet a point).t0))
    let c_0_1 := (c_0_1 + (dot (listGet a point).t0 (listGet a point).t1))
    let c_1_0 := c_0_1
    let c_1_1 := (c_1_1 + (dot (listGet a point).t1 (listGet a point).t1))
    let chord := (listGet chords point)
    let inverse_chord := ((1.0 : K) - chord)
    let b0 := ((inverse_chord * inverse_chord) * inverse_chord)
    let b1 := (((3.0 : K) * chord) * (inverse_chord * inverse_chord))
    let b2 := ((((3.0 : K) * chord) * chord) * inverse_chord)
    let b3 := ((chord * chord) * chord)
    let tmp := ((listGet points point) - (((((listGet points 0) * b0) + ((listGet points 0) * b1)) + (last_point * b2)) + (last_point * b3)))
    let x_0 := (x_0 + (dot (listGet a point).t0 tmp))
    let x_1 := (x_1 + (dot (listGet a point).t1 tmp))
    (T6.mk c_0_0 c_0_1 c_1_0 c_1_1 x_0 x_1)))

/-- `generate_bezier` = accumulate the sums, then solve (`Gen.generate_bezier_tail` is the same source text from its sixth
    statement on, translated for C20) -/
theorem generate_bezier_eq_tail (points : List (V2 K)) (chords : List K) (st et : V2 K) :
    generate_bezier points chords st et =
      generate_bezier_tail (lsSums points chords st et).t0 (lsSums points chords st et).t1 (lsSums points chords st et).t2
        (lsSums points chords st et).t3 (lsSums points chords st et).t4 (lsSums points chords st et).t5
        (listGet points 0) (listGet points (points.length - 1)) st et := by
  unfold generate_bezier lsSums generate_bezier_tail
  rfl

/-- both branches of the solving step keep the end points -/
theorem generate_bezier_tail_ends (c00 c01 c10 c11 x0 x1 : K) (p0 pl st et : V2 K) :
    (generate_bezier_tail c00 c01 c10 c11 x0 x1 p0 pl st et).t0 = p0 ∧
    (generate_bezier_tail c00 c01 c10 c11 x0 x1 p0 pl st et).t3 = pl := by
  unfold generate_bezier_tail
  extract_lets det dcx dxc al ar seg eps
  split <;> exact ⟨rfl, rfl⟩

/-- `generate_bezier` RETURNS A CURVE FROM THE FIRST TO THE LAST POINT, whatever the parameters and the tangents -/
theorem generate_bezier_ends (points : List (V2 K)) (chords : List K) (st et : V2 K) :
    (generate_bezier points chords st et).t0 = listGet points 0 ∧
    (generate_bezier points chords st et).t3 = listGet points (points.length - 1) := by
  rw [generate_bezier_eq_tail]
  exact generate_bezier_tail_ends _ _ _ _ _ _ _ _ _ _

theorem reparameterize_eq (points : List (V2 K)) (chords : List K) (c : Cub K) :
    reparameterize points chords c =
      (points.zip chords).map (fun s => newton_raphson_root_find c.t0 c.t1 c.t2 c.t3 s.1 s.2) := by
  unfold reparameterize
  simp only [List.zip, List.map_zipWith]

/-- the two pieces `C08Error` is about -/
theorem max_error_for_curve_eq (points : List (V2 K)) (chords : List K) (c : Cub K) :
    max_error_for_curve points chords c =
      max_error_pick ((points.zip chords).map (fun s => (fit_point_error c.t0 c.t1 c.t2 c.t3 s.1 s.2 : K))) := by
  unfold max_error_for_curve max_error_pick fit_point_error
  simp only [List.zip, List.map_zipWith]

/-- one step of the chord-length loop -/
def chordStep (points : List (V2 K)) (st : T2 K (List K)) (p : Nat) : T2 K (List K) :=
  T2.mk (st.t0 + coord2_distance_to (listGet points (p - 1)) (listGet points p))
    (st.t1 ++ [st.t0 + coord2_distance_to (listGet points (p - 1)) (listGet points p)])

theorem chords_for_points_eq (points : List (V2 K)) :
    chords_for_points points =
      (foldlT (List.range' 1 (points.length - 1)) (T2.mk (0 : K) [0]) (chordStep points)).t1.map
        (fun d => d / (foldlT (List.range' 1 (points.length - 1)) (T2.mk (0 : K) [0]) (chordStep points)).t0) := by
  unfold chords_for_points chordStep
  simp only [lit0, List.nil_append]

theorem distance_nonneg (hs : SqrtOK K) (p q : V2 K) : 0 ≤ coord2_distance_to p q := by
  unfold coord2_distance_to; exact hs.1 _

/-- CHORD-LENGTH PARAMETERS: for at least two points that are not all the same point (some consecutive pair is a positive distance
    apart; repeated points elsewhere are allowed), `chords_for_points` returns one parameter per point, the first 0, the last 1, all
    in [0,1] -/
theorem chords_for_points_spec (hs : SqrtOK K) (points : List (V2 K)) (hn : 2 ≤ points.length)
    (hpos : ∃ p, 1 ≤ p ∧ p < points.length ∧ 0 < coord2_distance_to (listGet points (p - 1)) (listGet points p)) :
    ChordInv points (chords_for_points points) := by
  -- the loop keeps `(total, running totals)`: the list starts with 0, ends with the total, has one entry more than segments visited,
  -- and the total is at least every entry and every single distance added so far
  have hJ := foldlT_inv_prefix (fun (s : T2 K (List K)) (done : List Nat) =>
      s.t1.head? = some 0 ∧ s.t1.getLast? = some s.t0 ∧ (∀ d ∈ s.t1, 0 ≤ d ∧ d ≤ s.t0) ∧ s.t1.length = done.length + 1 ∧
      ∀ p ∈ done, coord2_distance_to (listGet points (p - 1)) (listGet points p) ≤ s.t0)
    (List.range' 1 (points.length - 1)) (T2.mk (0 : K) [0]) (chordStep points)
    ⟨rfl, rfl, fun d hd => by rw [List.mem_singleton.1 hd]; exact ⟨le_refl 0, le_refl 0⟩, rfl, fun _ h => absurd h List.not_mem_nil⟩
    (fun b done a ⟨hh, hl, hall, hlen, hge⟩ => by
      have hd := distance_nonneg hs (listGet points (a - 1)) (listGet points a)
      have h0 : 0 ≤ b.t0 := (hall _ (List.mem_of_getLast? hl)).2.trans' (hall _ (List.mem_of_getLast? hl)).1
      dsimp only [chordStep]
      refine ⟨?_, List.getLast?_concat, ?_, by rw [List.length_append, List.length_append, hlen]; rfl, ?_⟩
      · rw [List.head?_append_of_ne_nil _ (fun h => by rw [h] at hh; cases hh)]; exact hh
      · intro d hd'
        rcases List.mem_append.1 hd' with h | h
        · exact ⟨(hall d h).1, le_trans (hall d h).2 (le_add_of_nonneg_right hd)⟩
        · rw [List.mem_singleton.1 h]; exact ⟨add_nonneg h0 hd, le_refl _⟩
      · intro p hp
        rcases List.mem_append.1 hp with h | h
        · exact le_trans (hge p h) (le_add_of_nonneg_right hd)
        · rw [List.mem_singleton.1 h]; exact le_add_of_nonneg_left h0)
  obtain ⟨p, hp1, hp2, hpd⟩ := hpos
  rw [chords_for_points_eq]
  generalize foldlT (List.range' 1 (points.length - 1)) (T2.mk (0 : K) [0]) (chordStep points) = r at hJ
  obtain ⟨hh, hl, hall, hlen, hge⟩ := hJ
  have htot : 0 < r.t0 := lt_of_lt_of_le hpd (hge p (List.mem_range'_1.2 ⟨hp1, by omega⟩))
  refine ⟨by rw [List.length_map, hlen, List.length_range']; omega, ?_, ?_, ?_⟩
  · rw [List.head?_map, hh, Option.map_some, zero_div]
  · rw [List.getLast?_map, hl, Option.map_some, div_self htot.ne']
  · intro c hc
    obtain ⟨d, hd, rfl⟩ := List.mem_map.1 hc
    exact ⟨div_nonneg (hall d hd).1 htot.le, (div_le_one htot).2 (hall d hd).2⟩

theorem zip_ends (ps : List (V2 K)) (ch : List K) (hn : 2 ≤ ps.length) (hI : ChordInv ps ch) :
    (ps.zip ch).head? = some (listGet ps 0, 0) ∧ (ps.zip ch).getLast? = some (listGet ps (ps.length - 1), 1) := by
  obtain ⟨hlen, hh, hl, _⟩ := hI
  constructor
  · match ps, ch, hn, hlen, hh with
    | p :: ps', c :: ch', _, _, hh =>
      have hc : c = 0 := Option.some.inj hh
      subst hc; rfl
  · rw [List.getLast?_eq_getElem?] at hl ⊢
    rw [List.length_zip, hlen, Nat.min_self, List.getElem?_zip_eq_some]
    exact ⟨by rw [← List.getLast?_eq_getElem?]; exact (ends_as_options ps (by omega)).2.symm, by rw [← hlen]; exact hl⟩

/-- RE-PARAMETERISATION KEEPS THE INVARIANT about any curve from the first to the last point (what `generate_bezier` returns):
    the parameters 0 and 1 of the end points are fixed (`C08.newton_fixed_at_hit_2d`), every other one stays where it is or is
    clamped into [0,1] (`C08.newton_in_unit`, repair F10) -/
theorem reparameterize_inv (ps : List (V2 K)) (ch : List K) (c : Cub K) (hn : 2 ≤ ps.length)
    (h0 : c.t0 = listGet ps 0) (h3 : c.t3 = listGet ps (ps.length - 1)) (hI : ChordInv ps ch) :
    ChordInv ps (reparameterize ps ch c) := by
  have hz := zip_ends ps ch hn hI
  obtain ⟨hlen, _, _, hall⟩ := hI
  rw [reparameterize_eq]
  refine ⟨by rw [List.length_map, List.length_zip, hlen, Nat.min_self], ?_, ?_, ?_⟩
  · rw [List.head?_map, hz.1]
    exact congrArg some (newton_fixed_at_hit_2d _ _ _ _ _ _ ⟨le_refl 0, zero_le_one⟩ (by rw [point_at_zero, h0]))
  · rw [List.getLast?_map, hz.2]
    exact congrArg some (newton_fixed_at_hit_2d _ _ _ _ _ _ ⟨zero_le_one, le_refl 1⟩ (by rw [point_at_one, h3]))
  · intro u hu
    obtain ⟨s, hs, rfl⟩ := List.mem_map.1 hu
    exact newton_in_unit _ _ _ _ _ _ (hall _ (List.of_mem_zip hs).2)

/-- A REJECTED CANDIDATE IS SPLIT AT AN INTERIOR POINT: for parameters meeting the invariant, the generated `max_error_for_curve`
    of the generated `generate_bezier` reports an index that is neither the first nor the last point (their errors are 0, the index
    reported has a positive one) - so `points[split_pos-1]`, `points[split_pos+1]` never leave the slice and both halves are
    shorter -/
theorem generated_split (hs : SqrtOK K) (ps : List (V2 K)) (ch : List K) (st et : V2 K) (tol : K) (htol : 0 ≤ tol)
    (hn : 3 ≤ ps.length) (hI : ChordInv ps ch)
    (hrej : ¬ (max_error_for_curve ps ch (generate_bezier ps ch st et)).t0 ≤ tol) :
    1 ≤ (max_error_for_curve ps ch (generate_bezier ps ch st et)).t1 ∧
    (max_error_for_curve ps ch (generate_bezier ps ch st et)).t1 + 1 < ps.length := by
  have hz := zip_ends ps ch (by omega) hI
  have he := generate_bezier_ends ps ch st et
  rw [max_error_for_curve_eq] at hrej ⊢
  generalize generate_bezier ps ch st et = c at he hrej ⊢
  apply generated_split_interior ps ch c tol htol (le_of_eq hs.2.1)
  · intro s hs'
    rw [hz.1] at hs'; cases hs'
    exact le_of_eq (fit_point_error_at_hit dot_sub_self _ _ _ _ _ _ (by rw [point_at_zero, he.1]))
  · intro s hs'
    rw [hz.2] at hs'; cases hs'
    exact le_of_eq (fit_point_error_at_hit dot_sub_self _ _ _ _ _ _ (by rw [point_at_one, he.2]))
  · exact hrej

/-! ### the least-squares step -/

/-- Cramer's rule for the 2x2 normal equations -/
theorem cramer (c00 c01 c10 c11 x0 x1 : K) (hne : c00 * c11 - c10 * c01 ≠ 0) :
    c00 * ((x0 * c11 - x1 * c01) / (c00 * c11 - c10 * c01)) + c01 * ((c00 * x1 - c10 * x0) / (c00 * c11 - c10 * c01)) = x0 ∧
    c10 * ((x0 * c11 - x1 * c01) / (c00 * c11 - c10 * c01)) + c11 * ((c00 * x1 - c10 * x0) / (c00 * c11 - c10 * c01)) = x1 := by
  constructor
  · rw [← mul_div_assoc, ← mul_div_assoc, ← add_div, div_eq_iff hne]; ring
  · rw [← mul_div_assoc, ← mul_div_assoc, ← add_div, div_eq_iff hne]; ring

/-- THE LEAST-SQUARES STEP SOLVES THE NORMAL EQUATIONS: the inner control points always lie on the two tangent rays at a
    non-negative distance (`p_0 + start_tangent·α_l`, `p_last + end_tangent·α_r`, `α ≥ 0`), and the distances are either THE solution of `C·α = X` (Cramer's
    rule: the branch taken when the determinant passes the `1e-4` test and both distances pass the Wu/Barsky test) or both a third
    of the distance between the end points; which of the two is not part of the statement. -/
theorem generate_bezier_tail_spec (hs0 : ∀ x : K, 0 ≤ (fsqrt x : K)) (c00 c01 c10 c11 x0 x1 : K) (p0 pl st et : V2 K) :
    ∃ al ar : K, 0 ≤ al ∧ 0 ≤ ar ∧
      generate_bezier_tail c00 c01 c10 c11 x0 x1 p0 pl st et = T4.mk p0 (p0 + st * al) (pl + et * ar) pl ∧
      ((al = coord2_distance_to p0 pl / 3 ∧ ar = coord2_distance_to p0 pl / 3) ∨
       (¬ |c00 * c11 - c10 * c01| < (1.0e-4 : K) ∧ c00 * al + c01 * ar = x0 ∧ c10 * al + c11 * ar = x1)) := by
  have hseg : 0 ≤ coord2_distance_to p0 pl := by unfold coord2_distance_to; exact hs0 _
  have h6 : (0 : K) < (1.0e-6 : K) := by norm_num
  have heps : (0 : K) ≤ (1.0e-6 : K) * coord2_distance_to p0 pl := mul_nonneg h6.le hseg
  unfold generate_bezier_tail
  extract_lets det dcx dxc al ar seg eps
  simp only [Bool.or_eq_true, decide_eq_true_eq]
  split
  · have hd : 0 ≤ coord2_distance_to p0 pl / (3.0 : K) := div_nonneg hseg (by norm_num)
    exact ⟨_, _, hd, hd, rfl, .inl ⟨by rw [lit3], by rw [lit3]⟩⟩
  · rename_i h
    obtain ⟨hl, hr⟩ := not_or.1 h
    refine ⟨al, ar, le_trans heps (not_lt.1 hl), le_trans heps (not_lt.1 hr), rfl, ?_⟩
    by_cases hdet : |c00 * c11 - c10 * c01| < (1.0e-4 : K)
    · -- no usable determinant: both distances are 0.0, so epsilon is not positive, the end points coincide, and the zero
      -- distances ARE a third of that distance
      have hal : al = 0 := (if_pos (decide_eq_true hdet)).trans lit0
      have har : ar = 0 := (if_pos (decide_eq_true hdet)).trans lit0
      have hz : coord2_distance_to p0 pl = 0 :=
        (mul_eq_zero.1 (le_antisymm (hal ▸ not_lt.1 hl) heps)).resolve_left h6.ne'
      exact .inl ⟨by rw [hal, hz, zero_div], by rw [har, hz, zero_div]⟩
    · have hne : c00 * c11 - c10 * c01 ≠ 0 := fun h0 => hdet (by rw [h0, abs_zero]; norm_num)
      have hal : al = (x0 * c11 - x1 * c01) / (c00 * c11 - c10 * c01) := if_neg (by rwa [decide_eq_true_eq])
      have har : ar = (c00 * x1 - c10 * x0) / (c00 * c11 - c10 * c01) := if_neg (by rwa [decide_eq_true_eq])
      rw [hal, har]
      exact .inr ⟨hdet, cramer c00 c01 c10 c11 x0 x1 hne⟩

/-- the same for `generate_bezier` itself, with the sums its loop accumulates -/
theorem generate_bezier_spec (hs0 : ∀ x : K, 0 ≤ (fsqrt x : K)) (points : List (V2 K)) (chords : List K) (st et : V2 K) :
    let s := lsSums points chords st et
    let p0 := listGet points 0
    let pl := listGet points (points.length - 1)
    ∃ al ar : K, 0 ≤ al ∧ 0 ≤ ar ∧
      generate_bezier points chords st et = T4.mk p0 (p0 + st * al) (pl + et * ar) pl ∧
      ((al = coord2_distance_to p0 pl / 3 ∧ ar = coord2_distance_to p0 pl / 3) ∨
       (¬ |s.t0 * s.t3 - s.t2 * s.t1| < (1.0e-4 : K) ∧ s.t0 * al + s.t1 * ar = s.t4 ∧ s.t2 * al + s.t3 * ar = s.t5)) := by
  intro s p0 pl
  exact generate_bezier_eq_tail points chords st et ▸ generate_bezier_tail_spec hs0 s.t0 s.t1 s.t2 s.t3 s.t4 s.t5 p0 pl st et

/-! ### the whole generated fitter -/

/-- no two consecutive points coincide -/
def NoRepeat (all : List (V2 K)) : Prop := ∀ i, i + 1 < all.length → listGet all i ≠ listGet all (i + 1)

theorem noRepeat_infix (all ps : List (V2 K)) (h : NoRepeat all) (hin : ps <:+: all) : NoRepeat ps := by
  obtain ⟨s, t, rfl⟩ := hin
  intro i hi
  have h1 := h (s.length + i) (by simp only [List.length_append]; omega)
  rwa [Nat.add_assoc, listGet_append_mid _ _ _ _ (by omega), listGet_append_mid _ _ _ _ hi] at h1

theorem distance_pos (hs : SqrtOK K) (p q : V2 K) (h : p ≠ q) : 0 < coord2_distance_to p q := by
  refine hs.2.2 _ (lt_of_le_of_ne (add_nonneg (mul_self_nonneg _) (mul_self_nonneg _)) fun h0 => h ?_)
  obtain ⟨hx, hy⟩ := mul_self_add_mul_self_eq_zero.1 h0.symm
  exact V2.ext' (sub_eq_zero.1 hx).symm (sub_eq_zero.1 hy).symm

/-- no three consecutive points coincide (isolated repeated points are allowed) -/
def NoTripleRun (all : List (V2 K)) : Prop :=
  ∀ i, i + 2 < all.length → ¬ (listGet all i = listGet all (i + 1) ∧ listGet all (i + 1) = listGet all (i + 2))

theorem NoRepeat.noTripleRun {all : List (V2 K)} (h : NoRepeat all) : NoTripleRun all :=
  fun i hi hc => h i (by omega) hc.1

theorem noTriple_infix (all ps : List (V2 K)) (h : NoTripleRun all) (hin : ps <:+: all) : NoTripleRun ps := by
  obtain ⟨s, t, rfl⟩ := hin
  intro i hi hc
  apply h (s.length + i) (by simp only [List.length_append]; omega)
  rwa [Nat.add_assoc, Nat.add_assoc, listGet_append_mid _ _ _ _ (by omega), listGet_append_mid _ _ _ _ (by omega),
    listGet_append_mid _ _ _ _ hi]

theorem noTriple_distance (hs : SqrtOK K) (ps : List (V2 K)) (h : NoTripleRun ps) (h3 : 3 ≤ ps.length) :
    ∃ p, 1 ≤ p ∧ p < ps.length ∧ 0 < coord2_distance_to (listGet ps (p - 1)) (listGet ps p) := by
  by_cases h01 : listGet ps 0 = listGet ps 1
  · have h12 : listGet ps 1 ≠ listGet ps 2 := fun hc => h 0 (by omega) ⟨h01, hc⟩
    exact ⟨2, by omega, by omega, distance_pos hs _ _ h12⟩
  · exact ⟨1, le_refl 1, by omega, distance_pos hs _ _ h01⟩

theorem chordInv_step (ps : List (V2 K)) (ch : List K) (s t : V2 K) (hn : 2 ≤ ps.length) (hI : ChordInv ps ch) :
    ChordInv ps (reparameterize ps ch (generate_bezier ps ch s t)) :=
  reparameterize_inv ps ch _ hn (generate_bezier_ends ps ch s t).1 (generate_bezier_ends ps ch s t).2 hI

theorem chordInv_first (hs : SqrtOK K) (ps : List (V2 K)) (s t : V2 K) (hnr : NoTripleRun ps) (h3 : 3 ≤ ps.length) :
    ChordInv ps (reparameterize ps (chords_for_points ps) (generate_bezier ps (chords_for_points ps) s t)) :=
  chordInv_step ps _ s t (by omega) (chords_for_points_spec hs ps (by omega) (noTriple_distance hs ps hnr h3))

/-- THE GENERATED FITTER TERMINATES WITH A CONNECTED CHAIN - nothing is a parameter.  For every list of 2-D points in which
    no three consecutive points coincide (isolated repeated points are allowed), every contiguous slice of it with at least two
    points, every tangents and every tolerance (negative ones are clamped: repair F18): depth `points.length` is never used up,
    `points[split_pos ± 1]` are never out of range, and `fit_curve_cubic` returns a non-empty chain whose first curve starts at the
    first point, whose last curve ends at the last point, and in which every curve starts where the previous one ends.  (With three
    or more coincident consecutive points a slice can consist of one point only and the chord-length parameters divide by a zero
    total - `0/0` is NaN in IEEE and 0 in a field - so that case is left to the bit-exact mirror and to C20's catalogue.) -/
theorem generated_fit_chain (hs : SqrtOK K) (all : List (V2 K)) (hnr : NoTripleRun all)
    (fuel : Nat) (points : List (V2 K)) (st et : V2 K) (e : K)
    (hin : points <:+: all) (h2 : 2 ≤ points.length) (hf : points.length ≤ fuel) :
    FitsChain (fun c : Cub K => c.t0) (fun c : Cub K => c.t3) points (Model.FitKernel.fitCubicGen fuel points st et e) := by
  rw [fitCubicGen_eq_cubicKnot]
  exact cubicKnot_chain_inv (fun c : Cub K => c.t0) (fun c : Cub K => c.t3) ChordInv
    chords_for_points generate_bezier reparameterize max_error_for_curve tangent_between (fun p => p * (-(1.0 : K))) (fit_line (K := K))
    all (clampTol e) (fun p q => fit_line_contract p q)
    (fun ps ch s t _ h3 => by
      have he := generate_bezier_ends ps ch s t
      have ho := ends_as_options ps (by omega)
      exact ⟨by rw [he.1]; exact ho.1, by rw [he.2]; exact ho.2⟩)
    (fun ps s t hps h3 => chordInv_first hs ps s t (noTriple_infix all ps hnr hps) h3)
    (fun ps ch s t _ h3 hI => chordInv_step ps ch s t (by omega) hI)
    (fun ps ch s t _ h3 hI hrej => generated_split hs ps ch s t (clampTol e) (clampTol_nonneg e) h3 hI hrej)
    fuel points st et e rfl hin h2 hf

/-- `p` is within `tol` of one of the curves, measured at a parameter IN [0,1] (so at a point of the curve that is returned) -/
def Near (tol : K) (cs : List (Cub K)) (p : V2 K) : Prop :=
  ∃ c ∈ cs, ∃ u : K, 0 ≤ u ∧ u ≤ 1 ∧
    (fsqrt (dot (p - curve_point_at_pos c.t0 c.t1 c.t2 c.t3 u) (p - curve_point_at_pos c.t0 c.t1 c.t2 c.t3 u) : K) : K) ≤ tol

theorem Near.append_left {tol : K} {a b : List (Cub K)} {p : V2 K} (h : Near tol a p) : Near tol (a ++ b) p := by
  obtain ⟨c, hc, r⟩ := h; exact ⟨c, List.mem_append_left _ hc, r⟩
theorem Near.append_right {tol : K} {a b : List (Cub K)} {p : V2 K} (h : Near tol b p) : Near tol (a ++ b) p := by
  obtain ⟨c, hc, r⟩ := h; exact ⟨c, List.mem_append_right _ hc, r⟩
theorem Near.flatMap {tol : K} {B : Type} {g : B → List (Cub K)} {bs : List B} {b : B} {p : V2 K} (hb : b ∈ bs)
    (h : Near tol (g b) p) : Near tol (bs.flatMap g) p := by
  obtain ⟨c, hc, r⟩ := h; exact ⟨c, List.mem_flatMap.2 ⟨b, hb, hc⟩, r⟩

/-- **EVERY INPUT POINT LIES WITHIN `max_error` OF THE RETURNED CHAIN** - the first clause of the property, for the generated
    `fit_curve_cubic` with nothing left as a parameter, in exact arithmetic: for every list of 2-D points in which no three
    consecutive points coincide, every contiguous slice with at least two points, every tangents and every tolerance (the body
    clamps it at 0), each point of the slice is within the tolerance of one of the returned curves AT A PARAMETER IN [0,1] - the
    distance is the code's own `sqrt(offset·offset)` for any monotone square root.  This is what the acceptance test, the
    re-parameterisation clamp (repair F10), the interior split and the recursion give together; how FEW curves are needed (the
    quality of the least-squares step) is not part of it. -/
theorem generated_fit_near (hs : SqrtOK K) (hmono : ∀ a b : K, a ≤ b → (fsqrt a : K) ≤ fsqrt b)
    (all : List (V2 K)) (hnr : NoTripleRun all) (e : K) :
    ∀ (fuel : Nat) (points : List (V2 K)) (st et : V2 K), points <:+: all → 2 ≤ points.length → points.length ≤ fuel →
      ∀ p ∈ points, Near (clampTol e) (Model.FitKernel.fitCubicGen fuel points st et e) p := by
  intro fuel points st et hin h2 hf
  have htol : 0 ≤ clampTol e := clampTol_nonneg e
  rw [fitCubicGen_eq_cubicKnot]
  refine cubicKnot_induct ChordInv (fun ps cs => ∀ p ∈ ps, Near (clampTol e) cs p)
    chords_for_points generate_bezier reparameterize max_error_for_curve tangent_between (fun p => p * (-(1.0 : K))) (fit_line (K := K))
    all (clampTol e)
    (fun ps s t hps h3 => chordInv_first hs ps s t (noTriple_infix all ps hnr hps) h3)
    (fun ps ch s t _ h3 hI => chordInv_step ps ch s t (by omega) hI)
    (fun ps ch s t _ h3 hI hrej => generated_split hs ps ch s t (clampTol e) htol h3 hI hrej)
    ?_ ?_ ?_ fuel points st et e rfl hin h2 hf
  · -- two points: the line through them, met at u = 0 and u = 1
    intro ps _ hlen p hp
    match ps, hlen, hp with
    | [a, b], _, hp =>
      obtain ⟨c, hc, hs0, he'⟩ := fit_line_contract (K := K) a b
      rw [show listGet [a, b] 0 = a from rfl, show listGet [a, b] 1 = b from rfl, hc]
      rcases List.mem_pair.1 hp with rfl | rfl
      · refine ⟨c, List.mem_singleton_self c, 0, le_refl 0, zero_le_one, ?_⟩
        rw [point_at_zero, hs0, dot_sub_self, hs.2.1]; exact htol
      · refine ⟨c, List.mem_singleton_self c, 1, zero_le_one, le_refl 1, ?_⟩
        rw [point_at_one, he', dot_sub_self, hs.2.1]; exact htol
  · -- one curve, accepted: the error measured at each point's parameter is within the tolerance, and the parameter is in [0,1]
    intro ps chords s t _ _ hIc hacc p hp
    rw [max_error_for_curve_eq] at hacc
    have hall := C08Error.accepted_within_error hmono _ _ _ _ (ps.zip chords) (clampTol e) hacc
    obtain ⟨i, hi, rfl⟩ := List.mem_iff_getElem.1 hp
    have hic : i < chords.length := by rw [hIc.1]; exact hi
    have hu := hIc.2.2.2 chords[i] (List.getElem_mem hic)
    exact ⟨_, List.mem_singleton_self _, chords[i], hu.1, hu.2,
      hall (ps[i], chords[i]) (List.mem_iff_getElem.2 ⟨i, by rw [List.length_zip]; omega, List.getElem_zip⟩)⟩
  · -- split at an interior point: the point is in one of the halves
    intro ps sp xs ys _ _ _ hx hy p hp
    rcases mem_slices ps sp p hp with hm | hm
    · exact (hx p hm).append_left
    · exact (hy p hm).append_right

/-- `generated_fit_near` for a call with an already clamped tolerance -/
theorem generated_fit_within_error (hs : SqrtOK K) (hmono : ∀ a b : K, a ≤ b → (fsqrt a : K) ≤ fsqrt b)
    (all : List (V2 K)) (hnr : NoTripleRun all) (e : K) :
    ∀ (fuel : Nat) (points : List (V2 K)) (st et : V2 K), points <:+: all → 2 ≤ points.length → points.length ≤ fuel →
      ∀ p ∈ points, Near (clampTol e) (Model.FitKernel.fitCubicGen fuel points st et (clampTol e)) p := by
  intro fuel points st et hin h2 hf
  have h := generated_fit_near hs hmono all hnr (clampTol e) fuel points st et hin h2 hf
  rwa [clampTol_idem] at h

/-! ### `fit_curve` itself (the block loop around the generated fitter) -/

/-- the body only looks at the clamped tolerance, so the fitter called with `e` is the fitter called with `clampTol e` -/
theorem fitCubicGen_clamp (n : Nat) (ps : List (V2 K)) (st et : V2 K) (e : K) :
    Model.FitKernel.fitCubicGen (n + 1) ps st et e = Model.FitKernel.fitCubicGen (n + 1) ps st et (clampTol e) := by
  simp only [Model.FitKernel.fitCubicGen]
  rw [body_eq, body_eq, clampTol_idem]

/-- **`fit_curve` RETURNS A CONNECTED CHAIN WITHIN THE ERROR BOUND** - the statement of the property for the public function, in
    exact arithmetic, with every line of fit.rs generated: for every list of at least two 2-D points in which no three consecutive
    points coincide (isolated repeated points are allowed) and every `max_error` (negative ones count as 0), `fit_curve` returns
    `Some` chain of curves (`fit_curve_none_iff`: `None` exactly for fewer than two points) whose first curve starts at the first
    point, whose last curve ends at the last point, in which each curve starts where the previous one ends, and EVERY INPUT POINT is
    within `max_error` of one of the curves at a parameter in [0,1].  Blocks of at most 200 points share their boundary point (repair
    F3), each block is fitted by the generated recursive fitter, whose depth is never used up. -/
theorem generated_fit_curve_spec (hs : SqrtOK K) (hmono : ∀ a b : K, a ≤ b → (fsqrt a : K) ≤ fsqrt b)
    (points : List (V2 K)) (hnr : NoTripleRun points) (e : K) (h2 : 2 ≤ points.length) :
    ∃ cs, Model.FitKernel.fitCurveGen points e = some cs ∧
      FitsChain (fun c : Cub K => c.t0) (fun c : Cub K => c.t3) points cs ∧
      ∀ p ∈ points, Near (clampTol e) cs p := by
  refine ⟨_, fit_curve_blocks _ fit_start_tangent fit_end_tangent points e h2,
    blocks_flatMap_chain _ _ points _ (fun _ hb => generated_fit_chain hs points hnr _ _ _ _ e (listSlice_infix _ _ _) hb (Nat.le_succ _)) h2,
    fun p hp => ?_⟩
  -- every point lies in a block, and is near that block's fit
  obtain ⟨b, hb, hb2, hmem⟩ := mem_block_slice points h2 p hp
  refine .flatMap hb ?_
  exact generated_fit_near hs hmono points hnr e _ _ _ _ (listSlice_infix _ _ _) hb2 (Nat.le_succ _) p hmem

end kernel

/-! ### non-vacuity: the hypotheses are met over ℝ with the real square root -/
section real
noncomputable local instance : FSqrt ℝ := ⟨Real.sqrt⟩
noncomputable local instance : FConsts ℝ := ⟨0, 0, 0, 0, 1 / 4503599627370496⟩
noncomputable local instance : FSignum ℝ := ⟨fun x => if x < 0 then -1 else 1⟩
local instance : FAbs ℝ := ⟨fun a => |a|⟩
local instance : OfInt ℝ := ⟨fun n => (n : ℝ)⟩

/-- `Real.sqrt` meets `SqrtOK` and is monotone -/
theorem sqrtOK_real : SqrtOK ℝ := ⟨Real.sqrt_nonneg, Real.sqrt_zero, fun _ hx => Real.sqrt_pos.2 hx⟩
theorem sqrt_mono_real : ∀ a b : ℝ, a ≤ b → (fsqrt a : ℝ) ≤ fsqrt b := fun _ _ h => Real.sqrt_le_sqrt h

/-- a concrete list without repeated consecutive points -/
example : NoRepeat ([⟨0, 0⟩, ⟨1, 2⟩, ⟨3, 3⟩, ⟨5, 1⟩] : List (V2 ℝ)) := by
  intro i hi
  have : i = 0 ∨ i = 1 ∨ i = 2 := by simp at hi; omega
  rcases this with rfl | rfl | rfl <;> simp [listGet]

/-- so over ℝ the theorems apply to every such list: every point of (0,0),(1,2),(3,3),(5,1) is within 0.1 of what the generated
    `fit_curve_cubic` returns for it, whatever the tangents -/
example (st et : V2 ℝ) (hnr : NoRepeat ([⟨0, 0⟩, ⟨1, 2⟩, ⟨3, 3⟩, ⟨5, 1⟩] : List (V2 ℝ))) :
    ∀ p ∈ ([⟨0, 0⟩, ⟨1, 2⟩, ⟨3, 3⟩, ⟨5, 1⟩] : List (V2 ℝ)),
      Near (clampTol (0.1 : ℝ)) (Model.FitKernel.fitCubicGen 4 [⟨0, 0⟩, ⟨1, 2⟩, ⟨3, 3⟩, ⟨5, 1⟩] st et (clampTol (0.1 : ℝ))) p :=
  generated_fit_within_error sqrtOK_real sqrt_mono_real _ hnr.noTripleRun (0.1 : ℝ) 4 _ st et List.infix_rfl (by simp) (by simp)

/-- and `fit_curve` of the same four points: a connected chain from (0,0) to (5,1) with every point within 0.1 of it -/
example (hnr : NoRepeat ([⟨0, 0⟩, ⟨1, 2⟩, ⟨3, 3⟩, ⟨5, 1⟩] : List (V2 ℝ))) :
    ∃ cs, Model.FitKernel.fitCurveGen ([⟨0, 0⟩, ⟨1, 2⟩, ⟨3, 3⟩, ⟨5, 1⟩] : List (V2 ℝ)) (0.1 : ℝ) = some cs ∧
      FitsChain (fun c : Cub ℝ => c.t0) (fun c : Cub ℝ => c.t3) [⟨0, 0⟩, ⟨1, 2⟩, ⟨3, 3⟩, ⟨5, 1⟩] cs ∧
      ∀ p ∈ ([⟨0, 0⟩, ⟨1, 2⟩, ⟨3, 3⟩, ⟨5, 1⟩] : List (V2 ℝ)), Near (clampTol (0.1 : ℝ)) cs p :=
  generated_fit_curve_spec sqrtOK_real sqrt_mono_real _ hnr.noTripleRun (0.1 : ℝ) (by simp)

/-- a list WITH a repeated point meets the hypothesis of the theorems -/
example : NoTripleRun ([⟨0, 0⟩, ⟨1, 2⟩, ⟨1, 2⟩, ⟨3, 3⟩, ⟨3, 3⟩, ⟨5, 1⟩] : List (V2 ℝ)) := by
  intro i hi
  have : i = 0 ∨ i = 1 ∨ i = 2 ∨ i = 3 := by simp at hi; omega
  rcases this with rfl | rfl | rfl | rfl <;> simp [listGet]

end real
end C08Kernel
