/-
C09 (flat leaves after repair 914de05)  What `find_x_intercept` returns lies in its section.

`Gen.find_x_intercept` and `Gen.find_x_intercept_bisection` are regenerated from find_roots.rs on every check.  Before the repair the
Newton-Raphson result was returned whatever it was, and for a monotone but curved section it could be a root of ANOTHER section (the
section's own root was lost: `nearest_t` returned an end point 16 units away).  The repaired code keeps the Newton result only when
it lies in the section and bisects otherwise.  Proved here, for every section and over any ordered field: the invariant of the
generated bisection loop; that the value `find_x_intercept` returns is in [0,1] WHATEVER Newton-Raphson returned; hence that the root
reported for a flat section lies in the section's parameter range; and over ℝ that the bisection result is within `2^-65` (section
units) of a zero of the section's polynomial.
-/
import FloVerif.Lemmas.NearestRoots
import Mathlib.Topology.Algebra.Polynomial
import Mathlib.Topology.Order.IntermediateValue

set_option linter.unusedSectionVars false
namespace C09Leaf
open Prelude Gen Model.Nearest C09L

variable {K : Type} [Field K] [LinearOrder K] [IsStrictOrderedRing K] [Inhabited K]
attribute [local instance] C09L.fabsNearestRoots
variable [FSqrt K] [FSignum K] [OfInt K]

/-- one iteration of the bisection, as the generated loop body computes it -/
def bisectStep (cls : K → Bool) (s : Bool) (st : T2 K K) : T2 K K :=
  if cls ((st.t0 + st.t1) * (0.5 : K)) == s then T2.mk ((st.t0 + st.t1) * (0.5 : K)) st.t1
  else T2.mk st.t0 ((st.t0 + st.t1) * (0.5 : K))

theorem bisectStep_spec (cls : K → Bool) (s : Bool) {lo hi : K} (h : lo ≤ hi) (hc : cls lo = s) :
    lo ≤ (bisectStep cls s ⟨lo, hi⟩).t0 ∧ (bisectStep cls s ⟨lo, hi⟩).t0 ≤ (bisectStep cls s ⟨lo, hi⟩).t1 ∧
    (bisectStep cls s ⟨lo, hi⟩).t1 ≤ hi ∧
    (bisectStep cls s ⟨lo, hi⟩).t1 - (bisectStep cls s ⟨lo, hi⟩).t0 = (hi - lo) / 2 ∧
    cls (bisectStep cls s ⟨lo, hi⟩).t0 = s ∧ (cls hi ≠ s → cls (bisectStep cls s ⟨lo, hi⟩).t1 ≠ s) := by
  have hw1 : (lo + hi) * (0.5 : K) - lo = (hi - lo) / 2 := by rw [lit05]; ring
  have hw2 : hi - (lo + hi) * (0.5 : K) = (hi - lo) / 2 := by rw [lit05]; ring
  have hnn : 0 ≤ (hi - lo) / 2 := div_nonneg (sub_nonneg.2 h) zero_le_two
  have hm1 : lo ≤ (lo + hi) * (0.5 : K) := sub_nonneg.1 (hnn.trans hw1.ge)
  have hm2 : (lo + hi) * (0.5 : K) ≤ hi := sub_nonneg.1 (hnn.trans hw2.ge)
  unfold bisectStep
  by_cases hcl : cls ((lo + hi) * (0.5 : K)) = s
  · rw [if_pos (beq_iff_eq.2 hcl)]
    exact ⟨hm1, hm2, le_rfl, hw2, hcl, id⟩
  · rw [if_neg (mt beq_iff_eq.1 hcl)]
    exact ⟨le_rfl, hm1, hm2, hw1, hc, fun _ => hcl⟩

/-- INVARIANT OF THE BISECTION LOOP, for any classifier `cls`, any number of iterations and any start interval: the interval stays
    inside the start interval, its width is halved by every iteration, the class at `low` stays the start class `s`, and the class
    at `high` stays different from `s` if it was at the start -/
theorem bisect_fold (cls : K → Bool) (s : Bool) :
    ∀ (l : List Nat) (lo hi : K), lo ≤ hi → cls lo = s →
      let r := foldlT l (T2.mk lo hi) (fun st _ => bisectStep cls s st)
      lo ≤ r.t0 ∧ r.t0 ≤ r.t1 ∧ r.t1 ≤ hi ∧ r.t1 - r.t0 = (hi - lo) / 2 ^ l.length ∧ cls r.t0 = s ∧ (cls hi ≠ s → cls r.t1 ≠ s)
  | [], lo, hi, h, hc => ⟨le_rfl, h, le_rfl, by simp [foldlT], hc, id⟩
  | x :: xs, lo, hi, h, hc => by
    obtain ⟨s1, s2, s3, s4, s5, s6⟩ := bisectStep_spec cls s h hc
    obtain ⟨i1, i2, i3, i4, i5, i6⟩ := bisect_fold cls s xs _ _ s2 s5
    exact ⟨s1.trans i1, i2, i3.trans s3, i4.trans (by rw [s4, List.length_cons, pow_succ', div_div]), i5, fun hne => i6 (s6 hne)⟩

/-- the sign class the bisection works with: "the polynomial is negative at t" -/
def negAt (points : List K) (t : K) : Bool := decide (de_casteljau_n t points < (0.0 : K))

/-- the generated `find_x_intercept_bisection` IS 64 iterations of `bisectStep` from (0, 1), followed by the mid point -/
theorem find_x_intercept_bisection_eq (points : List K) :
    find_x_intercept_bisection points =
      ((foldlT (List.range' 0 64) (T2.mk (0 : K) 1) (fun st _ => bisectStep (negAt points) (decide (listGet points 0 < (0.0 : K))) st)).t0 +
       (foldlT (List.range' 0 64) (T2.mk (0 : K) 1) (fun st _ => bisectStep (negAt points) (decide (listGet points 0 < (0.0 : K))) st)).t1) * (0.5 : K) := by
  simp only [find_x_intercept_bisection, bisectStep, negAt, lit0, lit1, Nat.sub_zero]

/-- WHAT THE BISECTION RETURNS (six coefficients, any ordered field): the mid point of an interval `[lo, hi]` inside [0,1] of width
    exactly `2^-64`, the polynomial being in the start class (negative iff `c0 < 0`) at `lo` and - when the two ends of the section are
    in different classes, which is what "the control polygon crosses the axis once" gives - in the other class at `hi` -/
theorem find_x_intercept_bisection_spec (c0 c1 c2 c3 c4 c5 : K) :
    ∃ lo hi : K, find_x_intercept_bisection [c0, c1, c2, c3, c4, c5] = (lo + hi) / 2 ∧ 0 ≤ lo ∧ lo ≤ hi ∧ hi ≤ 1 ∧
      hi - lo = 1 / 2 ^ 64 ∧ (bern5 c0 c1 c2 c3 c4 c5 lo < 0 ↔ c0 < 0) ∧
      (¬ (c5 < 0 ↔ c0 < 0) → ¬ (bern5 c0 c1 c2 c3 c4 c5 hi < 0 ↔ c0 < 0)) := by
  have hneg : ∀ t, negAt [c0, c1, c2, c3, c4, c5] t = decide (bern5 c0 c1 c2 c3 c4 c5 t < 0) := fun t => by
    simp only [negAt, dcn6_bern5, lit0]
  have hs : decide (listGet [c0, c1, c2, c3, c4, c5] 0 < (0.0 : K)) = decide (c0 < 0) := by rw [lit0]; rfl
  obtain ⟨i1, i2, i3, i4, i5, i6⟩ := bisect_fold (negAt [c0, c1, c2, c3, c4, c5]) (decide (c0 < 0)) (List.range' 0 64) 0 1
    zero_le_one (by rw [hneg, bern5_at_zero])
  rw [find_x_intercept_bisection_eq, hs]
  generalize foldlT (List.range' 0 64) (T2.mk (0 : K) 1)
    (fun st _ => bisectStep (negAt [c0, c1, c2, c3, c4, c5]) (decide (c0 < 0)) st) = r at i1 i2 i3 i4 i5 i6 ⊢
  rw [hneg, decide_eq_decide] at i5
  simp only [hneg, bern5_at_one, ne_eq, decide_eq_decide] at i6
  exact ⟨r.t0, r.t1, by rw [lit05]; ring, i1, i2, i3, by rw [i4]; simp, i5, i6⟩

theorem find_x_intercept_bisection_in_unit (c0 c1 c2 c3 c4 c5 : K) :
    0 ≤ find_x_intercept_bisection [c0, c1, c2, c3, c4, c5] ∧ find_x_intercept_bisection [c0, c1, c2, c3, c4, c5] ≤ 1 := by
  obtain ⟨lo, hi, hr, h0, h1, h2, _⟩ := find_x_intercept_bisection_spec c0 c1 c2 c3 c4 c5
  rw [hr]
  exact ⟨div_nonneg (add_nonneg h0 (h0.trans h1)) zero_le_two,
    (div_le_one two_pos).2 ((add_le_add (h1.trans h2) h2).trans_eq one_add_one_eq_two)⟩

/-- `find_x_intercept` RETURNS A PARAMETER OF ITS SECTION, whatever the section and WHATEVER Newton-Raphson computed (repair
    914de05: the Newton result is kept only when it is in [0,1], otherwise the section is bisected) -/
theorem find_x_intercept_in_unit (q0 q1 q2 q3 q4 q5 : V2 K) :
    0 ≤ find_x_intercept 6 [q0, q1, q2, q3, q4, q5] ∧ find_x_intercept 6 [q0, q1, q2, q3, q4, q5] ≤ 1 := by
  simp only [find_x_intercept, lit0, lit1, List.map_cons, List.map_nil]
  split
  · rename_i h
    simp only [Bool.and_eq_true, decide_eq_true_eq, ge_iff_le] at h
    exact h
  · exact find_x_intercept_bisection_in_unit _ _ _ _ _ _

/-- the abscissae of a section are affine in the index, so the x-coordinate at the parameter `u` is `a + (b − a)·u` -/
theorem flatValue_mkSec (a b c0 c1 c2 c3 c4 c5 : K) : flatValue (mkSec (affX a b) [c0, c1, c2, c3, c4, c5]) =
    a + (b - a) * find_x_intercept 6 (mkSec (affX a b) [c0, c1, c2, c3, c4, c5]) := by
  simp only [flatValue, mkSec_affX, dcn6_mk, bern5]
  ring

/-- NO SECTION REPORTS A ROOT OF ANOTHER SECTION: the value `find_bezier_roots` pushes for a flat section over the parameter range
    [a,b] lies in [a,b] -/
theorem flatValue_in_section {p : K → K} {s : List (V2 K)} {a b : K} (h : IsSec p s a b) (hab : a ≤ b) :
    a ≤ flatValue s ∧ flatValue s ≤ b := by
  obtain ⟨c0, c1, c2, c3, c4, c5, rfl, _⟩ := h
  rw [flatValue_mkSec, mkSec_affX]
  obtain ⟨h0, h1⟩ := find_x_intercept_in_unit (K := K) ⟨a, c0⟩ ⟨a + (b - a) / 5, c1⟩ ⟨a + (b - a) * 2 / 5, c2⟩
    ⟨a + (b - a) * 3 / 5, c3⟩ ⟨a + (b - a) * 4 / 5, c4⟩ ⟨b, c5⟩
  exact affine_mem hab h0 h1

/-- EXACTLY ONE CROSSING OF THE CONTROL POLYGON PUTS THE TWO ENDS OF THE SECTION IN DIFFERENT SIGN CLASSES (so the ends bracket a
    root: what the bisection needs) -/
theorem one_crossing_ends_differ {q0 q1 q2 q3 q4 q5 : V2 K} (h : count_x_axis_crossings 6 [q0, q1, q2, q3, q4, q5] = 1) :
    ¬ (q5.y < 0 ↔ q0.y < 0) := by
  have hp : 1 % 2 = cross q0.y q5.y := h ▸ count_parity [q0, q1, q2, q3, q4, q5] 5
  rw [cross_eq] at hp
  exact fun n => by simp [n.symm] at hp

section Real
variable [FSqrt ℝ] [FSignum ℝ] [OfInt ℝ]

/-- THE BISECTION RESULT IS NEXT TO A ZERO (ℝ): when the two ends of the section are in different sign classes, the polynomial has a
    zero `x` in [0,1] within `2^-65` of the value `find_x_intercept_bisection` returns (intermediate value theorem on the final
    interval of width `2^-64`) -/
theorem bisection_near_zero (c0 c1 c2 c3 c4 c5 : ℝ) (hends : ¬ (c5 < 0 ↔ c0 < 0)) :
    ∃ x : ℝ, 0 ≤ x ∧ x ≤ 1 ∧ bern5 c0 c1 c2 c3 c4 c5 x = 0 ∧
      |find_x_intercept_bisection [c0, c1, c2, c3, c4, c5] - x| ≤ 1 / 2 ^ 65 := by
  obtain ⟨lo, hi, hr, h0, hlh, h1, hw, hlo, hhi⟩ := find_x_intercept_bisection_spec c0 c1 c2 c3 c4 c5
  have hhi := hhi hends
  have hc : ContinuousOn (fun t => bern5 c0 c1 c2 c3 c4 c5 t) (Set.Icc lo hi) :=
    (by unfold bern5; fun_prop : Continuous fun t => bern5 c0 c1 c2 c3 c4 c5 t).continuousOn
  have hx : ∃ x ∈ Set.Icc lo hi, bern5 c0 c1 c2 c3 c4 c5 x = 0 := by
    by_cases hneg : c0 < 0
    · have a1 : bern5 c0 c1 c2 c3 c4 c5 lo < 0 := hlo.2 hneg
      have a2 : 0 ≤ bern5 c0 c1 c2 c3 c4 c5 hi := by
        by_contra hcon; exact hhi ⟨fun _ => hneg, fun _ => not_le.1 hcon⟩
      exact intermediate_value_Icc hlh hc ⟨a1.le, a2⟩
    · have a1 : 0 ≤ bern5 c0 c1 c2 c3 c4 c5 lo := by
        by_contra hcon; exact hneg (hlo.1 (not_le.1 hcon))
      have a2 : bern5 c0 c1 c2 c3 c4 c5 hi < 0 := by
        by_contra hcon; exact hhi ⟨fun h => absurd h hcon, fun h => absurd h hneg⟩
      exact intermediate_value_Icc' hlh hc ⟨a2.le, a1⟩
  obtain ⟨x, ⟨hx1, hx2⟩, hz⟩ := hx
  refine ⟨x, le_trans h0 hx1, le_trans hx2 h1, hz, ?_⟩
  rw [hr, abs_le]
  have : (1 : ℝ) / 2 ^ 65 = (1 / 2 ^ 64) / 2 := by rw [pow_succ, div_div]
  rw [this, ← hw]
  constructor <;> linarith

/-- A FLAT SECTION THAT WAS BISECTED REPORTS A VALUE NEXT TO ONE OF ITS OWN ZEROS (ℝ): for a section of the polynomial `p` over [a,b]
    whose control polygon crosses the axis exactly once, if Newton-Raphson's answer was not a parameter of the section (so the
    generated `find_x_intercept` took its bisection branch), then `p` has a zero `x` in [a,b] with
    `|reported value - x| ≤ (b - a) / 2^65` -/
theorem bisected_leaf_near_zero {p : ℝ → ℝ} {s : List (V2 ℝ)} {a b : ℝ} (h : IsSec p s a b) (hab : a ≤ b)
    (hone : count_x_axis_crossings 6 s = 1)
    (hbis : find_x_intercept 6 s = find_x_intercept_bisection (s.map (fun q => q.y))) :
    ∃ x : ℝ, a ≤ x ∧ x ≤ b ∧ p x = 0 ∧ |flatValue s - x| ≤ (b - a) / 2 ^ 65 := by
  obtain ⟨c0, c1, c2, c3, c4, c5, hs, hp⟩ := h
  subst hs
  rw [mkSec_affX] at hone hbis
  have hends := one_crossing_ends_differ hone
  simp only at hends
  obtain ⟨u, hu0, hu1, hz, hd⟩ := bisection_near_zero c0 c1 c2 c3 c4 c5 hends
  have hba := sub_nonneg.2 hab
  refine ⟨a + (b - a) * u, (affine_mem hab hu0 hu1).1, (affine_mem hab hu0 hu1).2, by rw [← hp, hz], ?_⟩
  rw [flatValue_mkSec, mkSec_affX, hbis]
  simp only [List.map_cons, List.map_nil]
  have : a + (b - a) * find_x_intercept_bisection [c0, c1, c2, c3, c4, c5] - (a + (b - a) * u) =
      (b - a) * (find_x_intercept_bisection [c0, c1, c2, c3, c4, c5] - u) := by ring
  rw [this, abs_mul, abs_of_nonneg hba]
  calc (b - a) * |find_x_intercept_bisection [c0, c1, c2, c3, c4, c5] - u| ≤ (b - a) * (1 / 2 ^ 65) :=
        mul_le_mul_of_nonneg_left hd hba
    _ = (b - a) / 2 ^ 65 := by ring

end Real

local instance instSqrtQ : FSqrt ℚ := ⟨id⟩
local instance instSignumQ : FSignum ℚ := ⟨fun x => if x < 0 then -1 else 1⟩
local instance instOfIntQ : OfInt ℚ := ⟨fun z => (z : ℚ)⟩

/-- non-vacuity: the bisection of the section with coefficients -1, -1, -1, 1, 1, 1 (one crossing) returns a parameter in [0,1] -/
example : 0 ≤ find_x_intercept_bisection ([-1, -1, -1, 1, 1, 1] : List ℚ) ∧ find_x_intercept_bisection ([-1, -1, -1, 1, 1, 1] : List ℚ) ≤ 1 :=
  find_x_intercept_bisection_in_unit _ _ _ _ _ _

end C09Leaf
