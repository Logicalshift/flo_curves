/-
C15  Walking a curve tiles the parameter range.

`Gen.walk_curve_evenly`, `Gen.even_walk_next` (the whole `EvenWalkIterator::next`, inner loop included) and
`Gen.uneven_walk_next` are regenerated from walk.rs on every check.  The tiling theorems hold whatever the
step controller inside the loop computes.  `C15Vary.tiling_of_step` stands first: `C15.even_tiling` is its instance.
-/
import FloVerif.Lemmas.Walk
import FloVerif.Lemmas.Lit
import Mathlib.Tactic.Ring
import Mathlib.Tactic.NormNum.OfScientific
import Mathlib.Tactic.FieldSimp
import Mathlib.Tactic.Linarith
import Mathlib.Algebra.Order.Field.Basic
import Mathlib.Data.List.Chain

set_option linter.unusedSectionVars false
namespace C15Vary
open Prelude Gen
variable {K : Type} [Field K] [LinearOrder K] [IsStrictOrderedRing K] [Inhabited K] [FSqrt K]

/-- the sections a step function yields in at most `fuel` steps, and whether it returned `None` -/
def runFrom {σ : Type} (step : σ → T2 (Option (T2 K K)) σ) : Nat → σ → List (T2 K K) × Bool
  | 0, _ => ([], false)
  | f + 1, s =>
    match (step s).t0 with
    | none => ([], true)
    | some sec => let rest := runFrom step f (step s).t1
      (sec :: rest.1, rest.2)

/-- ANY ITERATOR WHOSE STEPS BEHAVE LIKE `EvenWalkIterator::next` (`hstep`) TILES -/
theorem tiling_of_step {σ : Type} (pos : σ → K) (step : σ → T2 (Option (T2 K K)) σ)
    (hstep : ∀ s, ((step s).t0 = none ↔ pos s ≥ 1) ∧
      (∀ sec, (step s).t0 = some sec → sec.t0 = pos s ∧ sec.t1 ≤ 1 ∧ pos (step s).t1 = sec.t1)) :
    ∀ (fuel : Nat) (s : σ),
      let run := runFrom step fuel s
      (∀ x, run.1.head? = some x → x.t0 = pos s) ∧
      run.1.IsChain (fun a b => a.t1 = b.t0) ∧
      (∀ x ∈ run.1, x.t1 ≤ 1) ∧
      (run.2 = true → (∀ x, run.1.getLast? = some x → x.t1 = 1) ∧ (run.1 = [] → pos s ≥ 1))
  | 0, s => ⟨nofun, List.isChain_nil, nofun, nofun⟩
  | f + 1, s => by
    obtain ⟨hnone, hsome⟩ := hstep s
    simp only [runFrom]
    cases hr : (step s).t0 with
    | none => exact ⟨nofun, List.isChain_nil, nofun, fun _ => ⟨nofun, fun _ => hnone.1 hr⟩⟩
    | some sec =>
      obtain ⟨h0, h1, hst⟩ := hsome sec hr
      obtain ⟨ihead, ichain, ile, ifin⟩ := tiling_of_step pos step hstep f (step s).t1
      rw [hst] at ihead ifin
      refine ⟨?_, List.isChain_cons.2 ⟨fun y hy => (ihead y hy).symm, ichain⟩, List.forall_mem_cons.2 ⟨h1, ile⟩,
        fun hfin => ⟨fun x hx => ?_, nofun⟩⟩
      · rintro _ ⟨⟩
        exact h0
      · -- the last section is `sec` itself exactly when the rest is empty, and then the walk stood at `sec.t1 ≥ 1`
        obtain ⟨ilast, iempty⟩ := ifin hfin
        cases hl : (runFrom step f (step s).t1).1 with
        | nil =>
          rw [hl] at hx
          cases hx
          exact le_antisymm h1 (iempty hl)
        | cons y ys =>
          rw [hl, List.getLast?_cons_cons] at hx
          exact ilast x (hl ▸ hx)

end C15Vary

namespace C15
open Prelude Gen

variable {K : Type} [Field K] [LinearOrder K] [IsStrictOrderedRing K] [Inhabited K] [FSqrt K]

local instance instFAbs : FAbs K := ⟨fun a => |a|⟩
/-- `n as f64` -/
local instance instOfInt : OfInt K := ⟨fun z => (z : K)⟩

theorem uneven_next_spec (n k : Nat) :
    uneven_walk_next (K := K) n k =
      if k ≥ n then T2.mk none k else T2.mk (some (T2.mk ((k : K) / (n : K)) (((k + 1 : Nat) : K) / (n : K)))) (k + 1) := by
  simp only [uneven_walk_next, ofInt, decide_eq_true_eq]
  split <;> simp

/-- all sections of `walk_curve_unevenly(curve, n)` by running the generated iterator from `k` -/
def unevenFrom (n : Nat) : Nat → Nat → List (T2 K K)
  | 0, _ => []
  | f + 1, k => match (uneven_walk_next (K := K) n k).t0 with
    | none => []
    | some s => s :: unevenFrom n f (uneven_walk_next (K := K) n k).t1

theorem unevenFrom_eq (n : Nat) : ∀ (f k : Nat), k + f = n →
    unevenFrom (K := K) n f k = (List.range' k f).map (fun (j : Nat) => T2.mk ((j : K) / (n : K)) (((j + 1 : Nat) : K) / (n : K)))
  | 0, k, _ => by simp [unevenFrom]
  | f + 1, k, h => by
    have hk : ¬ k ≥ n := by omega
    simp only [unevenFrom, uneven_next_spec, if_neg hk, List.range'_succ, List.map_cons]
    rw [unevenFrom_eq n f (k + 1) (by omega)]

/-- UNEVEN WALK: exactly `n` sections, the k-th is `[k/n, (k+1)/n]`; they tile `[0,1]` exactly: the first starts at 0,
    each starts where the previous ended, the last ends at exactly 1, and all have equal parameter width 1/n -/
theorem uneven_tiling (n : Nat) (hn : 0 < n) :
    let secs := unevenFrom (K := K) n n 0
    secs.length = n ∧
    (∀ k (hk : k < secs.length), secs[k] = T2.mk ((k : K) / (n : K)) (((k + 1 : Nat) : K) / (n : K))) ∧
    (∀ s, secs.head? = some s → s.t0 = 0) ∧
    (∀ s, secs.getLast? = some s → s.t1 = 1) ∧
    (∀ s ∈ secs, s.t1 - s.t0 = 1 / (n : K)) := by
  have hnK : (n : K) ≠ 0 := Nat.cast_ne_zero.2 hn.ne'
  simp only
  rw [unevenFrom_eq (K := K) n n 0 (zero_add n)]
  refine ⟨by simp, fun k hk => by simp [List.getElem_range'], ?_, ?_, ?_⟩
  · simp only [List.head?_map, List.head?_range', if_neg hn.ne', Option.map_some, Option.some.injEq]
    rintro _ rfl
    simp
  · simp only [List.getLast?_map, List.getLast?_range', if_neg hn.ne', Option.map_some, Option.some.injEq, zero_add]
    rintro _ rfl
    rw [Nat.sub_add_cancel hn]
    exact div_self hnK
  · simp only [List.mem_map, List.mem_range'_1]
    rintro _ ⟨j, _, rfl⟩
    simp only [Nat.cast_add, Nat.cast_one, ← sub_div, add_sub_cancel_left]

local instance : FSqrt ℚ := ⟨id⟩

example : unevenFrom (K := ℚ) 3 3 0 = [T2.mk 0 (1/3), T2.mk (1/3) (2/3), T2.mk (2/3) 1] := by
  rw [unevenFrom_eq 3 3 0 rfl]; norm_num [List.range'_succ]

theorem clamp_pos (x : K) : (0 : K) < if decide (x < (1e-10 : K)) = true then (1e-10 : K) else x := by
  have hp : (0 : K) < 1e-10 := by norm_num
  split
  · exact hp
  · next h => exact hp.trans_le (not_lt.1 fun hlt => h (decide_eq_true hlt))

/-- the iterator starts at parameter 0 with a positive target distance and tolerance -/
theorem even_start (w1 w2 w3 w4 : V2 K) (distance max_error : K) :
    (walk_curve_evenly w1 w2 w3 w4 distance max_error).last_t = 0 ∧
    (walk_curve_evenly w1 w2 w3 w4 distance max_error).last_point = w1 ∧
    0 < (walk_curve_evenly w1 w2 w3 w4 distance max_error).distance ∧
    0 < (walk_curve_evenly w1 w2 w3 w4 distance max_error).max_error := by
  simp only [walk_curve_evenly]
  exact ⟨by norm_num, trivial, clamp_pos _, clamp_pos _⟩

/-- EVEN WALK, one step, for ANY curve, state and whatever the step controller computes: `None` is returned exactly when
    the walk has reached parameter 1 (and then nothing changes); a returned section starts where the walk stood, ends at
    or before 1, and the walk then stands exactly at the section's end -/
theorem even_next_tiles (w1 w2 w3 w4 : V2 K) (d : T3 (V2 K) (V2 K) (V2 K)) (dist err lastT : K) (lastP : V2 K) (lastInc : K) :
    let r := even_walk_next w1 w2 w3 w4 d dist err lastT lastP lastInc
    (r.t0 = none ↔ lastT ≥ 1) ∧
    (r.t0 = none → r.t1.t0 = lastT) ∧
    (∀ sec, r.t0 = some sec → sec.t0 = lastT ∧ sec.t1 ≤ 1 ∧ r.t1.t0 = sec.t1) := by
  simp only [Walk.even_walk_next_eq, Walk.even_walk_next_fuel_eq, lit1]
  split_ifs with hd hl <;> dsimp only
  · exact ⟨⟨fun _ => hd, fun _ => rfl⟩, fun _ => rfl, nofun⟩
  · refine ⟨⟨nofun, fun h => absurd h hd⟩, nofun, ?_⟩
    rintro _ ⟨⟩
    exact ⟨rfl, le_rfl, rfl⟩
  · refine ⟨⟨nofun, fun h => absurd h hd⟩, nofun, ?_⟩
    rintro _ ⟨⟩
    exact ⟨rfl, not_lt.1 fun h => hl (.inr h), rfl⟩

/-- the sections produced by running the generated iterator for at most `fuel` steps, and whether it finished (`None`) -/
def evenFrom (w1 w2 w3 w4 : V2 K) (d : T3 (V2 K) (V2 K) (V2 K)) (dist err : K) :
    Nat → K → V2 K → K → List (T2 K K) × Bool
  | 0, _, _, _ => ([], false)
  | f + 1, lastT, lastP, lastInc =>
    let r := even_walk_next w1 w2 w3 w4 d dist err lastT lastP lastInc
    match r.t0 with
    | none => ([], true)
    | some sec => let rest := evenFrom w1 w2 w3 w4 d dist err f r.t1.t0 r.t1.t1 r.t1.t2
      (sec :: rest.1, rest.2)

/-- `evenFrom` passes the state (position, point, increment) as three arguments, `runFrom` as one value -/
theorem evenFrom_eq_runFrom (w1 w2 w3 w4 : V2 K) (d : T3 (V2 K) (V2 K) (V2 K)) (dist err : K) :
    ∀ (fuel : Nat) (lastT : K) (lastP : V2 K) (lastInc : K),
      evenFrom w1 w2 w3 w4 d dist err fuel lastT lastP lastInc =
        C15Vary.runFrom (fun s => even_walk_next w1 w2 w3 w4 d dist err s.t0 s.t1 s.t2) fuel (T3.mk lastT lastP lastInc)
  | 0, _, _, _ => rfl
  | f + 1, lastT, lastP, lastInc => by
    simp only [evenFrom, C15Vary.runFrom]
    cases (even_walk_next w1 w2 w3 w4 d dist err lastT lastP lastInc).t0 with
    | none => rfl
    | some sec => simp only [evenFrom_eq_runFrom w1 w2 w3 w4 d dist err f]

/-- EVEN WALK TILES: from any state, for any curve, distance and tolerance: the first section starts where the walk
    stands, each section starts exactly where the previous one ended, no section ends after 1, and if the iterator
    finishes (returns `None`) the last section ends at exactly 1 (or the walk already stood at ≥ 1 and yields nothing) -/
theorem even_tiling (w1 w2 w3 w4 : V2 K) (d : T3 (V2 K) (V2 K) (V2 K)) (dist err : K) :
    ∀ (fuel : Nat) (lastT : K) (lastP : V2 K) (lastInc : K),
      let run := evenFrom w1 w2 w3 w4 d dist err fuel lastT lastP lastInc
      (∀ s, run.1.head? = some s → s.t0 = lastT) ∧
      run.1.IsChain (fun a b => a.t1 = b.t0) ∧
      (∀ s ∈ run.1, s.t1 ≤ 1) ∧
      (run.2 = true → (∀ s, run.1.getLast? = some s → s.t1 = 1) ∧ (run.1 = [] → lastT ≥ 1))
  | fuel, lastT, lastP, lastInc => by
    rw [evenFrom_eq_runFrom]
    exact C15Vary.tiling_of_step (fun s => s.t0) _
      (fun s => ⟨(even_next_tiles w1 w2 w3 w4 d dist err s.t0 s.t1 s.t2).1, (even_next_tiles w1 w2 w3 w4 d dist err s.t0 s.t1 s.t2).2.2⟩)
      fuel (T3.mk lastT lastP lastInc)

end C15
