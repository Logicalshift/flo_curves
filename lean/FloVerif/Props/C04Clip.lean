/-
C04 (line_clip_to_bounds)  The clipped line is the maximal sub-segment inside the box.

`Model.Clip.lineClipToBounds` is the hand model of `line_clip_to_bounds` (src/line/intersection.rs, Liang-Barsky: the loop
over the four edges with its early `return None` as a fold); `generated_eq_model` proves the generated function equal to it.
For every line and box over any ordered field, with `P(t) = p + t (q - p)`:

* `clip_some_spec`: a returned segment is `(P(t1), P(t2))` with `0 ≤ t1 ≤ t2 ≤ 1`, and for every `t` in [0,1] the point `P(t)`
  lies in the box exactly when `t1 ≤ t ≤ t2`;
* `clip_none_spec`: if `None` is returned no `P(t)`, `0 ≤ t ≤ 1`, lies in the box.

The edge loop is handled by an invariant (`Means`), one step in `clipStep_means`.
-/
import FloVerif.Model.Clip
import FloVerif.Gen.Lines
import FloVerif.Lemmas.Basics
import Mathlib.Tactic.Ring
import Mathlib.Tactic.NormNum.OfScientific
import Mathlib.Tactic.FieldSimp
import Mathlib.Tactic.Linarith
import Mathlib.Algebra.Order.Field.Basic

set_option linter.unusedSectionVars false
namespace C04Clip
open Prelude Model.Clip

variable {K : Type} [Field K] [LinearOrder K] [IsStrictOrderedRing K]

/-- the constraints handled so far: `delta * t ≤ edge` for every pair -/
def Sat (cs : List (K × K)) (t : K) : Prop := ∀ c ∈ cs, c.1 * t ≤ c.2

/-- what a state of the edge loop means: `none` - no parameter in [0,1] satisfies the constraints seen so far; `some (t1, t2)` -
    `0 ≤ t1`, `t2 ≤ 1`, and the parameters in [0,1] that satisfy them are exactly those with `t1 ≤ t ≤ t2` -/
def Means (cs : List (K × K)) : Option (K × K) → Prop
  | none => ∀ t, 0 ≤ t → t ≤ 1 → ¬ Sat cs t
  | some (t1, t2) => 0 ≤ t1 ∧ t2 ≤ 1 ∧ ∀ t, (t1 ≤ t ∧ t ≤ t2) ↔ (0 ≤ t ∧ t ≤ 1 ∧ Sat cs t)

theorem sat_snoc (cs : List (K × K)) (c : K × K) (t : K) : Sat (cs ++ [c]) t ↔ Sat cs t ∧ c.1 * t ≤ c.2 := by
  simp only [Sat, List.mem_append, List.mem_singleton]
  constructor
  · intro h; exact ⟨fun x hx => h x (Or.inl hx), h c (Or.inr rfl)⟩
  · rintro ⟨h1, h2⟩ x (hx | rfl)
    · exact h1 x hx
    · exact h2

theorem clipStep_zero (t1 t2 e : K) : clipStep (some (t1, t2)) (0, e) = if e < 0 then none else some (t1, t2) := by
  simp only [clipStep, lit0, beq_self_eq_true, if_true]

theorem clipStep_neg (t1 t2 e : K) {d : K} (hd : d < 0) : clipStep (some (t1, t2)) (d, e) = some (max t1 (e / d), t2) := by
  simp only [clipStep, lit0, beq_iff_eq, hd.ne, if_false, hd, true_and]
  by_cases h : t1 < e / d
  · rw [if_pos h, max_eq_right h.le]
  · rw [if_neg h, if_neg (fun h' => lt_asymm hd h'.1), max_eq_left (not_lt.1 h)]

theorem clipStep_pos (t1 t2 e : K) {d : K} (hd : 0 < d) : clipStep (some (t1, t2)) (d, e) = some (t1, min t2 (e / d)) := by
  simp only [clipStep, lit0, beq_iff_eq, hd.ne', if_false, not_lt.2 hd.le, false_and, gt_iff_lt, hd, true_and]
  by_cases h : e / d < t2
  · rw [if_pos h, min_eq_right h.le]
  · rw [if_neg h, min_eq_left (not_lt.1 h)]

/-- ONE ITERATION OF THE EDGE LOOP keeps the meaning of the state -/
theorem clipStep_means (cs : List (K × K)) (st : Option (K × K)) (c : K × K) (h : Means cs st) :
    Means (cs ++ [c]) (clipStep st c) := by
  obtain ⟨d, e⟩ := c
  cases st with
  | none => exact fun t h0 h1 hs => h t h0 h1 ((sat_snoc cs _ t).1 hs).1
  | some s =>
    obtain ⟨t1, t2⟩ := s
    obtain ⟨h01, h21, hiff⟩ := h
    rcases lt_trichotomy d 0 with hneg | rfl | hpos
    · -- the constraint is `t ≥ e / d`
      rw [clipStep_neg t1 t2 e hneg]
      refine ⟨le_max_of_le_left h01, h21, fun t => ?_⟩
      rw [sat_snoc, max_le_iff, and_right_comm, hiff t, div_le_iff_of_neg hneg, mul_comm]
      simp only [and_assoc]
    · rw [clipStep_zero]
      by_cases he : e < 0
      · rw [if_pos he]
        intro t _ _ hs
        have := ((sat_snoc cs _ t).1 hs).2
        rw [zero_mul] at this
        exact not_le.2 he this
      · rw [if_neg he]
        refine ⟨h01, h21, fun t => ?_⟩
        rw [hiff t, sat_snoc, zero_mul, and_iff_left (not_lt.1 he)]
    · -- the constraint is `t ≤ e / d`
      rw [clipStep_pos t1 t2 e hpos]
      refine ⟨h01, le_trans (min_le_left _ _) h21, fun t => ?_⟩
      rw [sat_snoc, le_min_iff, ← and_assoc, hiff t, le_div_iff₀ hpos, mul_comm]
      simp only [and_assoc]

theorem foldl_means : ∀ (todo done : List (K × K)) (st : Option (K × K)), Means done st →
    Means (done ++ todo) (todo.foldl clipStep st)
  | [], done, st, h => by simpa using h
  | c :: cs, done, st, h => by
    have := foldl_means cs (done ++ [c]) (clipStep st c) (clipStep_means done st c h)
    simpa [List.append_assoc] using this

theorem loop_means (cs : List (K × K)) : Means cs (cs.foldl clipStep (some ((0 : K), (1 : K)))) := by
  have h0 : Means ([] : List (K × K)) (some ((0 : K), (1 : K))) := ⟨le_refl 0, le_refl 1, fun t => by simp [Sat]⟩
  simpa using foldl_means cs [] _ h0

/-- the point of the line at parameter `t` -/
def along (line : T2 (V2 K) (V2 K)) (t : K) : V2 K :=
  ⟨line.t0.x + t * (line.t1.x - line.t0.x), line.t0.y + t * (line.t1.y - line.t0.y)⟩

/-- the box spanned by the two corner points, whatever their order -/
def InBox (bounds : T2 (V2 K) (V2 K)) (p : V2 K) : Prop :=
  min bounds.t0.x bounds.t1.x ≤ p.x ∧ p.x ≤ max bounds.t0.x bounds.t1.x ∧
  min bounds.t0.y bounds.t1.y ≤ p.y ∧ p.y ≤ max bounds.t0.y bounds.t1.y

/-- the four constraints of the code say "the point at `t` is in the box" -/
theorem sat_iff_inBox (line bounds : T2 (V2 K) (V2 K)) (t : K) :
    Sat [(-(line.t1.x - line.t0.x), line.t0.x - min bounds.t0.x bounds.t1.x),
         (line.t1.x - line.t0.x, max bounds.t0.x bounds.t1.x - line.t0.x),
         (-(line.t1.y - line.t0.y), line.t0.y - min bounds.t0.y bounds.t1.y),
         (line.t1.y - line.t0.y, max bounds.t0.y bounds.t1.y - line.t0.y)] t ↔ InBox bounds (along line t) := by
  simp only [Sat, List.mem_cons, List.not_mem_nil, or_false, forall_eq_or_imp, forall_eq, InBox, along, neg_mul,
    le_sub_iff_add_le', ← sub_eq_add_neg, sub_le_iff_le_add, mul_comm t]

theorem clip_cases (line bounds : T2 (V2 K) (V2 K)) :
    (lineClipToBounds line bounds = none ∧ ∀ t, 0 ≤ t → t ≤ 1 → ¬ InBox bounds (along line t)) ∨
    ∃ t1 t2 : K, lineClipToBounds line bounds = some (T2.mk (along line t1) (along line t2)) ∧ 0 ≤ t1 ∧ t1 ≤ t2 ∧ t2 ≤ 1 ∧
      ∀ t, 0 ≤ t → t ≤ 1 → (InBox bounds (along line t) ↔ t1 ≤ t ∧ t ≤ t2) := by
  have hbox := sat_iff_inBox line bounds
  simp only [lineClipToBounds, fmin_eq_min, fmax_eq_max, lit0, lit1]
  generalize [(-(line.t1.x - line.t0.x), line.t0.x - min bounds.t0.x bounds.t1.x),
        (line.t1.x - line.t0.x, max bounds.t0.x bounds.t1.x - line.t0.x),
        (-(line.t1.y - line.t0.y), line.t0.y - min bounds.t0.y bounds.t1.y),
        (line.t1.y - line.t0.y, max bounds.t0.y bounds.t1.y - line.t0.y)] = cs at hbox ⊢
  have hm := loop_means cs
  generalize cs.foldl clipStep (some ((0 : K), (1 : K))) = st at hm ⊢
  cases st with
  | none => exact Or.inl ⟨rfl, fun t h0 h1 hin => hm t h0 h1 ((hbox t).2 hin)⟩
  | some s =>
    obtain ⟨t1, t2⟩ := s
    obtain ⟨h01, h21, hiff⟩ := hm
    simp only
    by_cases hc : t1 > t2 ∨ t1 > 1 ∨ t2 < 0
    · rw [if_pos hc]
      refine Or.inl ⟨rfl, fun t h0 h1 hin => ?_⟩
      obtain ⟨a, b⟩ := (hiff t).2 ⟨h0, h1, (hbox t).2 hin⟩
      rcases hc with hc | hc | hc
      · exact not_le.2 hc (le_trans a b)
      · exact not_le.2 hc (le_trans (le_trans a b) h21)
      · exact not_le.2 hc (le_trans h01 (le_trans a b))
    · rw [if_neg hc]
      refine Or.inr ⟨t1, t2, rfl, h01, not_lt.1 (not_or.1 hc).1, h21, fun t h0 h1 => ?_⟩
      rw [← hbox t, hiff t]
      exact ⟨fun hs => ⟨h0, h1, hs⟩, fun hs => hs.2.2⟩

/-- `line_clip_to_bounds` RETURNS THE MAXIMAL SUB-SEGMENT INSIDE THE BOX: a returned segment is `(P(t1), P(t2))` with
    `0 ≤ t1 ≤ t2 ≤ 1`, and a point `P(t)`, `0 ≤ t ≤ 1`, of the line is in the box exactly when `t1 ≤ t ≤ t2` -/
theorem clip_some_spec (line bounds : T2 (V2 K) (V2 K)) (seg : T2 (V2 K) (V2 K))
    (h : lineClipToBounds line bounds = some seg) :
    ∃ t1 t2 : K, 0 ≤ t1 ∧ t1 ≤ t2 ∧ t2 ≤ 1 ∧ seg = T2.mk (along line t1) (along line t2) ∧
      ∀ t, 0 ≤ t → t ≤ 1 → (InBox bounds (along line t) ↔ t1 ≤ t ∧ t ≤ t2) := by
  rcases clip_cases line bounds with ⟨hn, _⟩ | ⟨t1, t2, hs, h0, h12, h1, hin⟩
  · rw [hn] at h; cases h
  · exact ⟨t1, t2, h0, h12, h1, Option.some.inj (h.symm.trans hs), hin⟩

/-- `None` MEANS THE LINE MISSES THE BOX: no point `P(t)`, `0 ≤ t ≤ 1`, of the line lies in the box -/
theorem clip_none_spec (line bounds : T2 (V2 K) (V2 K)) (h : lineClipToBounds line bounds = none) :
    ∀ t, 0 ≤ t → t ≤ 1 → ¬ InBox bounds (along line t) := by
  rcases clip_cases line bounds with ⟨_, hout⟩ | ⟨t1, t2, hs, _⟩
  · exact hout
  · rw [hs] at h; cases h

/-- non-vacuity: the diagonal of the square (0,0)-(4,4) clipped to the box (1,1)-(2,3) is the segment (1,1)-(2,2) -/
example : lineClipToBounds (K := ℚ) ⟨⟨0, 0⟩, ⟨4, 4⟩⟩ ⟨⟨1, 1⟩, ⟨2, 3⟩⟩ = some ⟨⟨1, 1⟩, ⟨2, 2⟩⟩ := by
  decide +kernel

/-! ### the generated function

`line_clip_to_bounds` is also GENERATED from the Rust source (`Gen.line_clip_to_bounds`; the `for` over the four
edges with its early `return None` is a `foldlRet`).  It is equal to the hand model, for every line and box, so the two theorems
above are theorems about the generated code and the driver compares the implementation with the generated function. -/

theorem foldl_clipStep_none (m : List (K × K)) : m.foldl clipStep none = none := by
  induction m with
  | nil => rfl
  | cons _ _ ih => exact ih

theorem foldlRet_eq_foldl {body : T2 K K → T2 K K → Sum (T2 K K) (Option (T2 (V2 K) (V2 K)))}
    (hbody : ∀ (t1 t2 : K) (d : T2 K K), body (T2.mk t1 t2) d =
      match clipStep (some (t1, t2)) (d.t0, d.t1) with
      | none => Sum.inr none
      | some s => Sum.inl (T2.mk s.1 s.2))
    (l : List (T2 K K)) (t1 t2 : K) :
    foldlRet l (T2.mk t1 t2) body =
      match (l.map (fun d => (d.t0, d.t1))).foldl clipStep (some (t1, t2)) with
      | none => Sum.inr none
      | some s => Sum.inl (T2.mk s.1 s.2) := by
  induction l generalizing t1 t2 with
  | nil => rfl
  | cons d l ih =>
    simp only [foldlRet, List.map_cons, List.foldl_cons, hbody]
    cases clipStep (some (t1, t2)) (d.t0, d.t1) with
    | none => simp only [foldl_clipStep_none]
    | some s => exact ih s.1 s.2

/-- THE GENERATED `line_clip_to_bounds` IS THE HAND MODEL, for every line and box -/
theorem generated_eq_model (line bounds : T2 (V2 K) (V2 K)) :
    Gen.line_clip_to_bounds line bounds = lineClipToBounds line bounds := by
  unfold Gen.line_clip_to_bounds lineClipToBounds
  dsimp only
  rw [foldlRet_eq_foldl]
  · simp only [List.zipWith_cons_cons, List.zipWith_nil_right, List.map_cons, List.map_nil]
    cases List.foldl clipStep (some ((0.0 : K), (1.0 : K))) _ with
    | none => rfl
    | some s =>
      obtain ⟨a, b⟩ := s
      simp only [Bool.or_eq_true, decide_eq_true_eq, or_assoc]
  · intro t1 t2 d
    simp only [clipStep, Bool.and_eq_true, decide_eq_true_eq]
    split_ifs <;> rfl

/-- `clip_some_spec` for the generated code -/
theorem generated_clip_some_spec (line bounds : T2 (V2 K) (V2 K)) (seg : T2 (V2 K) (V2 K))
    (h : Gen.line_clip_to_bounds line bounds = some seg) :
    ∃ t1 t2 : K, 0 ≤ t1 ∧ t1 ≤ t2 ∧ t2 ≤ 1 ∧ seg = T2.mk (along line t1) (along line t2) ∧
      ∀ t, 0 ≤ t → t ≤ 1 → (InBox bounds (along line t) ↔ t1 ≤ t ∧ t ≤ t2) :=
  clip_some_spec line bounds seg (by rw [← generated_eq_model]; exact h)

/-- `clip_none_spec` for the generated code -/
theorem generated_clip_none_spec (line bounds : T2 (V2 K) (V2 K)) (h : Gen.line_clip_to_bounds line bounds = none) :
    ∀ t, 0 ≤ t → t ≤ 1 → ¬ InBox bounds (along line t) :=
  clip_none_spec line bounds (by rw [← generated_eq_model]; exact h)

end C04Clip
