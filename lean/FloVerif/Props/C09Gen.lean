/-
C09 (the Bézier form, generated)  `Gen.gen_distance_in_bezier_form` is regenerated from nearest_point_bezier_root_finder.rs on
every check (translator form: a compound assignment to an indexed element of a local list, `curve[(i+j) as usize].1 += …`; the
outer `for k in 0..=5` is unrolled, the inner `for i in lower..=upper` is a fold).  It is EQUAL to the literal hand model
`Model.Nearest.distance_in_bezier_form` that the theorems of `Props/C09.lean` (quintic identity, global minimum) are stated for, and
`nearest_t_gen`, which the driver runs, is `nearest_t` (`nearest_t_gen_eq`); the driver compares the implementation's six control
points with the generated function bit for bit.
-/
import FloVerif.Lemmas.Nearest

set_option linter.unusedSectionVars false
namespace C09Gen
open Prelude Gen Model.Nearest

variable {K : Type} [Field K] [LinearOrder K] [IsStrictOrderedRing K] [Inhabited K]
local instance : FAbs K := ⟨fun a => |a|⟩
variable [FSqrt K] [FConsts K]

/-- the generated function, loops evaluated: the same six points, the same operations in the same order -/
theorem gen_dbf_explicit (w1 w2 w3 w4 p : V2 K) :
    gen_distance_in_bezier_form w1 w2 w3 w4 p =
      [{ x := 0.0 / 5.0, y := 0.0 + dot ((w2 - w1) * (3.0 : K)) (w1 - p) * 1.0 },
       { x := 1.0 / 5.0, y := 0.0 + dot ((w3 - w2) * (3.0 : K)) (w1 - p) * 0.4 + dot ((w2 - w1) * (3.0 : K)) (w2 - p) * 0.6 },
       { x := 2.0 / 5.0, y := 0.0 + dot ((w4 - w3) * (3.0 : K)) (w1 - p) * 0.1 + dot ((w3 - w2) * (3.0 : K)) (w2 - p) * 0.6 +
            dot ((w2 - w1) * (3.0 : K)) (w3 - p) * 0.3 },
       { x := 3.0 / 5.0, y := 0.0 + dot ((w4 - w3) * (3.0 : K)) (w2 - p) * 0.3 + dot ((w3 - w2) * (3.0 : K)) (w3 - p) * 0.6 +
            dot ((w2 - w1) * (3.0 : K)) (w4 - p) * 0.1 },
       { x := 4.0 / 5.0, y := 0.0 + dot ((w4 - w3) * (3.0 : K)) (w3 - p) * 0.6 + dot ((w3 - w2) * (3.0 : K)) (w4 - p) * 0.4 },
       { x := 5.0 / 5.0, y := 0.0 + dot ((w4 - w3) * (3.0 : K)) (w4 - p) * 1.0 }] := by
  simp only [gen_distance_in_bezier_form, foldlT, listGet, fmax, fmin, List.map_cons, List.map_nil, List.tail_cons,
    List.zipWith_cons_cons, List.zipWith_nil_right, List.range', List.range'_one, List.foldl_cons, List.foldl_nil,
    List.set_cons_zero, List.set_cons_succ, List.getElem!_cons_zero, List.getElem!_cons_succ, Nat.ofNat_pos,
    Nat.one_le_ofNat, Nat.not_ofNat_lt_one, Nat.lt_add_one, Nat.sub_eq_zero_of_le, Nat.add_one_sub_one,
    Nat.reduceAdd, Nat.reduceSub, Nat.reduceLT, zero_add, add_zero, zero_tsub, tsub_zero, tsub_self, zero_lt_one,
    lt_self_iff_false, not_lt_zero, ↓reduceIte, BEq.rfl]

/-- THE GENERATED FUNCTION IS THE HAND MODEL, for every curve and point -/
theorem gen_eq_model (w1 w2 w3 w4 p : V2 K) :
    gen_distance_in_bezier_form w1 w2 w3 w4 p = distance_in_bezier_form w1 w2 w3 w4 p := by
  rw [gen_dbf_explicit, C09L.dbf_explicit]

variable [FSignum K] [OfInt K]

theorem nearest_t_gen_eq (w1 w2 w3 w4 p : V2 K) : nearest_t_gen w1 w2 w3 w4 p = nearest_t w1 w2 w3 w4 p := by
  unfold nearest_t_gen nearest_t nearest_point_on_curve_bezier_root_finder
  rw [gen_eq_model]

end C09Gen
