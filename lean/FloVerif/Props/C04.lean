/-
C04  Curve-line and line-line intersections agree with the exact root set.

`Gen.line_intersects_line`, `line_intersects_ray`, `ray_intersects_ray`,
`solve_roots`, `curve_intersects_ray`, `curve_intersects_line`, `bezier_coefficients` are regenerated from
line/intersection.rs, bezier/intersection/curve_line.rs and bezier/basis.rs on every check.
The external cubic/quadratic solver (crate `roots`) is a parameter; its contract is an explicit hypothesis.
-/
import FloVerif.Gen.Lines
import FloVerif.Gen.CurveLine
import FloVerif.Prelude.XQ
import FloVerif.Props.C05
import Mathlib.Tactic.Ring
import Mathlib.Tactic.NormNum.OfScientific
import Mathlib.Tactic.FieldSimp
import Mathlib.Tactic.Linarith
import Mathlib.Tactic.LinearCombination
import Mathlib.Algebra.Order.Field.Basic
import Mathlib.Algebra.Order.AbsoluteValue.Basic

set_option linter.unusedSectionVars false
namespace C04
open Prelude Gen

variable {K : Type} [Field K] [LinearOrder K] [IsStrictOrderedRing K] [Inhabited K]

-- `lit0`, … and `norm_num` ask for it
local instance : CharZero K := inferInstance

/-- in exact arithmetic `f64::abs` is the absolute value -/
local instance : FAbs K := ⟨fun a => |a|⟩


/-- the common divisor of the two line parameters -/
def divisor (l1 l2 : T2 (V2 K) (V2 K)) : K :=
  (l2.t1.y - l2.t0.y) * (l1.t1.x - l1.t0.x) - (l2.t1.x - l2.t0.x) * (l1.t1.y - l1.t0.y)

/-- the point at parameter `u` of the line through the two points -/
def along (l : T2 (V2 K) (V2 K)) (u : K) : V2 K :=
  ⟨l.t0.x + u * (l.t1.x - l.t0.x), l.t0.y + u * (l.t1.y - l.t0.y)⟩

/-- the parameter of the meeting point on the first line, as the code computes it -/
def uaOf (l1 l2 : T2 (V2 K) (V2 K)) : K :=
  ((l2.t1.x - l2.t0.x) * (l1.t0.y - l2.t0.y) - (l2.t1.y - l2.t0.y) * (l1.t0.x - l2.t0.x)) / divisor l1 l2

/-- the parameter of the meeting point on the second line, as the code computes it -/
def ubOf (l1 l2 : T2 (V2 K) (V2 K)) : K :=
  ((l1.t1.x - l1.t0.x) * (l1.t0.y - l2.t0.y) - (l1.t1.y - l1.t0.y) * (l1.t0.x - l2.t0.x)) / divisor l1 l2

/-- what the generated `line_intersects_line` computes -/
theorem lil_unfold (l1 l2 : T2 (V2 K) (V2 K)) :
    line_intersects_line l1 l2 =
      if (0 ≤ uaOf l1 l2 ∧ uaOf l1 l2 ≤ 1) ∧ (0 ≤ ubOf l1 l2 ∧ ubOf l1 l2 ≤ 1) then some (along l1 (uaOf l1 l2)) else none := by
  simp only [line_intersects_line, uaOf, ubOf, divisor, along, lit0, lit1, Bool.and_eq_true, decide_eq_true_eq]
  congr

/-- for non-parallel lines the code's parameters solve `l1(ua) = l2(ub)` -/
theorem params_meet (l1 l2 : T2 (V2 K) (V2 K)) (hD : divisor l1 l2 ≠ 0) :
    along l1 (uaOf l1 l2) = along l2 (ubOf l1 l2) := by
  simp only [along, uaOf, ubOf, V2.mk.injEq, div_mul_eq_mul_div]
  constructor <;> rw [add_div' _ _ _ hD, add_div' _ _ _ hD, div_left_inj' hD, divisor] <;> ring

/-- the code's parameters are the only solution -/
theorem params_unique (l1 l2 : T2 (V2 K) (V2 K)) (ua ub : K) (hD : divisor l1 l2 ≠ 0)
    (hmeet : along l1 ua = along l2 ub) : uaOf l1 l2 = ua ∧ ubOf l1 l2 = ub := by
  simp only [along, V2.mk.injEq] at hmeet
  obtain ⟨hx, hy⟩ := hmeet
  have hD' := hD
  simp only [divisor] at hD'
  constructor
  · simp only [uaOf, divisor]
    rw [div_eq_iff hD']
    linear_combination -(l2.t1.y - l2.t0.y) * hx + (l2.t1.x - l2.t0.x) * hy
  · simp only [ubOf, divisor]
    rw [div_eq_iff hD']
    linear_combination -(l1.t1.y - l1.t0.y) * hx + (l1.t1.x - l1.t0.x) * hy

/-- soundness of `line_intersects_line`: a returned point lies on both segments (parameters in [0,1]) -/
theorem lil_sound (l1 l2 : T2 (V2 K) (V2 K)) (p : V2 K) (hD : divisor l1 l2 ≠ 0)
    (h : line_intersects_line l1 l2 = some p) :
    ∃ ua ub, 0 ≤ ua ∧ ua ≤ 1 ∧ 0 ≤ ub ∧ ub ≤ 1 ∧ p = along l1 ua ∧ p = along l2 ub := by
  rw [lil_unfold, Option.ite_none_right_eq_some, Option.some.injEq] at h
  obtain ⟨hc, rfl⟩ := h
  exact ⟨uaOf l1 l2, ubOf l1 l2, hc.1.1, hc.1.2, hc.2.1, hc.2.2, rfl, params_meet l1 l2 hD⟩

/-- completeness and uniqueness: if the two segments meet at parameters `ua, ub ∈ [0,1]` (and are not
    parallel) then exactly that point is returned -/
theorem lil_complete (l1 l2 : T2 (V2 K) (V2 K)) (ua ub : K) (hD : divisor l1 l2 ≠ 0)
    (ha0 : 0 ≤ ua) (ha1 : ua ≤ 1) (hb0 : 0 ≤ ub) (hb1 : ub ≤ 1) (hmeet : along l1 ua = along l2 ub) :
    line_intersects_line l1 l2 = some (along l1 ua) := by
  obtain ⟨e1, e2⟩ := params_unique l1 l2 ua ub hD hmeet
  rw [lil_unfold, e1, e2, if_pos ⟨⟨ha0, ha1⟩, ⟨hb0, hb1⟩⟩]

/-- `line_intersects_line` returns nothing when the segments do not meet -/
theorem lil_none (l1 l2 : T2 (V2 K) (V2 K)) (hD : divisor l1 l2 ≠ 0)
    (hno : ¬ ∃ ua ub, 0 ≤ ua ∧ ua ≤ 1 ∧ 0 ≤ ub ∧ ub ≤ 1 ∧ along l1 ua = along l2 ub) :
    line_intersects_line l1 l2 = none := by
  rw [lil_unfold, if_neg fun hc => hno ⟨uaOf l1 l2, ubOf l1 l2, hc.1.1, hc.1.2, hc.2.1, hc.2.2, params_meet l1 l2 hD⟩]

/-- what the generated `line_intersects_ray` computes: the second line is unbounded, only `ua` is range-checked -/
theorem lir_unfold (l1 l2 : T2 (V2 K) (V2 K)) :
    line_intersects_ray l1 l2 =
      if (0 ≤ uaOf l1 l2 ∧ uaOf l1 l2 ≤ 1) then some (along l1 (uaOf l1 l2)) else none := by
  simp only [line_intersects_ray, uaOf, divisor, along, lit0, lit1, Bool.and_eq_true, decide_eq_true_eq]
  congr

theorem lir_spec (l1 l2 : T2 (V2 K) (V2 K)) (hD : divisor l1 l2 ≠ 0) :
    (∀ p, line_intersects_ray l1 l2 = some p → ∃ ua ub, 0 ≤ ua ∧ ua ≤ 1 ∧ p = along l1 ua ∧ p = along l2 ub) ∧
    (∀ ua ub, 0 ≤ ua → ua ≤ 1 → along l1 ua = along l2 ub → line_intersects_ray l1 l2 = some (along l1 ua)) := by
  constructor
  · intro p h
    rw [lir_unfold, Option.ite_none_right_eq_some, Option.some.injEq] at h
    obtain ⟨hc, rfl⟩ := h
    exact ⟨uaOf l1 l2, ubOf l1 l2, hc.1, hc.2, rfl, params_meet l1 l2 hD⟩
  · intro ua ub ha0 ha1 hmeet
    obtain ⟨e1, _⟩ := params_unique l1 l2 ua ub hD hmeet
    rw [lir_unfold, e1, if_pos ⟨ha0, ha1⟩]

/-- what the generated `ray_intersects_ray` computes: both lines unbounded, guarded by `|divisor| > 2e-12` -/
theorem rir_unfold (l1 l2 : T2 (V2 K) (V2 K)) :
    ray_intersects_ray l1 l2 =
      if |divisor l1 l2| > (2e-12 : K) then some (along l1 (uaOf l1 l2)) else none := by
  simp only [ray_intersects_ray, RAY_DIVISOR_SMALLEST_VALUE, uaOf, divisor, along, fabs]
  exact if_congr decide_eq_true_iff rfl rfl

theorem rir_spec (l1 l2 : T2 (V2 K) (V2 K)) :
    (|divisor l1 l2| > (2e-12 : K) →
      ray_intersects_ray l1 l2 = some (along l1 (uaOf l1 l2)) ∧ along l1 (uaOf l1 l2) = along l2 (ubOf l1 l2)) ∧
    (¬ |divisor l1 l2| > (2e-12 : K) → ray_intersects_ray l1 l2 = none) := by
  constructor
  · intro h
    have hpos : (0 : K) < 2e-12 := by norm_num
    have hD : divisor l1 l2 ≠ 0 := by
      intro e; rw [e, abs_zero] at h; exact absurd h (not_lt.2 (le_of_lt hpos))
    exact ⟨by rw [rir_unfold, if_pos h], params_meet l1 l2 hD⟩
  · intro h
    rw [rir_unfold, if_neg h]

/-! IEEE side of the parallel case: the code has no test for a zero divisor and relies on the quotient not
    lying in [0,1].  In IEEE arithmetic a quotient by zero is NaN or ±∞, so the range test fails. -/

/-- an IEEE quotient by a zero of either sign is NaN or an infinity -/
theorem xq_div_zero (x z : XQ) (hz : z.isZero = true) : x / z = XQ.nan ∨ x / z = XQ.pinf ∨ x / z = XQ.ninf := by
  have hz' : z = XQ.fin 0 ∨ z = XQ.nzero := by
    cases z with
    | fin q => left; simp [XQ.isZero] at hz; rw [hz]
    | nzero => right; rfl
    | pinf => simp [XQ.isZero] at hz
    | ninf => simp [XQ.isZero] at hz
    | nan => simp [XQ.isZero] at hz
  show XQ.div x z = _ ∨ XQ.div x z = _ ∨ XQ.div x z = _
  rcases hz' with rfl | rfl <;> cases x with
  | fin q =>
    by_cases hq : q = 0
    · subst hq; left; rfl
    · simp only [XQ.div, XQ.toRat?, XQ.mkInf, XQ.signNeg]
      by_cases h0 : q < 0 <;> simp [hq, h0]
  | nzero => left; rfl
  | pinf => simp [XQ.div, XQ.toRat?, XQ.mkInf, XQ.signNeg]
  | ninf => simp [XQ.div, XQ.toRat?, XQ.mkInf, XQ.signNeg]
  | nan => left; rfl

/-- an IEEE quotient by zero never passes a range test `lo ≤ q ∧ q ≤ hi` with finite bounds: parallel or collinear lines
    (zero divisor) make `line_intersects_line` / `line_intersects_ray` return `None` in IEEE arithmetic -/
theorem xq_div_zero_not_in_range (x z lo hi : XQ) (hz : z.isZero = true) (hlo : lo.isFinite = true) (hhi : hi.isFinite = true) :
    ¬ ((lo ≤ x / z) ∧ (x / z ≤ hi)) := by
  show ¬ (XQ.le lo (x / z) = true ∧ XQ.le (x / z) hi = true)
  rcases xq_div_zero x z hz with h | h | h <;> rw [h]
  · cases lo <;> simp [XQ.le]
  · cases hi <;> simp_all [XQ.le, XQ.isFinite]
  · cases lo <;> simp_all [XQ.le, XQ.isFinite]

/-- the divisor as the generated code computes it at `XQ` -/
def divisorXQ (l1 l2 : T2 (V2 XQ) (V2 XQ)) : XQ :=
  (l2.t1.y - l2.t0.y) * (l1.t1.x - l1.t0.x) - (l2.t1.x - l2.t0.x) * (l1.t1.y - l1.t0.y)

/-- parallel or collinear lines: with IEEE division the generated `line_intersects_line` returns `None`
    (the exact-field theorems above assume a non-zero divisor; this covers the excluded case) -/
theorem lil_zero_divisor_none (l1 l2 : T2 (V2 XQ) (V2 XQ)) (hz : (divisorXQ l1 l2).isZero = true) :
    line_intersects_line l1 l2 = none := by
  simp only [divisorXQ] at hz
  simp only [line_intersects_line, Bool.and_eq_true, decide_eq_true_eq]
  exact if_neg fun hc => xq_div_zero_not_in_range _ _ _ _ hz rfl rfl hc.1

theorem lir_zero_divisor_none (l1 l2 : T2 (V2 XQ) (V2 XQ)) (hz : (divisorXQ l1 l2).isZero = true) :
    line_intersects_ray l1 l2 = none := by
  simp only [divisorXQ] at hz
  simp only [line_intersects_ray, Bool.and_eq_true, decide_eq_true_eq]
  exact if_neg (xq_div_zero_not_in_range _ _ _ _ hz rfl rfl)


/-! ## curve against line -/

section CurveLine
variable [FSqrt K]

/-- the power-basis coefficients returned by `bezier_coefficients` are those of the Bernstein form -/
theorem coefficients_are_basis (t w1 w2 w3 w4 : K) :
    let b := bezier_coefficients w1 w2 w3 w4
    b.t0 * t ^ 3 + b.t1 * t ^ 2 + b.t2 * t + b.t3 = basis t w1 w2 w3 w4 := by
  simp only [bezier_coefficients, basis, lit1, lit3, lit6]
  ring

/-- line coefficients as `curve_intersects_ray` computes them -/
def lineA (l : T2 (V2 K) (V2 K)) : K := l.t1.y - l.t0.y
def lineB (l : T2 (V2 K) (V2 K)) : K := l.t0.x - l.t1.x
def lineC (l : T2 (V2 K) (V2 K)) : K := l.t0.x * (l.t0.y - l.t1.y) + l.t0.y * (l.t1.x - l.t0.x)

/-- signed (unnormalised) distance of a point from the infinite line -/
def lineDist (l : T2 (V2 K) (V2 K)) (q : V2 K) : K := lineA l * q.x + lineB l * q.y + lineC l

theorem along_of_dist_zero_y (l : T2 (V2 K) (V2 K)) (q : V2 K) (ha : lineA l ≠ 0) (h : lineDist l q = 0) :
    q = along l ((q.y - l.t0.y) / (l.t1.y - l.t0.y)) := by
  obtain ⟨qx, qy⟩ := q
  simp only [lineDist, lineA, lineB, lineC, along, V2.mk.injEq] at *
  constructor
  · rw [div_mul_eq_mul_div, add_div' _ _ _ ha, eq_div_iff ha]
    linear_combination h
  · rw [div_mul_cancel₀ _ ha, add_sub_cancel]

theorem along_of_dist_zero_x (l : T2 (V2 K) (V2 K)) (q : V2 K) (hb : lineB l ≠ 0) (h : lineDist l q = 0) :
    q = along l ((q.x - l.t0.x) / (l.t1.x - l.t0.x)) := by
  obtain ⟨qx, qy⟩ := q
  have hb' : l.t1.x - l.t0.x ≠ 0 := fun e => hb (by rw [lineB, ← neg_sub, e, neg_zero])
  simp only [lineDist, lineA, lineB, lineC, along, V2.mk.injEq] at *
  constructor
  · rw [div_mul_cancel₀ _ hb', add_sub_cancel]
  · rw [div_mul_eq_mul_div, add_div' _ _ _ hb', eq_div_iff hb']
    linear_combination -h

/-- `a x + b y + c` vanishes exactly on the infinite line through the two points -/
theorem lineDist_zero_iff (l : T2 (V2 K) (V2 K)) (q : V2 K) (hne : lineA l ≠ 0 ∨ lineB l ≠ 0) :
    lineDist l q = 0 ↔ ∃ s, q = along l s := by
  constructor
  · intro h
    rcases hne with ha | hb
    · exact ⟨_, along_of_dist_zero_y l q ha h⟩
    · exact ⟨_, along_of_dist_zero_x l q hb h⟩
  · rintro ⟨s, rfl⟩
    simp only [lineDist, lineA, lineB, lineC, along]
    ring

/-- the cubic whose roots the solver is asked for -/
def distPoly (w1 w2 w3 w4 : V2 K) (l : T2 (V2 K) (V2 K)) : T4 K K K K :=
  let bx := bezier_coefficients w1.x w2.x w3.x w4.x
  let by_ := bezier_coefficients w1.y w2.y w3.y w4.y
  T4.mk (lineA l * bx.t0 + lineB l * by_.t0) (lineA l * bx.t1 + lineB l * by_.t1)
    (lineA l * bx.t2 + lineB l * by_.t2) (lineA l * bx.t3 + lineB l * by_.t3 + lineC l)

def polyEval (p : T4 K K K K) (t : K) : K := p.t0 * t ^ 3 + p.t1 * t ^ 2 + p.t2 * t + p.t3

/-- the cubic is the signed distance of the curve point from the line -/
theorem poly_is_signed_distance (w1 w2 w3 w4 : V2 K) (l : T2 (V2 K) (V2 K)) (t : K) :
    polyEval (distPoly w1 w2 w3 w4 l) t = lineDist l (de_casteljau4 t w1 w2 w3 w4) := by
  have hx := coefficients_are_basis t w1.x w2.x w3.x w4.x
  have hy := coefficients_are_basis t w1.y w2.y w3.y w4.y
  rw [C05.basis_eq_de_casteljau4] at hx hy
  rw [C05.de_casteljau4_V2]
  simp only [polyEval, distPoly, lineDist] at hx hy ⊢
  linear_combination lineA l * hx + lineB l * hy

/-- the end-point snapping of a root (curve_line.rs:83-108) -/
def snap (w1 w4 : V2 K) (l : T2 (V2 K) (V2 K)) (t : K) : K :=
  let f := fsqrt (lineA l * lineA l + lineB l * lineB l)
  if t < 0 ∧ t > -0.01 then
    (if |w1.x * (lineA l / f) + w1.y * (lineB l / f) + lineC l / f| < (SMALL_DISTANCE : K) then 0 else t)
  else if t > 1 ∧ t < 1.01 then
    (if |w4.x * (lineA l / f) + w4.y * (lineB l / f) + lineC l / f| < (SMALL_DISTANCE : K) then 1 else t)
  else t

/-- the position along the line of a point (curve_line.rs:113-121) -/
def sOf (l : T2 (V2 K) (V2 K)) (q : V2 K) : K :=
  if |lineB l| > |lineA l| then (q.x - l.t0.x) / (l.t1.x - l.t0.x) else (q.y - l.t0.y) / (l.t1.y - l.t0.y)

theorem sOf_spec (l : T2 (V2 K) (V2 K)) (q : V2 K) (hne : lineA l ≠ 0 ∨ lineB l ≠ 0) (h : lineDist l q = 0) :
    q = along l (sOf l q) := by
  unfold sOf
  split_ifs with hcmp
  · exact along_of_dist_zero_x l q (fun e => by rw [e, abs_zero] at hcmp; exact not_lt.2 (abs_nonneg _) hcmp) h
  · refine along_of_dist_zero_y l q (fun e => ?_) h
    rw [e, abs_zero] at hcmp
    exact hcmp (abs_pos.2 (hne.resolve_left (not_not.2 e)))

/-- one guarded Newton-Raphson step, written as the generated code writes it: taken only if it reduces the error -/
def newtonStep (p : T4 K K K K) (t : K) : K :=
  let value := ((p.t0 * t + p.t1) * t + p.t2) * t + p.t3
  let derivative := ((3.0 : K) * p.t0 * t + (2.0 : K) * p.t1) * t + p.t2
  let next_t := t - value / derivative
  let next_value := ((p.t0 * next_t + p.t1) * next_t + p.t2) * next_t + p.t3
  if decide (|next_value| < |value|) then next_t else t

/-- the generated `polish_root` is four guarded Newton steps (none for the all-zero polynomial of a collinear line) -/
theorem polish_unfold (p : T4 K K K K) (t : K) :
    polish_root p t =
      if (((decide (|p.t0| < (0.00000001 : K)) && decide (|p.t1| < (0.00000001 : K))) && decide (|p.t2| < (0.00000001 : K))) &&
          decide (|p.t3| < (0.00000001 : K))) then t
      else newtonStep p (newtonStep p (newtonStep p (newtonStep p t))) := by
  unfold polish_root
  refine if_congr Iff.rfl rfl ?_
  extract_lets t0 v1 d1 n1 nv1 i1 s1 v2 d2 n2 nv2 i2 s2 v3 d3 n3 nv3 i3 s3 v4 d4 n4 nv4 i4 s4
  have e1 : s1 = newtonStep p t := rfl
  have e2 : s2 = newtonStep p s1 := rfl
  have e3 : s3 = newtonStep p s2 := rfl
  have e4 : s4 = newtonStep p s3 := rfl
  rw [e4, e3, e2, e1]

theorem horner_eq (p : T4 K K K K) (t : K) : ((p.t0 * t + p.t1) * t + p.t2) * t + p.t3 = polyEval p t := by
  simp only [polyEval]; ring

theorem newtonStep_no_worse (p : T4 K K K K) (t : K) : |polyEval p (newtonStep p t)| ≤ |polyEval p t| := by
  simp only [newtonStep, ← horner_eq]
  split_ifs with h
  · exact le_of_lt (of_decide_eq_true h)
  · exact le_refl _

theorem newtonStep_of_root (p : T4 K K K K) (t : K) (h : polyEval p t = 0) : newtonStep p t = t := by
  rw [← horner_eq] at h
  simp only [newtonStep, h, abs_zero]
  rw [if_neg]
  simp only [decide_eq_true_eq]
  exact not_lt.2 (abs_nonneg _)

/-- `polish_root` never makes a root worse -/
theorem polish_no_worse (p : T4 K K K K) (t : K) : |polyEval p (polish_root p t)| ≤ |polyEval p t| := by
  rw [polish_unfold]
  split_ifs
  · exact le_refl _
  · exact le_trans (newtonStep_no_worse p _) (le_trans (newtonStep_no_worse p _)
      (le_trans (newtonStep_no_worse p _) (newtonStep_no_worse p _)))

/-- `polish_root` leaves an exact root where it is -/
theorem polish_of_root (p : T4 K K K K) (t : K) (h : polyEval p t = 0) : polish_root p t = t := by
  rw [polish_unfold]
  split_ifs
  · rfl
  · rw [newtonStep_of_root p t h, newtonStep_of_root p t h, newtonStep_of_root p t h, newtonStep_of_root p t h]

/-- what the loop body does with one root: a root the solver places outside (-0.1, 1.1) is dropped before it is refined (it cannot
    be a hit, and a few Newton steps could drag it into [0,1] without converging) -/
def hitOf (w1 w2 w3 w4 : V2 K) (l : T2 (V2 K) (V2 K)) (r : K) : Option (T3 K K (V2 K)) :=
  if ¬ (-0.1 < r ∧ r < 1.1) then none
  else
    let t := snap w1 w4 l (polish_root (distPoly w1 w2 w3 w4 l) r)
    if 0 ≤ t ∧ t ≤ 1 then some (T3.mk t (sOf l (de_casteljau4 t w1 w2 w3 w4)) (de_casteljau4 t w1 w2 w3 w4)) else none

private theorem foldl_toList {α β : Type} (g : α → Option β) (l : List α) (init : List β) :
    List.foldl (fun st x => st ++ (g x).toList) init l = init ++ l.filterMap g := by
  induction l generalizing init with
  | nil => simp
  | cons x xs ih =>
    simp only [List.foldl_cons, ih, List.filterMap_cons]
    cases g x <;> simp

private theorem guard_append {β : Type} (g c : Prop) [Decidable g] [Decidable c] (st : List β) (x : β) :
    (if ¬ g then st else if c then st ++ [x] else st) = st ++ (if ¬ g then none else if c then some x else none).toList := by
  split_ifs <;> simp

/-- the generated `curve_intersects_ray` is: no hits for a degenerate line, otherwise the hits of the
    solver's roots, in the solver's order -/
theorem cir_unfold (solve : T4 K K K K → List K) (w1 w2 w3 w4 : V2 K) (l : T2 (V2 K) (V2 K)) :
    curve_intersects_ray solve w1 w2 w3 w4 l =
      if lineA l = 0 ∧ lineB l = 0 then [] else (solve (distPoly w1 w2 w3 w4 l)).filterMap (hitOf w1 w2 w3 w4 l) := by
  have hdeg : (((l.t1.y - l.t0.y == 0) && (l.t0.x - l.t1.x == 0)) = true) = (lineA l = 0 ∧ lineB l = 0) := by
    simp only [Bool.and_eq_true, beq_iff_eq, lineA, lineB]
  simp only [curve_intersects_ray, lit0, lit1, hdeg, foldlT, getc]
  refine if_congr Iff.rfl rfl ?_
  refine Eq.trans ?_ ((foldl_toList (hitOf w1 w2 w3 w4 l) _ []).trans (List.nil_append _))
  congr 1
  funext st r
  simp only [hitOf, snap, sOf, distPoly, lineA, lineB, lineC, fabs, Bool.not_eq_true', Bool.and_eq_true, decide_eq_true_eq,
    gt_iff_lt, ← Bool.not_eq_true]
  exact guard_append _ _ _ _

/-- `curve_intersects_line` returns exactly the hits of `curve_intersects_ray` with `0 ≤ s ≤ 1` -/
theorem intersects_line_eq_filter (solve : T4 K K K K → List K) (w1 w2 w3 w4 : V2 K) (l : T2 (V2 K) (V2 K)) :
    curve_intersects_line solve w1 w2 w3 w4 l =
      (curve_intersects_ray solve w1 w2 w3 w4 l).filter (fun h => decide (0 ≤ h.t1) && decide (h.t1 ≤ 1)) := by
  simp only [curve_intersects_line, lit0, lit1]

/-- a snapped parameter is the root itself, or 0 / 1 for a root just outside [0,1]; `snap`'s test of the end point's distance from
    the line is not in the statement -/
theorem snap_cases (w1 w4 : V2 K) (l : T2 (V2 K) (V2 K)) (r : K) :
    snap w1 w4 l r = r ∨ (snap w1 w4 l r = 0 ∧ -0.01 < r ∧ r < 0) ∨ (snap w1 w4 l r = 1 ∧ 1 < r ∧ r < 1.01) := by
  simp only [snap]
  split_ifs with h1 h2 h3 h4
  · right; left; exact ⟨rfl, h1.2, h1.1⟩
  · left; rfl
  · right; right; exact ⟨rfl, h3.1, h3.2⟩
  · left; rfl
  · left; rfl

/-- soundness of every hit: it comes from a root of the solver, its parameter is in [0,1], its position is
    the curve point at that parameter and `s` is computed from that position; for an unsnapped exact root
    of the distance cubic the position lies on the line at exactly `s` -/
theorem hit_sound (solve : T4 K K K K → List K) (w1 w2 w3 w4 : V2 K) (l : T2 (V2 K) (V2 K))
    (h : T3 K K (V2 K)) (hh : h ∈ curve_intersects_ray solve w1 w2 w3 w4 l) :
    (lineA l ≠ 0 ∨ lineB l ≠ 0) ∧
    ∃ r ∈ solve (distPoly w1 w2 w3 w4 l), h.t0 = snap w1 w4 l (polish_root (distPoly w1 w2 w3 w4 l) r) ∧ 0 ≤ h.t0 ∧ h.t0 ≤ 1 ∧
      h.t2 = de_casteljau4 h.t0 w1 w2 w3 w4 ∧ h.t1 = sOf l h.t2 ∧
      (polyEval (distPoly w1 w2 w3 w4 l) h.t0 = 0 → h.t2 = along l h.t1) := by
  rw [cir_unfold] at hh
  split at hh
  · cases hh
  · rename_i hdeg
    have hne : lineA l ≠ 0 ∨ lineB l ≠ 0 := not_and_or.1 hdeg
    obtain ⟨r, hr, hhit⟩ := List.mem_filterMap.1 hh
    simp only [hitOf, Option.ite_none_left_eq_some, Option.ite_none_right_eq_some, Option.some.injEq] at hhit
    obtain ⟨_, hrange, rfl⟩ := hhit
    exact ⟨hne, r, hr, rfl, hrange.1, hrange.2, rfl, rfl,
      fun hroot => sOf_spec l _ hne (by rwa [poly_is_signed_distance] at hroot)⟩

/-- completeness, conditional on the solver contract "every real root of the cubic is returned":
    every parameter in [0,1] at which the curve meets the infinite line is reported -/
theorem hit_complete (solve : T4 K K K K → List K) (w1 w2 w3 w4 : V2 K) (l : T2 (V2 K) (V2 K))
    (hne : lineA l ≠ 0 ∨ lineB l ≠ 0)
    (hsolve : ∀ t, polyEval (distPoly w1 w2 w3 w4 l) t = 0 → t ∈ solve (distPoly w1 w2 w3 w4 l))
    (t : K) (ht0 : 0 ≤ t) (ht1 : t ≤ 1) (hon : lineDist l (de_casteljau4 t w1 w2 w3 w4) = 0) :
    ∃ h ∈ curve_intersects_ray solve w1 w2 w3 w4 l, h.t0 = t ∧ h.t2 = de_casteljau4 t w1 w2 w3 w4 := by
  rw [cir_unfold, if_neg (by rintro ⟨ha, hb⟩; rcases hne with h | h <;> contradiction)]
  have hroot : polyEval (distPoly w1 w2 w3 w4 l) t = 0 := by rw [poly_is_signed_distance]; exact hon
  have hsnap : snap w1 w4 l t = t := by
    simp only [snap]
    rw [if_neg (by rintro ⟨h, _⟩; exact absurd h (not_lt.2 ht0)), if_neg (by rintro ⟨h, _⟩; exact absurd h (not_lt.2 ht1))]
  refine ⟨T3.mk t (sOf l (de_casteljau4 t w1 w2 w3 w4)) (de_casteljau4 t w1 w2 w3 w4), ?_, rfl, rfl⟩
  rw [List.mem_filterMap]
  refine ⟨t, hsolve t hroot, ?_⟩
  have hw : (-0.1 : K) < t ∧ t < 1.1 := ⟨lt_of_lt_of_le (by norm_num) ht0, lt_of_le_of_lt ht1 (by norm_num)⟩
  simp only [hitOf, hw, and_self, not_true_eq_false, if_false, polish_of_root _ t hroot, hsnap, ht0, ht1, if_true]

/-- the cubic term is treated as negligible (curve_line.rs: absolute and relative test) -/
def negligibleLead (p : T4 K K K K) : Prop :=
  |p.t0| < 0.00000001 ∨ |p.t0| < fmax (fmax |p.t1| |p.t2|) |p.t3| * 0.00001

/-- the solver dispatch: a polynomial whose leading coefficient is not negligible goes to the cubic solver, a
    genuine quadratic (leading coefficient exactly 0) to the quadratic solver, the all-zero polynomial (curve
    on the line) reports the two ends.  For a small but non-zero leading coefficient the code drops the cubic
    term and refines the quadratic's roots with `polish_root`: an approximation no exact theorem covers. -/
theorem solve_roots_dispatch (fq : K → K → K → List K) (fc : K → K → K → K → List K) (p : T4 K K K K) :
    (¬ negligibleLead p → solve_roots fq fc p = fc p.t0 p.t1 p.t2 p.t3) ∧
    (p.t0 = 0 → (|p.t1| ≥ 0.00000001 ∨ |p.t2| ≥ 0.00000001 ∨ |p.t3| ≥ 0.00000001) → solve_roots fq fc p = fq p.t1 p.t2 p.t3) ∧
    (p.t0 = 0 → p.t1 = 0 → p.t2 = 0 → p.t3 = 0 → solve_roots fq fc p = [0, 1]) := by
  have hpos : (0 : K) < 0.00000001 := by norm_num
  refine ⟨?_, ?_, ?_⟩
  · intro h
    simp only [negligibleLead, not_or] at h
    simp only [solve_roots, fabs, h.1, h.2, decide_false, Bool.or_self, Bool.false_eq_true, if_false]
  · intro h0 h
    simp only [solve_roots, fabs, h0, abs_zero, hpos, decide_true, Bool.true_or, if_true, Bool.and_eq_true, decide_eq_true_eq]
    split_ifs with h1 h2
    · rcases h with h | h | h
      · exact absurd h1 (not_lt.2 h)
      · exact absurd h2.1 (not_lt.2 h)
      · exact absurd h2.2 (not_lt.2 h)
    · rfl
    · rfl
  · intro h0 h1 h2 h3
    simp only [solve_roots, fabs, h0, h1, h2, h3, abs_zero, hpos, decide_true, Bool.true_or, Bool.and_self, if_true]
    norm_num

end CurveLine

/-! Non-vacuity: a concrete crossing. -/
example : line_intersects_line (K := ℚ) ⟨⟨0, 0⟩, ⟨4, 4⟩⟩ ⟨⟨0, 4⟩, ⟨4, 0⟩⟩ = some (along ⟨⟨0, 0⟩, ⟨4, 4⟩⟩ (1/2)) :=
  lil_complete _ _ (1/2) (1/2) (by simp [divisor]; norm_num) (by norm_num) (by norm_num) (by norm_num) (by norm_num)
    (by simp [along]; norm_num)

end C04
