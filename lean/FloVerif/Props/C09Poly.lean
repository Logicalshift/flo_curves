/-
C09 (power basis to Bézier form)  `polynomial_to_bezier`, generated from roots/polynomial_to_bezier.rs.

`find_bezier_roots` finds the zeros of a polynomial given in Bézier form; `polynomial_to_bezier` is the library's conversion from the
coefficient form `c[0] + c[1]·x + … ` (Schneider's in-place triangle: translator form `v[i] = e` on a local list inside nested
`for` loops whose inner range depends on the outer variable).  Proved here for the degrees the library and its tests use it at
(N = 6 coefficients, the degree-5 case of the nearest-point solver, and N = 4, 3): the control polygon returned has abscissae `k/(N−1)` and the
Bézier curve it defines IS the polynomial - `de_casteljau_n t (polynomial_to_bezier c) = (t, Σ c_i t^i)` for every `t`.  Run at `Float`
the generated function reproduces the real one bit for bit (driver op `poly`).
-/
import FloVerif.Lemmas.Nearest

set_option linter.unusedSectionVars false
namespace C09Poly
open Prelude Gen C09L

variable {K : Type} [Field K] [LinearOrder K] [IsStrictOrderedRing K] [Inhabited K]
local instance : FAbs K := ⟨fun a => |a|⟩
local instance : OfInt K := ⟨fun n => (n : K)⟩
variable [FSqrt K] [FSignum K]

/-- the control points for six coefficients (loops evaluated): abscissae `k/5`, ordinates `Σ_i C(k,i)/C(5,i)·c_i` -/
theorem quintic_control_points (c0 c1 c2 c3 c4 c5 : K) : polynomial_to_bezier [c0, c1, c2, c3, c4, c5] =
    [⟨0, c0⟩, ⟨1 / 5, c0 + c1 / 5⟩, ⟨2 / 5, c0 + 2 * c1 / 5 + c2 / 10⟩, ⟨3 / 5, c0 + 3 * c1 / 5 + 3 * c2 / 10 + c3 / 10⟩,
     ⟨4 / 5, c0 + 4 * c1 / 5 + 3 * c2 / 5 + 2 * c3 / 5 + c4 / 5⟩, ⟨1, c0 + c1 + c2 + c3 + c4 + c5⟩] := by
  simp only [polynomial_to_bezier, ofInt, OfInt.ofInt, foldlT, listGet, lit1, List.range', List.range'_one, List.set,
    List.set_cons_succ, List.zipIdx, List.zipIdx_cons, List.map_cons, List.map_nil, List.foldl_reverse, List.foldl_cons,
    List.foldl_nil, List.foldr_cons, List.foldr_nil, List.getElem!_cons_zero, List.getElem!_cons_succ, List.length_cons,
    List.length_nil, Int.cast_natCast, Int.cast_ofNat, Int.reduceSub, Nat.cast_ofNat, Nat.cast_one, Nat.cast_zero,
    Nat.reduceAdd, Nat.reduceSub, Nat.add_one_sub_one, zero_add, tsub_self, List.cons.injEq, V2.mk.injEq, and_true,
    true_and]
  and_intros <;> ring

theorem cubic_control_points (c0 c1 c2 c3 : K) : polynomial_to_bezier [c0, c1, c2, c3] =
    [⟨0, c0⟩, ⟨1 / 3, c0 + c1 / 3⟩, ⟨2 / 3, c0 + 2 * c1 / 3 + c2 / 3⟩, ⟨1, c0 + c1 + c2 + c3⟩] := by
  simp only [polynomial_to_bezier, ofInt, OfInt.ofInt, foldlT, listGet, lit1, List.range', List.range'_one, List.set,
    List.set_cons_succ, List.zipIdx, List.zipIdx_cons, List.map_cons, List.map_nil, List.foldl_reverse, List.foldl_cons,
    List.foldl_nil, List.foldr_cons, List.foldr_nil, List.getElem!_cons_zero, List.getElem!_cons_succ, List.length_cons,
    List.length_nil, Int.cast_natCast, Int.cast_ofNat, Int.reduceSub, Nat.cast_ofNat, Nat.cast_one, Nat.cast_zero,
    Nat.reduceAdd, Nat.reduceSub, Nat.add_one_sub_one, zero_add, tsub_self, List.cons.injEq, V2.mk.injEq, and_true,
    true_and]
  and_intros <;> ring

theorem quadratic_control_points (c0 c1 c2 : K) : polynomial_to_bezier [c0, c1, c2] =
    [⟨0, c0⟩, ⟨1 / 2, c0 + c1 / 2⟩, ⟨1, c0 + c1 + c2⟩] := by
  simp only [polynomial_to_bezier, ofInt, OfInt.ofInt, foldlT, listGet, lit1, List.range', List.range'_one, List.set,
    List.set_cons_succ, List.zipIdx, List.zipIdx_cons, List.map_cons, List.map_nil, List.foldl_reverse, List.foldl_cons,
    List.foldl_nil, List.foldr_cons, List.foldr_nil, List.getElem!_cons_zero, List.getElem!_cons_succ, List.length_cons,
    List.length_nil, Int.cast_natCast, Int.cast_ofNat, Int.reduceSub, Nat.cast_ofNat, Nat.cast_one, Nat.cast_zero,
    Nat.reduceAdd, Nat.reduceSub, Nat.add_one_sub_one, zero_add, tsub_self, List.cons.injEq, V2.mk.injEq, and_true,
    true_and]
  and_intros <;> ring

theorem quintic_control_polygon (c0 c1 c2 c3 c4 c5 : K) :
    (polynomial_to_bezier [c0, c1, c2, c3, c4, c5]).map (·.x) = [0, 1 / 5, 2 / 5, 3 / 5, 4 / 5, 1] ∧
    (polynomial_to_bezier [c0, c1, c2, c3, c4, c5]).length = 6 := by
  rw [quintic_control_points]; exact ⟨rfl, rfl⟩

/-- **THE BÉZIER FORM IS THE POLYNOMIAL** (degree 5): for all coefficients and every `t`, evaluating the returned control polygon with
    the generated `de_casteljau_n` gives the point `(t, c0 + c1 t + c2 t² + c3 t³ + c4 t⁴ + c5 t⁵)` -/
theorem quintic_bezier_is_polynomial (c0 c1 c2 c3 c4 c5 t : K) :
    de_casteljau_n t (polynomial_to_bezier [c0, c1, c2, c3, c4, c5]) =
      V2.mk t (c0 + c1 * t + c2 * t ^ 2 + c3 * t ^ 3 + c4 * t ^ 4 + c5 * t ^ 5) := by
  rw [quintic_control_points, dcn6_mk]
  simp only [bern5, V2.mk.injEq]
  constructor <;> ring

theorem cubic_bezier_is_polynomial (c0 c1 c2 c3 t : K) :
    de_casteljau_n t (polynomial_to_bezier [c0, c1, c2, c3]) = V2.mk t (c0 + c1 * t + c2 * t ^ 2 + c3 * t ^ 3) := by
  rw [cubic_control_points, dcn4]
  simp only [de_casteljau4, de_casteljau3, de_casteljau2, v2_mk_add, v2_mk_mul, lit1, V2.mk.injEq]
  constructor <;> ring

theorem quadratic_bezier_is_polynomial (c0 c1 c2 t : K) :
    de_casteljau_n t (polynomial_to_bezier [c0, c1, c2]) = V2.mk t (c0 + c1 * t + c2 * t ^ 2) := by
  rw [quadratic_control_points, dcn3]
  simp only [de_casteljau3, de_casteljau2, v2_mk_add, v2_mk_mul, lit1, V2.mk.injEq]
  constructor <;> ring

local instance : FSqrt ℚ := ⟨fun x => x⟩
local instance : FSignum ℚ := ⟨fun x => if x < 0 then -1 else 1⟩
local instance : FAbs ℚ := ⟨fun a => |a|⟩
local instance : OfInt ℚ := ⟨fun n => (n : ℚ)⟩

/-- non-vacuity / the library's own test polynomial (x-0.5)(x-0.4)(x-0.3)(x-0.2)(x-0.1): its Bézier form vanishes at 0.3 -/
example : (de_casteljau_n (3 / 10 : ℚ) (polynomial_to_bezier [-(12 / 10000 : ℚ), 274 / 10000, -(225 / 1000), 85 / 100, -(15 / 10), 1])).y = 0 := by
  rw [quintic_bezier_is_polynomial]; norm_num

end C09Poly
