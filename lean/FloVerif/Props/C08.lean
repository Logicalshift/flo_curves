/-
C08  Curve fitting returns a connected chain from the first to the last point.

`Gen.max_points_to_fit`, `Gen.fit_curve` (the block loop, with the recursive fitter and the tangent functions as
parameters), `Gen.fit_line` and `Gen.newton_raphson_root_find` are regenerated from src/bezier/fit.rs on every check.
`Model.Fit.fitCubic` is the hand-written recursion skeleton of `fit_curve_cubic`.

Curves are abstract (`startOf endOf : C → P`); ends of lists are read with `head?` / `getLast?`.
-/
import FloVerif.Gen.Fit
import FloVerif.Model.Fit
import FloVerif.Lemmas.Fit
import FloVerif.Lemmas.Loop
import FloVerif.Lemmas.Basics
import Mathlib.Data.List.Range
import Mathlib.Tactic.Ring
import Mathlib.Tactic.NormNum.OfScientific
import Mathlib.Algebra.Order.Field.Basic

set_option linter.unusedSectionVars false
namespace C08
open Prelude Gen Model.Fit

theorem max_points_to_fit_small (n : Nat) (h : n < 200) : max_points_to_fit n = 200 :=
  if_pos (decide_eq_true h)

/-- the fuel 1000 of the translated `while` is not exhausted: the block size decreases from 200 and the loop leaves through its condition -/
theorem max_points_to_fit_loop (n : Nat) (h : 200 ≤ n) :
    (50 ≤ max_points_to_fit n ∧ max_points_to_fit n ≤ 200) ∧
    (max_points_to_fit n = 50 ∨ 50 ≤ n % max_points_to_fit n) ∧
    ∀ k, max_points_to_fit n < k → k ≤ 200 → n % k < 50 := by
  have hM : MAX_POINTS_TO_FIT = 200 := rfl
  unfold max_points_to_fit
  simp only [decide_eq_true_eq, Bool.and_eq_true]
  rw [if_neg (by omega)]
  refine Prelude.iterFuel_variant (fun s => 50 ≤ s ∧ s ≤ 200 ∧ ∀ k, s < k → k ≤ 200 → n % k < 50)
    (fun r => (50 ≤ r ∧ r ≤ 200) ∧ (r = 50 ∨ 50 ≤ n % r) ∧ ∀ k, r < k → k ≤ 200 → n % k < 50) (fun s => s) _ _ ?_ ?_ 1000 _ ?_ (by omega)
  · intro s s' hs hstep
    split at hstep
    · rename_i hc
      cases hstep
      refine ⟨⟨by omega, by omega, fun k hk hk2 => ?_⟩, by omega⟩
      by_cases hks : k = s
      · rw [hks]; omega
      · exact hs.2.2 k (by omega) hk2
    · cases hstep
  · intro s r hs hstep
    split at hstep
    · cases hstep
    · rename_i hc
      cases hstep
      exact ⟨⟨hs.1, hs.2.1⟩, by omega, hs.2.2⟩
  · exact ⟨by omega, by omega, fun k hk hk2 => by omega⟩

theorem max_points_to_fit_range (n : Nat) : 50 ≤ max_points_to_fit n ∧ max_points_to_fit n ≤ 200 := by
  rcases Nat.lt_or_ge n 200 with h | h
  · rw [max_points_to_fit_small n h]; omega
  · exact (max_points_to_fit_loop n h).1

/-- the block arithmetic never divides by zero -/
theorem max_points_to_fit_pred_pos (n : Nat) : 1 ≤ max_points_to_fit n - 1 := by
  have := max_points_to_fit_range n; omega

/-- the largest block size `m ≤ 200` with `m = 50` or `n % m ≥ 50` -/
theorem max_points_to_fit_spec (n : Nat) (h : 200 ≤ n) :
    (max_points_to_fit n = 50 ∨ 50 ≤ n % max_points_to_fit n) ∧
    ∀ k, max_points_to_fit n < k → k ≤ 200 → n % k < 50 :=
  (max_points_to_fit_loop n h).2

example : max_points_to_fit 300 = 200 := by decide
example : max_points_to_fit 201 = 151 := by decide
example : max_points_to_fit 7 = 200 := by decide

/-- the blocks `(start index, number of points)` that `fit_curve` hands to `fit_curve_cubic`
    for `n` points and block size `m` -/
def blocks (n m : Nat) : List (Nat × Nat) :=
  ((List.range ((n - 2) / (m - 1) + 1)).map (fun k => (k * (m - 1), min m (n - k * (m - 1))))).filter (fun b => decide (2 ≤ b.2))

example : blocks 300 200 = [(0, 200), (199, 101)] := by decide
example : blocks 2 200 = [(0, 2)] := by decide
example : blocks 201 200 = [(0, 200), (199, 2)] := by decide
example : blocks 200 200 = [(0, 200)] := by decide
example : blocks 399 200 = [(0, 200), (199, 200)] := by decide
example : blocks 7 3 = [(0, 3), (2, 3), (4, 3)] := by decide
example : blocks 201 (max_points_to_fit 201) = [(0, 151), (150, 51)] := by decide

/-- what the body of the loop passes to `fit_curve_cubic` for the block `b = (start_point, num_points)`: the slice, the start
    tangent of the slice, and the end tangent of the slice extended by one point if that point is not the last one -/
def blockFit {K P C : Type} (fcc : List P → P → P → K → List C) (st et : List P → P) (points : List P) (e : K)
    (b : Nat × Nat) : List C :=
  fcc (listSlice points b.1 (b.1 + b.2))
    (st (listSlice points b.1 (b.1 + b.2)))
    (if b.1 + b.2 + 1 < points.length then et (listSlice points b.1 (b.1 + b.2 + 1)) else et (listSlice points b.1 (b.1 + b.2)))
    e

/-- the block loop that `fit_curve` and `fit_curve_loop` share, for whatever (`G start_point num_points`) the body pushes -/
theorem blockLoop_eq {C : Type} (n m : Nat) (G : Nat → Nat → List C) :
    foldlT (List.range' 0 ((n - 2) / (m - 1) + 1 - 0)) [] (fun curves k =>
      if decide ((if decide (k * (m - 1) + m > n) then n - k * (m - 1) else m) < 2) then curves
      else foldlT (G (k * (m - 1)) (if decide (k * (m - 1) + m > n) then n - k * (m - 1) else m)) curves (fun st it => st ++ [it]))
    = (blocks n m).flatMap (fun b => G b.1 b.2) := by
  rw [blocks, flatMap_map_filter, List.range_eq_range', Nat.sub_zero]
  refine (foldlT_flatMap _ _ _ _ fun cs k _ => ?_).trans (List.nil_append _)
  simp only [decide_eq_true_eq, foldlT_push]
  have hnum : (if k * (m - 1) + m > n then n - k * (m - 1) else m) = min m (n - k * (m - 1)) := by split <;> omega
  rw [hnum]
  by_cases h2 : 2 ≤ min m (n - k * (m - 1))
  · rw [if_neg (by omega), if_pos h2]
  · rw [if_pos (by omega), if_neg h2, List.append_nil]

theorem fit_curve_blocks {K P C : Type} (fcc : List P → P → P → K → List C) (st et : List P → P)
    (points : List P) (e : K) (h : 2 ≤ points.length) :
    fit_curve fcc st et points e =
      some ((blocks points.length (max_points_to_fit points.length)).flatMap (blockFit fcc st et points e)) := by
  refine (if_neg (by rw [decide_eq_true_eq]; omega)).trans (congrArg some ?_)
  refine (blockLoop_eq points.length _ fun sp np => fcc (listSlice points sp (sp + np)) (st (listSlice points sp (sp + np)))
    (if decide (sp + np + 1 < points.length) then et (listSlice points sp (sp + np + 1)) else et (listSlice points sp (sp + np))) e).trans ?_
  simp only [decide_eq_true_eq]
  rfl

theorem fit_curve_none_iff {K P C : Type} (fcc : List P → P → P → K → List C) (st et : List P → P)
    (points : List P) (e : K) :
    fit_curve fcc st et points e = none ↔ points.length < 2 := by
  by_cases h : points.length < 2
  · exact iff_of_true (if_pos (decide_eq_true h)) h
  · rw [fit_curve_blocks fcc st et points e (by omega)]
    exact iff_of_false (Option.some_ne_none _) h

theorem block_arith (n m : Nat) (hm : 2 ≤ m) (hn : 2 ≤ n) :
    (∀ k, k < (n - 2) / (m - 1) → k * (m - 1) + m + 1 ≤ n) ∧
    (∀ k, k ≤ (n - 2) / (m - 1) → k * (m - 1) + 2 ≤ n) ∧ n ≤ (n - 2) / (m - 1) * (m - 1) + m := by
  have hd : 0 < m - 1 := by omega
  have h1 := Nat.div_add_mod' (n - 2) (m - 1)
  have h2 := Nat.mod_lt (n - 2) hd
  refine ⟨fun k hk => ?_, fun k hk => ?_, by omega⟩
  · have := (Nat.le_div_iff_mul_le hd).1 hk
    rw [Nat.succ_mul] at this
    omega
  · have := Nat.mul_le_mul_right (m - 1) hk
    omega

theorem blocks_eq (n m : Nat) (hm : 2 ≤ m) (hn : 2 ≤ n) :
    blocks n m = (List.range ((n - 2) / (m - 1) + 1)).map (fun k => (k * (m - 1), min m (n - k * (m - 1)))) := by
  rw [blocks, List.filter_eq_self]
  intro b hb
  obtain ⟨k, hk, rfl⟩ := List.mem_map.1 hb
  have := (block_arith n m hm hn).2.1 k (Nat.le_of_lt_succ (List.mem_range.1 hk))
  rw [decide_eq_true_eq]
  dsimp only
  omega

/-- the blocks cover the points with one-point overlaps: each starts at the LAST point of the previous one -/
theorem blocks_cover (n m : Nat) (hm : 2 ≤ m) (hn : 2 ≤ n) :
    blocks n m ≠ [] ∧
    (∀ b, (blocks n m).head? = some b → b.1 = 0) ∧
    (blocks n m).IsChain (fun a b => b.1 = a.1 + a.2 - 1) ∧
    (∀ b ∈ blocks n m, 2 ≤ b.2 ∧ b.2 ≤ m ∧ b.1 + b.2 ≤ n) ∧
    (∀ b, (blocks n m).getLast? = some b → b.1 + b.2 = n) := by
  obtain ⟨hfull, hin, hlast⟩ := block_arith n m hm hn
  rw [blocks_eq n m hm hn]
  generalize (n - 2) / (m - 1) = q at hfull hin hlast
  refine ⟨?_, ?_, ?_, ?_, ?_⟩
  · rw [Ne, List.map_eq_nil_iff, List.range_eq_nil]; omega
  · intro b hb
    rw [List.head?_map, List.head?_range, if_neg (by omega)] at hb
    cases hb
    exact Nat.zero_mul _
  · rw [List.isChain_map, List.isChain_range_succ]
    intro k hk
    have := hfull k hk
    rw [Nat.succ_eq_add_one, Nat.add_mul]
    omega
  · intro b hb
    obtain ⟨k, hk, rfl⟩ := List.mem_map.1 hb
    have := hin k (Nat.le_of_lt_succ (List.mem_range.1 hk))
    dsimp only
    omega
  · intro b hb
    rw [List.getLast?_map, List.getLast?_range, if_neg (by omega), Nat.add_sub_cancel] at hb
    cases hb
    have := hin q (Nat.le_refl q)
    dsimp only
    omega

/-- the blocks that `fit_curve` really uses (block size from `max_points_to_fit`) -/
theorem fit_curve_blocks_cover (n : Nat) (hn : 2 ≤ n) :
    let bs := blocks n (max_points_to_fit n)
    bs ≠ [] ∧ (∀ b, bs.head? = some b → b.1 = 0) ∧ bs.IsChain (fun a b => b.1 = a.1 + a.2 - 1) ∧
    (∀ b ∈ bs, 2 ≤ b.2 ∧ b.2 ≤ max_points_to_fit n ∧ b.1 + b.2 ≤ n) ∧ (∀ b, bs.getLast? = some b → b.1 + b.2 = n) :=
  blocks_cover n _ (by have := max_points_to_fit_range n; omega) hn

/-- contract of a fitter: `cs` is a non-empty connected chain of curves from the first to the last point of `ps` -/
def FitsChain {P C : Type} (startOf endOf : C → P) (ps : List P) (cs : List C) : Prop :=
  cs ≠ [] ∧ cs.head?.map startOf = ps.head? ∧ cs.getLast?.map endOf = ps.getLast? ∧
  cs.IsChain (fun c c' => endOf c = startOf c')

theorem fitsChain_iff {P C : Type} (startOf endOf : C → P) (ps : List P) (cs : List C) :
    FitsChain startOf endOf ps cs ↔ ChainFromTo startOf endOf ps.head? ps.getLast? cs :=
  ⟨fun ⟨a, b, c, d⟩ => ⟨a, b, c, d⟩, fun ⟨a, b, c, d⟩ => ⟨a, b, c, d⟩⟩

theorem FitsChain.head_eq {P C : Type} {startOf endOf : C → P} {ps : List P} {cs : List C}
    (h : FitsChain startOf endOf ps cs) (hp : ps ≠ []) : startOf (cs.head h.1) = ps.head hp := by
  have hc : cs ≠ [] := h.1
  have hh : cs.head?.map startOf = ps.head? := h.2.1
  rw [List.head?_eq_some_head hc, List.head?_eq_some_head hp] at hh
  exact Option.some.inj hh

theorem FitsChain.getLast_eq {P C : Type} {startOf endOf : C → P} {ps : List P} {cs : List C}
    (h : FitsChain startOf endOf ps cs) (hp : ps ≠ []) : endOf (cs.getLast h.1) = ps.getLast hp := by
  have hc : cs ≠ [] := h.1
  have hh : cs.getLast?.map endOf = ps.getLast? := h.2.2.1
  rw [List.getLast?_eq_some_getLast hc, List.getLast?_eq_some_getLast hp] at hh
  exact Option.some.inj hh

theorem FitsChain.single {P C : Type} {startOf endOf : C → P} {ps : List P} {c : C}
    (hs : some (startOf c) = ps.head?) (he : some (endOf c) = ps.getLast?) : FitsChain startOf endOf ps [c] :=
  ⟨List.cons_ne_nil _ _, hs, he, List.isChain_singleton _⟩

theorem FitsChain.line {P C : Type} [Inhabited P] {startOf endOf : C → P} {fitLine : P → P → List C}
    (hLine : ∀ p q, ∃ c, fitLine p q = [c] ∧ startOf c = p ∧ endOf c = q) :
    ∀ ps : List P, ps.length = 2 → FitsChain startOf endOf ps (fitLine (listGet ps 0) (listGet ps 1))
  | [a, b], _ => by
    obtain ⟨c, hc, hs, he⟩ := hLine a b
    rw [show listGet [a, b] 0 = a from rfl, show listGet [a, b] 1 = b from rfl, hc]
    exact .single (congrArg some hs) (congrArg some he)

/-- `points[0..=sp]` and `points[sp..]` share the point `points[sp]` -/
theorem FitsChain.split {P C : Type} {startOf endOf : C → P} {points : List P} {sp : Nat} {xs ys : List C}
    (h : sp < points.length)
    (hx : FitsChain startOf endOf (listSlice points 0 (sp + 1)) xs)
    (hy : FitsChain startOf endOf (listSlice points sp points.length) ys) :
    FitsChain startOf endOf points (xs ++ ys) := by
  rw [fitsChain_iff] at hx hy ⊢
  rw [listSlice_head? _ _ _ (by omega), listSlice_getLast? _ _ _ (by omega) (by omega), Nat.add_sub_cancel] at hx
  rw [listSlice_head? _ _ _ h, listSlice_getLast? _ _ _ h (Nat.le_refl _)] at hy
  rw [List.head?_eq_getElem?, List.getLast?_eq_getElem?]
  exact hx.append hy

/-- block `k` ends at `points[start_k + len_k − 1]`, block `k+1` starts at `points[start_{k+1}]`: the same point by `blocks_cover` -/
theorem blocks_flatMap_chain {P C : Type} (startOf endOf : C → P) (points : List P) (G : Nat × Nat → List C)
    (hG : ∀ b : Nat × Nat, 2 ≤ (listSlice points b.1 (b.1 + b.2)).length →
      FitsChain startOf endOf (listSlice points b.1 (b.1 + b.2)) (G b))
    (h : 2 ≤ points.length) :
    FitsChain startOf endOf points ((blocks points.length (max_points_to_fit points.length)).flatMap G) := by
  obtain ⟨hne, hfirst, hchain, hall, hlast⟩ := fit_curve_blocks_cover points.length h
  generalize blocks points.length (max_points_to_fit points.length) = bs at hne hfirst hchain hall hlast
  have key := ChainFromTo.flatMap (startOf := startOf) (endOf := endOf)
    (fun b : Nat × Nat => points[b.1]?) (fun b : Nat × Nat => points[b.1 + b.2 - 1]?) G bs hne
    (fun b hb => by
      obtain ⟨h2, _, hin⟩ := hall b hb
      have := (fitsChain_iff _ _ _ _).1 (hG b (by rw [listSlice_length _ _ _ hin]; omega))
      rwa [listSlice_head? _ _ _ (by omega), listSlice_getLast? _ _ _ (by omega) hin] at this)
    (hchain.imp (fun {a b} hab => by simp only [hab]))
  obtain ⟨b0, bl, hb0, hbl⟩ := exists_head?_getLast? bs hne
  rw [hb0, hbl, Option.bind_some, Option.bind_some, hfirst b0 hb0, hlast bl hbl] at key
  rwa [fitsChain_iff, List.head?_eq_getElem?, List.getLast?_eq_getElem?]

theorem blocks_cover_index (bs : List (Nat × Nat)) (s n i : Nat)
    (hhead : ∀ b, bs.head? = some b → b.1 = s)
    (hchain : bs.IsChain (fun a b => b.1 = a.1 + a.2 - 1))
    (hpos : ∀ b ∈ bs, 2 ≤ b.2)
    (hlast : ∀ b, bs.getLast? = some b → b.1 + b.2 = n)
    (hne : bs ≠ []) (hsi : s ≤ i) (hin : i < n) :
    ∃ b ∈ bs, b.1 ≤ i ∧ i < b.1 + b.2 := by
  induction bs generalizing s with
  | nil => exact absurd rfl hne
  | cons b rest ih =>
    have hb1 : b.1 = s := hhead b rfl
    by_cases hi : i < b.1 + b.2
    · exact ⟨b, List.mem_cons_self, by omega, hi⟩
    · cases rest with
      | nil =>
        have := hlast b rfl
        omega
      | cons c rest' =>
        have hc : c.1 = b.1 + b.2 - 1 := (List.isChain_cons_cons.1 hchain).1
        have h2 := hpos b List.mem_cons_self
        obtain ⟨d, hd, hr⟩ := ih (b.1 + b.2 - 1) (fun x hx => by cases hx; exact hc)
          (List.isChain_cons_cons.1 hchain).2 (fun x hx => hpos x (List.mem_cons_of_mem _ hx))
          (fun x hx => hlast x (by rwa [List.getLast?_cons_cons])) (List.cons_ne_nil _ _) (by omega)
        exact ⟨d, List.mem_cons_of_mem _ hd, hr⟩

theorem mem_block_slice {P : Type} (points : List P) (h : 2 ≤ points.length) (p : P) (hp : p ∈ points) :
    ∃ b ∈ blocks points.length (max_points_to_fit points.length),
      2 ≤ (listSlice points b.1 (b.1 + b.2)).length ∧ p ∈ listSlice points b.1 (b.1 + b.2) := by
  obtain ⟨hne, hfirst, hch, hall, hlast⟩ := fit_curve_blocks_cover points.length h
  obtain ⟨i, hi, rfl⟩ := List.mem_iff_getElem.1 hp
  obtain ⟨b, hb, hbi⟩ := blocks_cover_index _ 0 points.length i hfirst hch (fun b hb => (hall b hb).1) hlast hne (Nat.zero_le _) hi
  obtain ⟨hb2, _, hbin⟩ := hall b hb
  refine ⟨b, hb, by rw [listSlice_length _ _ _ hbin]; omega, List.mem_iff_getElem.2 ⟨i - b.1, ?_, ?_⟩⟩
  · rw [listSlice_length _ _ _ hbin]; omega
  · simp only [listSlice, List.getElem_take, List.getElem_drop]
    congr 1; omega

/-- `fit_curve` RETURNS A CONNECTED CHAIN FROM THE FIRST TO THE LAST POINT, provided the recursive fitter does so on every
    contiguous slice (`<:+:`) of the points with at least two points (for this `max_error`, whatever the tangents). -/
theorem fit_curve_chain {K P C : Type} (startOf endOf : C → P)
    (fcc : List P → P → P → K → List C) (st et : List P → P) (points : List P) (e : K)
    (hfcc : ∀ (ps : List P) (s t : P), ps <:+: points → 2 ≤ ps.length → FitsChain startOf endOf ps (fcc ps s t e))
    (h : 2 ≤ points.length) :
    ∃ cs, fit_curve fcc st et points e = some cs ∧ FitsChain startOf endOf points cs :=
  ⟨_, fit_curve_blocks fcc st et points e h,
    blocks_flatMap_chain startOf endOf points _ (fun _ hb => hfcc _ _ _ (listSlice_infix _ _ _) hb) h⟩

section cubic
variable {K P C : Type} [LE K] [DecidableLE K] [Inhabited P]

/-- `fitCubic` (the recursion skeleton of `fit_curve_cubic`) SATISFIES `FitsChain` on the points `all` and all their
    slices, with fuel `≥` the number of points, if

    * `fit_line p q` is one curve from `p` to `q`,
    * the candidate curve of `tryFit` starts at the first and ends at the last point of its slice
      (`generate_bezier` builds `from_points(points[0], …, last_point)`),
    * whenever the candidate is rejected (`¬ error ≤ max_error`) the split position is interior:
      `1 ≤ split_pos` and `split_pos + 1 < len`.

    Both recursive calls are then on strictly shorter slices (`split_pos + 1 < len` and `len − split_pos < len`) of at least
    two points, which share the point `points[split_pos]`.

    The hypotheses are only needed for the given `max_error` and for contiguous slices (`<:+:`) of `all`.  The third one is
    what `max_error_for_curve` gives for `0 ≤ max_error`: a rejected candidate has a positive error, the index returned has
    a positive squared error, and the first and last samples have error 0 (their chords 0 and 1 are fixed by
    re-parameterisation, `newton_fixed_at_ends_*`, and the candidate passes through both points).  It FAILS for
    `max_error < 0` or NaN: an exactly fitted slice is rejected with `split_pos = 0`, and `points[split_pos-1]` panicked
    (e.g. `fit_curve(&[(0,0),(1,0),(2,0)], -1.0)`) until repair F18 made `fit_curve_cubic` treat a negative `max_error` as 0
    (fit.rs:173; the skeleton `fitCubic` does not have that clamp, the generated body has it: `C08Cubic.body_eq`). -/
theorem fitCubic_chain (startOf endOf : C → P)
    (fitLine : P → P → List C) (tryFit : List P → P → P → K → (C × K × Nat))
    (tangentBetween : P → P → P → P) (negate : P → P) (all : List P) (e : K)
    (hLine : ∀ p q, ∃ c, fitLine p q = [c] ∧ startOf c = p ∧ endOf c = q)
    (hTry : ∀ (ps : List P) (s t : P), ps <:+: all → 3 ≤ ps.length →
      some (startOf (tryFit ps s t e).1) = ps.head? ∧ some (endOf (tryFit ps s t e).1) = ps.getLast?)
    (hSplit : ∀ (ps : List P) (s t : P), ps <:+: all → 3 ≤ ps.length → ¬ (tryFit ps s t e).2.1 ≤ e →
      1 ≤ (tryFit ps s t e).2.2 ∧ (tryFit ps s t e).2.2 + 1 < ps.length) :
    ∀ (fuel : Nat) (points : List P) (st et : P), points <:+: all → 2 ≤ points.length → points.length ≤ fuel →
      FitsChain startOf endOf points (fitCubic fitLine tryFit tangentBetween negate fuel points st et e)
  | 0, points, st, et, _, h2, hf => by omega
  | fuel + 1, points, st, et, hin, h2, hf => by
    unfold fitCubic
    split
    · exact .line hLine points (by omega)
    · extract_lets r curve error split_pos center_tangent lhs rhs
      split
      · exact .single (hTry points st et hin (by omega)).1 (hTry points st et hin (by omega)).2
      · rename_i hrej
        obtain ⟨hsp1, hsp2⟩ : 1 ≤ split_pos ∧ split_pos + 1 < points.length := hSplit points st et hin (by omega) hrej
        obtain ⟨hl, hr⟩ := listSlice_split_length points split_pos hsp1 hsp2
        have ih := fitCubic_chain startOf endOf fitLine tryFit tangentBetween negate all e hLine hTry hSplit fuel
        exact .split (by omega)
          (ih _ st center_tangent ((listSlice_infix _ _ _).trans hin) hl.1 (by omega))
          (ih _ (negate center_tangent) et ((listSlice_infix _ _ _).trans hin) hr.1 (by omega))

theorem fitCubicAuto_chain (startOf endOf : C → P)
    (fitLine : P → P → List C) (tryFit : List P → P → P → K → (C × K × Nat))
    (tangentBetween : P → P → P → P) (negate : P → P) (all : List P) (e : K)
    (hLine : ∀ p q, ∃ c, fitLine p q = [c] ∧ startOf c = p ∧ endOf c = q)
    (hTry : ∀ (ps : List P) (s t : P), ps <:+: all → 3 ≤ ps.length →
      some (startOf (tryFit ps s t e).1) = ps.head? ∧ some (endOf (tryFit ps s t e).1) = ps.getLast?)
    (hSplit : ∀ (ps : List P) (s t : P), ps <:+: all → 3 ≤ ps.length → ¬ (tryFit ps s t e).2.1 ≤ e →
      1 ≤ (tryFit ps s t e).2.2 ∧ (tryFit ps s t e).2.2 + 1 < ps.length)
    (ps : List P) (s t : P) (hin : ps <:+: all) (h2 : 2 ≤ ps.length) :
    FitsChain startOf endOf ps (fitCubicAuto fitLine tryFit tangentBetween negate ps s t e) :=
  fitCubic_chain startOf endOf fitLine tryFit tangentBetween negate all e hLine hTry hSplit ps.length ps s t hin h2 (Nat.le_refl _)

/-- the generated block loop around the model of the recursive fitter -/
theorem fit_curve_fitCubic_chain (startOf endOf : C → P)
    (fitLine : P → P → List C) (tryFit : List P → P → P → K → (C × K × Nat))
    (tangentBetween : P → P → P → P) (negate : P → P) (st et : List P → P) (points : List P) (e : K)
    (hLine : ∀ p q, ∃ c, fitLine p q = [c] ∧ startOf c = p ∧ endOf c = q)
    (hTry : ∀ (ps : List P) (s t : P), ps <:+: points → 3 ≤ ps.length →
      some (startOf (tryFit ps s t e).1) = ps.head? ∧ some (endOf (tryFit ps s t e).1) = ps.getLast?)
    (hSplit : ∀ (ps : List P) (s t : P), ps <:+: points → 3 ≤ ps.length → ¬ (tryFit ps s t e).2.1 ≤ e →
      1 ≤ (tryFit ps s t e).2.2 ∧ (tryFit ps s t e).2.2 + 1 < ps.length)
    (h : 2 ≤ points.length) :
    ∃ cs, fit_curve (fitCubicAuto fitLine tryFit tangentBetween negate) st et points e = some cs ∧
      FitsChain startOf endOf points cs :=
  fit_curve_chain startOf endOf _ st et points e
    (fun ps s t hin h2 => fitCubicAuto_chain startOf endOf fitLine tryFit tangentBetween negate points e hLine hTry hSplit ps s t hin h2) h

end cubic

/-- the generated `fit_line` meets the contract `hLine` with curves as 4-tuples of control points -/
theorem fit_line_contract {K P : Type} [OfScientific K] [Add P] [Sub P] [HMul P K P] (p q : P) :
    ∃ c, fit_line (K := K) p q = [c] ∧ c.t0 = p ∧ c.t3 = q :=
  ⟨_, rfl, rfl, rfl⟩

/-- non-vacuity, a toy instance of the skeleton that really splits: curves are pairs of end points; the candidate is rejected
    while the slice has more than 3 points and is then split in the middle -/
def toyTry (ps : List Nat) (_ _ : Nat) (_ : Nat) : (Nat × Nat) × Nat × Nat :=
  ((ps.head?.getD 0, ps.getLast?.getD 0), (if ps.length ≤ 3 then 0 else 1), ps.length / 2)

def toyFit (ps : List Nat) : List (Nat × Nat) :=
  fitCubicAuto (fun p q => [(p, q)]) toyTry (fun _ b _ => b) id ps 0 0 0

example : toyFit [10, 11, 12, 13, 14, 15, 16] = [(10, 12), (12, 13), (13, 15), (15, 16)] := by decide
example : toyFit [10, 11] = [(10, 11)] := by decide
/-- fuel exhausted gives `[]` (never reached with fuel `≥ length`) -/
example : fitCubic (K := Nat) (fun p q => [(p, q)]) toyTry (fun _ b _ => b) id 1 [10, 11, 12, 13, 14] 0 0 0 = [] := by decide

example (ps : List Nat) (h : 2 ≤ ps.length) : FitsChain Prod.fst Prod.snd ps (toyFit ps) := by
  refine fitCubicAuto_chain Prod.fst Prod.snd _ toyTry _ _ ps 0 (fun _ _ => ⟨_, rfl, rfl, rfl⟩) ?_ ?_ ps 0 0 List.infix_rfl h
  · intro qs _ _ _ h3
    obtain ⟨a, b, ha, hb⟩ := exists_head?_getLast? qs (by intro h; simp [h] at h3)
    simp [toyTry, ha, hb]
  · intro qs _ _ _ h3 hrej
    simp only [toyTry] at hrej ⊢
    split at hrej
    · omega
    · omega

/-- the toy instance under the generated block loop: 450 points go through three overlapping blocks -/
example : ((fit_curve (K := Nat) (fun ps s t e => fitCubicAuto (fun p q => [(p, q)]) toyTry (fun _ b _ => b) id ps s t e)
      (fun _ => 0) (fun _ => 0) (List.range 450) 0).map (fun cs => (cs.length, cs.head?, cs.getLast?)))
    = some (288, some (0, 2), some (448, 449)) := by
  rw [fit_curve_blocks _ _ _ _ _ (by rw [List.length_range]; decide)]
  decide +kernel

section newton
variable {K : Type} [Field K] [LinearOrder K] [IsStrictOrderedRing K] {P : Type} [Add P] [Sub P] [HMul P K P] [Dot P K]

/-- if the curve point at the estimate IS the sample point and the estimate is in [0,1], `newton_raphson_root_find` returns the
    estimate unchanged, in either branch (`denominator == 0.0` or not): the numerator is `(Q(u) − point)·Q'(u) = 0`, and the
    clamp to [0,1] is the identity.  For any point type whose dot product vanishes on a zero difference. -/
theorem newton_fixed_at_hit (hdot : ∀ p x : P, (dot (p - p) x : K) = 0)
    (w1 w2 w3 w4 point : P) (u : K) (hu : 0 ≤ u ∧ u ≤ 1) (hit : curve_point_at_pos w1 w2 w3 w4 u = point) :
    newton_raphson_root_find w1 w2 w3 w4 point u = u := by
  unfold newton_raphson_root_find
  extract_lets start end_ tup cp1 cp2 qt qn1 qn2 qn3 qnn1 qnn2 qnt qnnt numerator denominator
  have hq : qt = point := hit
  have hnum : numerator = 0 := by
    show dot (qt - point) qnt = 0
    rw [hq]; exact hdot _ _
  split
  · rfl
  · rw [hnum, zero_div, sub_zero, fmax_eq_max, fmin_eq_min, lit0, lit1, max_eq_left hu.1, min_eq_left hu.2]

/-- the estimate itself in the `denominator == 0.0` branch, in [0,1] in the branch that divides -/
theorem newton_same_or_in_unit (w1 w2 w3 w4 point : P) (u : K) :
    newton_raphson_root_find w1 w2 w3 w4 point u = u ∨
    (0 ≤ newton_raphson_root_find w1 w2 w3 w4 point u ∧ newton_raphson_root_find w1 w2 w3 w4 point u ≤ 1) := by
  unfold newton_raphson_root_find
  extract_lets start end_ tup cp1 cp2 qt qn1 qn2 qn3 qnn1 qnn2 qnt qnnt numerator denominator
  split
  · exact Or.inl rfl
  · right
    rw [fmax_eq_max, fmin_eq_min, lit0, lit1]
    exact ⟨le_min (le_max_right _ _) zero_le_one, min_le_right _ _⟩

/-- THE RE-PARAMETERISED CHORD STAYS ON THE CURVE: for every estimate in [0,1] the returned parameter is in [0,1] -/
theorem newton_in_unit (w1 w2 w3 w4 point : P) (u : K) (hu : 0 ≤ u ∧ u ≤ 1) :
    0 ≤ newton_raphson_root_find w1 w2 w3 w4 point u ∧ newton_raphson_root_find w1 w2 w3 w4 point u ≤ 1 := by
  rcases newton_same_or_in_unit w1 w2 w3 w4 point u with h | h
  · rw [h]; exact hu
  · exact h

/-- the two chords that chord-length parameterisation pins (`0.0` at the first point, `1.0` at the last) are hits for every
    curve from the first to the last point (what `generate_bezier` returns), so re-parameterisation never moves them and
    their error stays 0: the split position, which needs a positive error, is neither the first nor the last index -/
theorem newton_fixed_at_ends (hdot : ∀ p x : P, (dot (p - p) x : K) = 0) (w1 w2 w3 w4 : P)
    (h0 : curve_point_at_pos w1 w2 w3 w4 (0 : K) = w1) (h1 : curve_point_at_pos w1 w2 w3 w4 (1 : K) = w4) :
    newton_raphson_root_find w1 w2 w3 w4 w1 (0.0 : K) = 0.0 ∧ newton_raphson_root_find w1 w2 w3 w4 w4 (1.0 : K) = 1.0 := by
  rw [lit0, lit1]
  exact ⟨newton_fixed_at_hit hdot _ _ _ _ _ _ ⟨le_refl 0, zero_le_one⟩ h0,
    newton_fixed_at_hit hdot _ _ _ _ _ _ ⟨zero_le_one, le_refl 1⟩ h1⟩

/-- 1-D points: `impl Coordinate for f64`, whose dot product is the product -/
local instance dot1d : Dot K K := ⟨fun a b => a * b⟩

theorem dot1d_sub_self (p x : K) : (dot (p - p) x : K) = 0 := by
  show (p - p) * x = 0
  rw [sub_self, zero_mul]

theorem newton_fixed_at_ends_1d (w1 w2 w3 w4 : K) :
    newton_raphson_root_find w1 w2 w3 w4 w1 (0.0 : K) = 0.0 ∧ newton_raphson_root_find w1 w2 w3 w4 w4 (1.0 : K) = 1.0 :=
  newton_fixed_at_ends dot1d_sub_self w1 w2 w3 w4 (basis_zero _ _ _ _) (basis_one _ _ _ _)

/-- the dot product of `Coord2` (`Prelude`; its loop starts from `0.0`) vanishes on a zero difference -/
theorem dot_sub_self (p x : V2 K) : (dot (p - p) x : K) = 0 := by
  show ((0.0 : K) + (p.x - p.x) * x.x) + (p.y - p.y) * x.y = 0
  rw [lit0, sub_self, sub_self, zero_mul, zero_mul, add_zero, add_zero]

theorem newton_fixed_at_hit_2d (w1 w2 w3 w4 point : V2 K) (u : K) (hu : 0 ≤ u ∧ u ≤ 1)
    (hit : curve_point_at_pos w1 w2 w3 w4 u = point) : newton_raphson_root_find w1 w2 w3 w4 point u = u :=
  newton_fixed_at_hit dot_sub_self w1 w2 w3 w4 point u hu hit

theorem newton_fixed_at_ends_2d (w1 w2 w3 w4 : V2 K) :
    newton_raphson_root_find w1 w2 w3 w4 w1 (0.0 : K) = 0.0 ∧ newton_raphson_root_find w1 w2 w3 w4 w4 (1.0 : K) = 1.0 :=
  newton_fixed_at_ends dot_sub_self w1 w2 w3 w4 (point_at_zero _ _ _ _) (point_at_one _ _ _ _)

theorem newton_fixed_at_hit_3d (w1 w2 w3 w4 point : V3 K) (u : K) (hu : 0 ≤ u ∧ u ≤ 1)
    (hit : curve_point_at_pos w1 w2 w3 w4 u = point) : newton_raphson_root_find w1 w2 w3 w4 point u = u := by
  refine newton_fixed_at_hit (fun p x => ?_) w1 w2 w3 w4 point u hu hit
  show (((0.0 : K) + (p.x - p.x) * x.x) + (p.y - p.y) * x.y) + (p.z - p.z) * x.z = 0
  rw [lit0, sub_self, sub_self, sub_self, zero_mul, zero_mul, zero_mul, add_zero, add_zero, add_zero]

theorem V2_add_x (a b : V2 K) : (a + b).x = a.x + b.x := rfl
theorem V2_add_y (a b : V2 K) : (a + b).y = a.y + b.y := rfl
theorem V2_mul_x (a : V2 K) (k : K) : (a * k).x = a.x * k := rfl
theorem V2_mul_y (a : V2 K) (k : K) : (a * k).y = a.y * k := rfl

end newton

end C08
