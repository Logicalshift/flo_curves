/-
C05  Evaluation, subdivision, sections and reversal describe the same curve.

Every definition named here lives in `Gen/` and is regenerated from the Rust
sources on every check, so these proofs are re-checked against what the code says now.
`K` is any ordered field (ℚ contains every finite f64); points are proved at `P = K` (exactly `impl Coordinate for f64`).
Every kernel acts component-wise: the `_V2` / `_V3` lemmas lift those that are used in 2-D, the rest lift the same way.
-/
import FloVerif.Gen.Section
import FloVerif.Lemmas.Basics
import Mathlib.Tactic.Ring
import Mathlib.Tactic.NormNum.OfScientific
import Mathlib.Tactic.FieldSimp
import Mathlib.Tactic.Linarith
import Mathlib.Algebra.Order.Field.Basic

set_option linter.unusedSectionVars false
namespace C05
open Prelude Gen

variable {K : Type} [Field K] [LinearOrder K] [IsStrictOrderedRing K] [Inhabited K] [FAbs K]

-- `lit0`, … and `norm_num` ask for it
local instance : CharZero K := inferInstance

/-- `point_at_pos` is the Bernstein basis function of the four points -/
theorem point_at_pos_eq_basis (w1 w2 w3 w4 t : K) :
    curve_point_at_pos w1 w2 w3 w4 t = basis t w1 w2 w3 w4 := by
  simp only [curve_point_at_pos]

/-- the basis function equals de Casteljau evaluation -/
theorem basis_eq_de_casteljau4 (t w1 w2 w3 w4 : K) :
    basis t w1 w2 w3 w4 = de_casteljau4 t w1 w2 w3 w4 := by
  simp only [basis, de_casteljau4, de_casteljau3, de_casteljau2, lit1, lit3]
  ring

/-- exactly the start point at t = 0 (no tolerance) -/
theorem basis_zero (w1 w2 w3 w4 : K) : basis (0.0 : K) w1 w2 w3 w4 = w1 := by
  rw [lit0]; exact Prelude.basis_zero w1 w2 w3 w4

/-- exactly the end point at t = 1 (no tolerance) -/
theorem basis_one (w1 w2 w3 w4 : K) : basis (1.0 : K) w1 w2 w3 w4 = w4 := by
  rw [lit1]; exact Prelude.basis_one w1 w2 w3 w4

/-- `subdivide(t)`: the left curve is `s ↦ curve(s·t)` -/
theorem subdivide_left (t s w1 w2 w3 w4 : K) :
    let l := (curve_subdivide w1 w2 w3 w4 t).t0
    basis s l.t0 l.t1 l.t2 l.t3 = basis (s * t) w1 w2 w3 w4 := by
  simp only [curve_subdivide, subdivide4, de_casteljau2, basis, lit1, lit3]
  ring

/-- `subdivide(t)`: the right curve is `s ↦ curve(t + s·(1−t))` -/
theorem subdivide_right (t s w1 w2 w3 w4 : K) :
    let r := (curve_subdivide w1 w2 w3 w4 t).t1
    basis s r.t0 r.t1 r.t2 r.t3 = basis (t + s * (1 - t)) w1 w2 w3 w4 := by
  simp only [curve_subdivide, subdivide4, de_casteljau2, basis, lit1, lit3]
  ring

/-- the two halves share the split point, which is the curve point at `t`, and keep the outer ends -/
theorem subdivide_shared_point (t w1 w2 w3 w4 : K) :
    let d := curve_subdivide w1 w2 w3 w4 t
    d.t0.t3 = d.t1.t0 ∧ d.t0.t3 = basis t w1 w2 w3 w4 ∧ d.t0.t0 = w1 ∧ d.t1.t3 = w4 := by
  refine ⟨rfl, ?_, rfl, rfl⟩
  simp only [curve_subdivide, subdivide4, de_casteljau2, basis, lit1, lit3]
  ring

/-- a section `[a,b]` evaluates to `curve(a + s·(b−a))` -/
theorem section_point (a b s w1 w2 w3 w4 : K) :
    section_point_at_pos w1 w2 w3 w4 (section_new a b) s = basis (a + s * (b - a)) w1 w2 w3 w4 := by
  simp only [section_point_at_pos, section_new, section_t_for_t, curve_point_at_pos]
  congr 1
  ring

/-- the end points of a section are the curve points at `a` and `b` -/
theorem section_ends (a b w1 w2 w3 w4 : K) :
    section_start_point w1 w2 w3 w4 (section_new a b) = basis a w1 w2 w3 w4 ∧
    section_end_point w1 w2 w3 w4 (section_new a b) = basis b w1 w2 w3 w4 := by
  simp only [section_start_point, section_end_point, section_new, section_t_for_t, curve_point_at_pos]
  constructor <;> congr 1 <;> norm_num

/-- `original_curve_t_values` returns `(a, b)` -/
theorem section_original_t (a b : K) :
    section_original_curve_t_values (section_new a b) = T2.mk a b := by
  simp only [section_original_curve_t_values, section_new]
  congr 1
  ring

/-- a nested subsection `[c,d]` of `[a,b]` is the section `[a + c(b−a), a + d(b−a)]` of the original curve -/
theorem subsection_point (a b c d s w1 w2 w3 w4 : K) :
    section_point_at_pos w1 w2 w3 w4 (section_subsection (section_new a b) c d) s
      = basis (a + (c + s * (d - c)) * (b - a)) w1 w2 w3 w4 := by
  simp only [section_point_at_pos, section_subsection, section_new, section_t_for_t, curve_point_at_pos]
  congr 1
  ring

/-- `section_t_for_original_t` inverts `t_for_t` on a non-empty section -/
theorem section_t_roundtrip (a b t : K) (h : b ≠ a) :
    section_t_for_original_t (section_new a b) (section_t_for_t (section_new a b) t) = t := by
  simp only [section_t_for_original_t, section_new, section_t_for_t]
  have : b - a ≠ 0 := sub_ne_zero.2 h
  field_simp
  ring

theorem section_cubic (S : SectionT K) (s w1 w2 w3 w4 : K) (hc : S.t_c ≤ 1) (h1 : S.t_c = 1 → S.t_m = 0) :
    basis s (section_start_point w1 w2 w3 w4 S) (section_control_points w1 w2 w3 w4 S).t0
      (section_control_points w1 w2 w3 w4 S).t1 (section_end_point w1 w2 w3 w4 S)
      = basis (section_t_for_t S s) w1 w2 w3 w4 := by
  rcases lt_or_eq_of_le hc with ha | e
  · -- the section is the left part `L` at `t_m / (1 - t_c)` of the right part `R` at `t_c`
    have hne : 1 - S.t_c ≠ 0 := (sub_pos.2 ha).ne'
    have hR := fun s' => subdivide_right S.t_c s' w1 w2 w3 w4
    have hP := subdivide_shared_point S.t_c w1 w2 w3 w4
    set R := (curve_subdivide w1 w2 w3 w4 S.t_c).t1 with hRd
    have hL := subdivide_left (S.t_m / (1 - S.t_c)) s R.t0 R.t1 R.t2 R.t3
    have hQ := subdivide_shared_point (S.t_m / (1 - S.t_c)) R.t0 R.t1 R.t2 R.t3
    set L := (curve_subdivide R.t0 R.t1 R.t2 R.t3 (S.t_m / (1 - S.t_c))).t0 with hLd
    simp only at hR hP hL hQ
    have hstart : section_start_point w1 w2 w3 w4 S = R.t0 := by
      rw [← hP.1, hP.2.1]
      simp only [section_start_point, section_t_for_t, curve_point_at_pos, lit0, zero_mul, zero_add]
    have hend : section_end_point w1 w2 w3 w4 S = L.t3 := by
      rw [hQ.2.1, hR, div_mul_cancel₀ _ hne]
      simp only [section_end_point, section_t_for_t, curve_point_at_pos, lit1, one_mul, add_comm]
    have hcp : section_control_points w1 w2 w3 w4 S = T2.mk L.t1 L.t2 := by
      simp only [section_control_points, lit1, not_le.2 ha, decide_false, Bool.false_eq_true, if_false, hLd, hRd, curve_subdivide,
        subdivide4, de_casteljau2]
    rw [hstart, hend, hcp]
    exact hL.trans (by rw [hR, mul_assoc, div_mul_cancel₀ _ hne, section_t_for_t, add_comm])
  · -- the section `[1,1]` is the point `w4`
    simp only [section_control_points, section_start_point, section_end_point, section_t_for_t, curve_point_at_pos, de_casteljau2,
      basis, h1 e, e, lit0, lit1, lit3, ge_iff_le, le_refl, decide_true, if_true, sub_self, mul_zero, add_zero, zero_add, mul_one,
      sub_zero]
    ring

/-- the control points of a section define the same cubic as the section: for every `s`, the curve
    (start, cp1, cp2, end) of the section evaluates to `curve(a + s·(b−a))`, for all `0 ≤ a ≤ b ≤ 1`
    including `a = b` and `a = 1` (where the code takes its `t_c >= 1.0` branch instead of dividing by `1 − a`;
    the only section with `a = 1` and `a ≤ b ≤ 1` is `[1,1]`). -/
theorem section_control_points_same_cubic (a b s w1 w2 w3 w4 : K) (ha : a ≤ 1) (hb : a = 1 → b = 1) :
    let sec := section_new a b
    let cps := section_control_points w1 w2 w3 w4 sec
    basis s (section_start_point w1 w2 w3 w4 sec) cps.t0 cps.t1 (section_end_point w1 w2 w3 w4 sec)
      = basis (a + s * (b - a)) w1 w2 w3 w4 := by
  refine (section_cubic (section_new a b) s w1 w2 w3 w4 ha fun e => sub_eq_zero.2 ((hb e).trans e.symm)).trans ?_
  rw [section_t_for_t, add_comm]
  rfl

/-- reversing a curve traverses the same points backwards -/
theorem reverse_point (s w1 w2 w3 w4 : K) :
    let r := curve_reverse w1 w2 w3 w4
    basis s r.t0 r.t1 r.t2 r.t3 = basis (1 - s) w1 w2 w3 w4 := by
  simp only [curve_reverse, basis, lit1, lit3]
  ring

/-- reversing twice is the identity (this one holds for any point type) -/
theorem reverse_reverse {P : Type} (w1 w2 w3 w4 : P) :
    let r := curve_reverse w1 w2 w3 w4
    curve_reverse r.t0 r.t1 r.t2 r.t3 = T4.mk w1 w2 w3 w4 := by
  simp only [curve_reverse]

theorem basis_V2 (t : K) (a b c d : V2 K) :
    basis t a b c d = V2.mk (basis t a.x b.x c.x d.x) (basis t a.y b.y c.y d.y) := by
  rfl

theorem basis_V3 (t : K) (a b c d : V3 K) :
    basis t a b c d = V3.mk (basis t a.x b.x c.x d.x) (basis t a.y b.y c.y d.y) (basis t a.z b.z c.z d.z) := by
  rfl

theorem de_casteljau4_V2 (t : K) (a b c d : V2 K) :
    de_casteljau4 t a b c d = V2.mk (de_casteljau4 t a.x b.x c.x d.x) (de_casteljau4 t a.y b.y c.y d.y) := by
  rfl

theorem subdivide_V2 (t : K) (a b c d : V2 K) :
    let r := curve_subdivide a b c d t
    let rx := curve_subdivide a.x b.x c.x d.x t
    let ry := curve_subdivide a.y b.y c.y d.y t
    r.t0.t0 = ⟨rx.t0.t0, ry.t0.t0⟩ ∧ r.t0.t1 = ⟨rx.t0.t1, ry.t0.t1⟩ ∧ r.t0.t2 = ⟨rx.t0.t2, ry.t0.t2⟩ ∧ r.t0.t3 = ⟨rx.t0.t3, ry.t0.t3⟩ ∧
    r.t1.t0 = ⟨rx.t1.t0, ry.t1.t0⟩ ∧ r.t1.t1 = ⟨rx.t1.t1, ry.t1.t1⟩ ∧ r.t1.t2 = ⟨rx.t1.t2, ry.t1.t2⟩ ∧ r.t1.t3 = ⟨rx.t1.t3, ry.t1.t3⟩ := by
  refine ⟨rfl, rfl, rfl, rfl, rfl, rfl, rfl, rfl⟩

theorem section_control_points_V2 (a b c d : V2 K) (sec : SectionT K) :
    let r := section_control_points a b c d sec
    let rx := section_control_points a.x b.x c.x d.x sec
    let ry := section_control_points a.y b.y c.y d.y sec
    r.t0 = ⟨rx.t0, ry.t0⟩ ∧ r.t1 = ⟨rx.t1, ry.t1⟩ := by
  exact ⟨rfl, rfl⟩

theorem basis_eq_de_casteljau4_V2 (t : K) (a b c d : V2 K) : basis t a b c d = de_casteljau4 t a b c d := by
  rw [basis_V2, de_casteljau4_V2, basis_eq_de_casteljau4, basis_eq_de_casteljau4]

theorem subdivide_left_V2 (t s : K) (a b c d : V2 K) :
    let l := (curve_subdivide a b c d t).t0
    basis s l.t0 l.t1 l.t2 l.t3 = basis (s * t) a b c d := by
  intro l
  rw [basis_V2, basis_V2]
  have hx := subdivide_left t s a.x b.x c.x d.x
  have hy := subdivide_left t s a.y b.y c.y d.y
  simp only at hx hy
  rw [← hx, ← hy]
  rfl

example : basis (0.5 : ℚ) 0 1 3 2 = de_casteljau4 (0.5 : ℚ) 0 1 3 2 := basis_eq_de_casteljau4 _ _ _ _ _
example : ((1 : ℚ) / 4) ≠ 1 := by norm_num

end C05
