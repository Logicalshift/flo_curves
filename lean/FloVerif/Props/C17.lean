/-
C17  Contour tracing returns exactly the boundary of the sampled shape: the cell table, the edge numbering, and that
merged runs are separated.  `Gen.cell_connected_edges`, `Gen.cell_from_corners`, `Gen.edge_at_coordinates`,
`Gen.edge_to_contour_coords` are regenerated from marching_squares.rs / sampled_contour.rs on every check.
The scan iterator and the tracer are the hand models of `Model/Contour.lean`, tied to the code by exhaustive
exact correspondence.
-/
import FloVerif.Model.Contour
import Mathlib.Tactic.Ring

namespace C17
open Prelude Gen Model.Contour

/-- corner bits of a cell value: tl = 1, tr = 2, bl = 4, br = 8 -/
def tl (c : Nat) : Bool := c % 2 == 1
def tr (c : Nat) : Bool := (c / 2) % 2 == 1
def bl (c : Nat) : Bool := (c / 4) % 2 == 1
def br (c : Nat) : Bool := (c / 8) % 2 == 1

/-- the sides of a cell whose two corners differ (left joins tl–bl, top tl–tr, right tr–br, bottom bl–br) -/
def sideMixed (c side : Nat) : Bool :=
  if side == edge_left then tl c != bl c
  else if side == edge_top then tl c != tr c
  else if side == edge_right then tr c != br c
  else if side == edge_bottom then bl c != br c
  else false

/-- all sides named by the table entry of a cell, with multiplicity -/
def sidesOf (c : Nat) : List Nat := (cell_connected_edges c).flatMap (fun p => [p.1, p.2])

/-- the packing of the corner bits (the whole domain: 16 combinations) -/
theorem from_corners_bits : ∀ a b c d : Bool,
    tl (cell_from_corners a b c d) = a ∧ tr (cell_from_corners a b c d) = b ∧
    bl (cell_from_corners a b c d) = c ∧ br (cell_from_corners a b c d) = d ∧ cell_from_corners a b c d < 16 := by
  decide

/-- the marching-squares table (the whole domain: all 16 cells): a cell connects exactly the sides whose two
    corners differ, each exactly once; in particular the empty and the full cell connect nothing, and every
    pair joins two distinct sides -/
theorem table_spec : ∀ c < 16, (∀ side < 4, (sidesOf c).count side = if sideMixed c side then 1 else 0) ∧
    (∀ p ∈ cell_connected_edges c, p.1 ≠ p.2 ∧ p.1 < 4 ∧ p.2 < 4) := by
  decide

/-- an even number of sides is mixed, so the pairs use them all -/
theorem table_pairs_count : ∀ c < 16, 2 * (cell_connected_edges c).length =
    ((List.range 4).filter (sideMixed c)).length := by
  decide

theorem row_div_mod {n x : Nat} (y : Nat) (hx : x < n) : (n * y + x) / n = y ∧ (n * y + x) % n = x := by
  rw [Nat.mul_add_div (by omega), Nat.div_eq_of_lt hx, Nat.mul_add_mod, Nat.mod_eq_of_lt hx]
  exact ⟨rfl, rfl⟩

theorem row_index_inj {n x y x' y' : Nat} (hx : x < n) (hx' : x' < n) (h : n * y + x = n * y' + x') :
    x = x' ∧ y = y' := by
  have a := row_div_mod y hx
  rw [h] at a
  have b := row_div_mod y' hx'
  exact ⟨a.2.symm.trans b.2, a.1.symm.trans b.1⟩

private theorem shl_or_bit (o : Nat) {b : Nat} (hb : b < 2) : (o <<< 1 ||| b) = 2 * o + b := by
  rw [Nat.shiftLeft_eq, Nat.mul_comm, ← Nat.two_pow_add_eq_or_of_lt (i := 1) hb o]

theorem at_coordinates_eq (w x y : Nat) :
    edge_at_coordinates edge_left w x y = 2 * ((w + 1) * y + x) ∧
    edge_at_coordinates edge_top w x y = 2 * ((w + 1) * y + x) + 1 ∧
    edge_at_coordinates edge_right w x y = 2 * ((w + 1) * y + x + 1) ∧
    edge_at_coordinates edge_bottom w x y = 2 * ((w + 1) * y + x + (w + 1)) + 1 :=
  ⟨shl_or_bit _ (by decide), shl_or_bit _ (by decide), shl_or_bit _ (by decide), shl_or_bit _ (by decide)⟩

/-- neighbouring cells name a shared side by the same edge id: the right side of (x,y) is the left side of
    (x+1,y) and the bottom side of (x,y) is the top side of (x,y+1) -/
theorem edge_ids_shared (w x y : Nat) :
    edge_at_coordinates edge_right w x y = edge_at_coordinates edge_left w (x + 1) y ∧
    edge_at_coordinates edge_bottom w x y = edge_at_coordinates edge_top w x (y + 1) := by
  obtain ⟨_, _, h3, h4⟩ := at_coordinates_eq w x y
  obtain ⟨h1', _, _, _⟩ := at_coordinates_eq w (x + 1) y
  obtain ⟨_, h2', _, _⟩ := at_coordinates_eq w x (y + 1)
  rw [h3, h4, h1', h2']
  constructor <;> ring

/-- distinct sides of distinct cells never share an id otherwise: ids of vertical sides are even, of
    horizontal sides odd, and within one kind the id determines the position (for x ≤ w) -/
theorem edge_id_injective (w x y x' y' : Nat) (hx : x ≤ w) (hx' : x' ≤ w) :
    (edge_at_coordinates edge_left w x y = edge_at_coordinates edge_left w x' y' → x = x' ∧ y = y') ∧
    (edge_at_coordinates edge_top w x y = edge_at_coordinates edge_top w x' y' → x = x' ∧ y = y') ∧
    edge_at_coordinates edge_left w x y ≠ edge_at_coordinates edge_top w x' y' := by
  obtain ⟨h1, h2, _, _⟩ := at_coordinates_eq w x y
  obtain ⟨h1', h2', _, _⟩ := at_coordinates_eq w x' y'
  rw [h1, h2, h1', h2']
  have key := row_index_inj (n := w + 1) (y := y) (y' := y') (Nat.lt_succ_of_le hx) (Nat.lt_succ_of_le hx')
  exact ⟨fun h => key (by omega), fun h => key (by omega), by omega⟩

/-- `to_contour_coords` inverts the numbering: the top side of cell (x,y) is the edge between positions
    (x,y) and (x+1,y), the left side the edge between (x,y) and (x,y+1) (positions are samples shifted by one) -/
theorem to_contour_coords_at_coordinates (w x y : Nat) (hx : x ≤ w) :
    edge_to_contour_coords (edge_at_coordinates edge_top w x y) w = T2.mk (T2.mk x y) (T2.mk (x + 1) y) ∧
    edge_to_contour_coords (edge_at_coordinates edge_left w x y) w = T2.mk (T2.mk x y) (T2.mk x (y + 1)) := by
  obtain ⟨h1, h2, _, _⟩ := at_coordinates_eq w x y
  rw [h1, h2]
  obtain ⟨hdiv, hmod⟩ := row_div_mod (n := w + 1) y (Nat.lt_succ_of_le hx)
  have s1 : (2 * ((w + 1) * y + x) + 1) >>> 1 = (w + 1) * y + x := by
    simp [Nat.shiftRight_eq_div_pow]; omega
  have s0 : (2 * ((w + 1) * y + x)) >>> 1 = (w + 1) * y + x := by
    simp [Nat.shiftRight_eq_div_pow]
  have a1 : (2 * ((w + 1) * y + x) + 1) &&& 1 = 1 := by simp [Nat.and_one_is_mod]
  have a0 : (2 * ((w + 1) * y + x)) &&& 1 = 0 := by simp [Nat.and_one_is_mod]
  constructor
  · simp only [edge_to_contour_coords, edge_is_horizontal, s1, a1, hdiv, hmod]
    rfl
  · simp only [edge_to_contour_coords, edge_is_horizontal, s0, a0, hdiv, hmod]
    rfl

/-- strictly separated: each run ends before the next one starts -/
def Separated : List Run → Prop
  | a :: b :: rest => a.2 < b.1 ∧ Separated (b :: rest)
  | _ => True

/-- `merge_overlapping_intercepts` produces strictly separated runs from runs sorted by start — the invariant
    the scan iterator's corner tests and skip-ahead moves depend on -/
theorem mergeRuns_separated (l : List Run) (hs : l.Pairwise (fun a b => a.1 ≤ b.1)) :
    Separated (mergeRuns l) ∧ (∀ a, (mergeRuns l).head? = some a → ∃ b, l.head? = some b ∧ a.1 = b.1) := by
  induction l using mergeRuns.induct with
  | case1 a b rest hge ih =>
    rw [mergeRuns.eq_1, if_pos hge]
    obtain ⟨h1, h2⟩ := List.pairwise_cons.1 hs
    obtain ⟨ih1, ih2⟩ := ih (List.pairwise_cons.2
      ⟨fun c hc => h1 c (List.mem_cons_of_mem _ hc), (List.pairwise_cons.1 h2).2⟩)
    refine ⟨ih1, fun x hx => ?_⟩
    obtain ⟨y, hy, hxy⟩ := ih2 x hx
    exact ⟨a, rfl, hxy.trans (Option.some.inj hy ▸ rfl)⟩
  | case2 a b rest hlt ih =>
    rw [mergeRuns.eq_1, if_neg hlt]
    obtain ⟨ih1, ih2⟩ := ih (List.pairwise_cons.1 hs).2
    refine ⟨?_, fun x hx => ⟨a, rfl, (Option.some.inj hx) ▸ rfl⟩⟩
    match hm : mergeRuns (b :: rest) with
    | [] => trivial
    | c :: more =>
      obtain ⟨y, hy, hcy⟩ := ih2 c (by rw [hm]; rfl)
      rw [hm] at ih1
      exact ⟨hcy ▸ Option.some.inj hy ▸ Nat.lt_of_not_le hlt, ih1⟩
  | case3 l hl =>
    rw [mergeRuns.eq_2 l hl]
    match l, hl with
    | [], _ => exact ⟨trivial, nofun⟩
    | [a], _ => exact ⟨trivial, fun x hx => ⟨x, hx, rfl⟩⟩
    | a :: b :: rest, hl => exact absurd rfl (hl a b rest)

example : mergeRuns [(0, 2), (2, 3), (5, 6)] = [(0, 3), (5, 6)] ∧ Separated (mergeRuns [(0, 2), (2, 3), (5, 6)]) := by
  simp [mergeRuns, Separated]

/-! non-vacuity: a single pixel has 4 edge cells -/
example : edgeCells 1 [[true]] = mixedCells 1 [[true]] ∧ (edgeCells 1 [[true]]).length = 4 := by decide

end C17
