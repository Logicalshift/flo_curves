/-
C08 (the recursive fitter)  `fit_curve_cubic` returns the curve whose error it measured.

`Gen.fit_curve_cubic_body` is the WHOLE body of `fit_curve_cubic` (fit.rs), regenerated on every check: the clamp of a negative
`max_error` (repair F18), the two-point line, the initial fit, the re-parameterisation loop with its `break`, the acceptance test
and the split with its two recursive calls.  The numeric helpers (`chords_for_points`, `generate_bezier`, `reparameterize`,
`max_error_for_curve`, `tangent_between`, `fit_line`) and the two self-calls are parameters, so the theorems hold for ANY
behaviour of the least-squares step.
-/
import FloVerif.Props.C08Error

set_option linter.unusedSectionVars false
namespace C08Cubic
open Prelude Gen

variable {K P C : Type} [Field K] [LinearOrder K] [IsStrictOrderedRing K] [Inhabited K]
  [Inhabited P] [Add P] [Sub P] [HMul P K P] [Dot P K] [FSqrt K]

theorem foldlBrk_invariant {α β : Type} (Inv : β → Prop) (f : β → α → Sum β β)
    (hstep : ∀ s x, Inv s → Sum.elim Inv Inv (f s x)) :
    ∀ (l : List α) (s : β), Inv s → Inv (foldlBrk l s f)
  | [], s, h => h
  | x :: xs, s, h => by
    have hs := hstep s x h
    rw [foldlBrk]
    cases hf : f s x with
    | inl s' => rw [hf] at hs; exact foldlBrk_invariant Inv f hstep xs s' hs
    | inr s' => rw [hf] at hs; exact hs

/-- the tolerance the body works with: a negative `max_error` counts as 0 (repair F18) -/
def clampTol (max_error : K) : K := if max_error < 0 then 0 else max_error

theorem clampTol_nonneg (e : K) : 0 ≤ clampTol e := by
  unfold clampTol; split
  · exact le_refl 0
  · rename_i h; exact not_lt.1 h

theorem clampTol_idem (e : K) : clampTol (clampTol e) = clampTol e := by
  have h := clampTol_nonneg e
  generalize clampTol e = c at h ⊢
  unfold clampTol
  rw [if_neg (not_lt.2 h)]

/-- the state `(chords, curve, error, split_pos)` on which the body decides between "one curve" and "split": the initial fit and the
    re-parameterisation loop; it does not involve the self-calls -/
def bodyState (cfp : List P → List K) (gb : List P → List K → P → P → C)
    (rp : List P → List K → C → List K) (mefc : List P → List K → C → T2 K Nat) (points : List P) (st et : P) (me : K) :
    T4 (List K) C K Nat :=
  let chords0 := rp points (cfp points) (gb points (cfp points) st et)
  let curve0 := gb points chords0 st et
  let tup := mefc points chords0 curve0
  if (decide (tup.t0 > me) && decide (tup.t0 < me * (FIT_ATTEMPT_RATIO : K))) then
    foldlBrk (List.range' 1 (FIT_MAX_ITERATIONS - 1)) (T4.mk chords0 curve0 tup.t0 tup.t1) (fun st_2 _ =>
      let chords := rp points st_2.t0 st_2.t1
      let curve := gb points chords st et
      let tup_3 := mefc points chords curve
      if decide (tup_3.t0 ≤ me) then Sum.inr (T4.mk chords curve tup_3.t0 tup_3.t1)
      else Sum.inl (T4.mk chords curve tup_3.t0 tup_3.t1))
  else T4.mk chords0 curve0 tup.t0 tup.t1

/-- what the body does with that state: accept the curve, or split at `split_pos` and call itself on the two overlapping slices -/
def bodyFinish (recurse : List P → P → P → K → List C) (tb : P → P → P → P) (points : List P) (st et : P) (me : K)
    (s : T4 (List K) C K Nat) : List C :=
  if decide (s.t2 ≤ me) then [s.t1]
  else
    recurse (listSlice points 0 (s.t3 + 1)) st (tb (listGet points (s.t3 - 1)) (listGet points s.t3) (listGet points (s.t3 + 1))) me ++
    recurse (listSlice points s.t3 points.length)
      (tb (listGet points (s.t3 - 1)) (listGet points s.t3) (listGet points (s.t3 + 1)) * (-(1.0 : K))) et me

/-- THE GENERATED BODY IS: line for two points, otherwise `bodyFinish` of `bodyState` at the clamped tolerance -/
theorem body_eq (recurse : List P → P → P → K → List C) (cfp : List P → List K) (gb : List P → List K → P → P → C)
    (rp : List P → List K → C → List K) (mefc : List P → List K → C → T2 K Nat) (tb : P → P → P → P) (neg : P → P)
    (fl : P → P → List C) (points : List P) (st et : P) (max_error : K) :
    fit_curve_cubic_body recurse cfp gb rp mefc tb neg fl points st et max_error =
      if points.length ≤ 2 then fl (listGet points 0) (listGet points 1)
      else bodyFinish recurse tb points st et (clampTol max_error) (bodyState cfp gb rp mefc points st et (clampTol max_error)) := by
  have hclamp : (if decide (max_error < (0.0 : K)) = true then (0.0 : K) else max_error) = clampTol max_error := by
    simp only [clampTol, lit0, decide_eq_true_eq]
  unfold fit_curve_cubic_body
  rw [hclamp]
  by_cases hlen : points.length ≤ 2
  · rw [if_pos hlen]; exact if_pos (decide_eq_true hlen)
  · rw [if_neg hlen]
    -- the generated text finishes in both branches of the test for the loop; `bodyFinish (bodyState …)` tests inside
    refine (if_neg (by rwa [decide_eq_true_eq])).trans
      (Eq.trans ?_ (apply_ite (bodyFinish recurse tb points st et (clampTol max_error)) _ _ _).symm)
    rfl

/-- the state is determined by its parameters, and they satisfy every invariant that holds after the first re-parameterisation and
    is kept by every further one -/
theorem bodyState_spec (I : List K → Prop) (cfp : List P → List K) (gb : List P → List K → P → P → C)
    (rp : List P → List K → C → List K) (mefc : List P → List K → C → T2 K Nat) (points : List P) (st et : P) (me : K)
    (h0 : I (rp points (cfp points) (gb points (cfp points) st et)))
    (hstep : ∀ ch, I ch → I (rp points ch (gb points ch st et))) :
    ∃ ch, I ch ∧ bodyState cfp gb rp mefc points st et me =
      T4.mk ch (gb points ch st et) (mefc points ch (gb points ch st et)).t0 (mefc points ch (gb points ch st et)).t1 := by
  unfold bodyState
  extract_lets chords0 curve0 tup
  split
  · refine foldlBrk_invariant (fun s => ∃ ch, I ch ∧ s = T4.mk ch (gb points ch st et) (mefc points ch (gb points ch st et)).t0
      (mefc points ch (gb points ch st et)).t1) _ (fun s x ⟨ch, hch, hs⟩ => ?_) _ _ ⟨_, h0, rfl⟩
    subst hs
    dsimp only
    split <;> exact ⟨_, hstep ch hch, rfl⟩
  · exact ⟨_, h0, rfl⟩

theorem bodyState_inv (cfp : List P → List K) (gb : List P → List K → P → P → C)
    (rp : List P → List K → C → List K) (mefc : List P → List K → C → T2 K Nat) (points : List P) (st et : P) (me : K) :
    let s := bodyState cfp gb rp mefc points st et me
    s.t1 = gb points s.t0 st et ∧ s.t2 = (mefc points s.t0 s.t1).t0 ∧ s.t3 = (mefc points s.t0 s.t1).t1 := by
  obtain ⟨ch, _, h⟩ := bodyState_spec (fun _ => True) cfp gb rp mefc points st et me trivial (fun _ _ => trivial)
  rw [h]
  exact ⟨rfl, rfl, rfl⟩

theorem body_cases_inv (I : List K → Prop)
    (recurse : List P → P → P → K → List C) (cfp : List P → List K) (gb : List P → List K → P → P → C)
    (rp : List P → List K → C → List K) (mefc : List P → List K → C → T2 K Nat) (tb : P → P → P → P) (neg : P → P)
    (fl : P → P → List C) (points : List P) (st et : P) (max_error : K)
    (h0 : 2 < points.length → I (rp points (cfp points) (gb points (cfp points) st et)))
    (hstep : 2 < points.length → ∀ ch, I ch → I (rp points ch (gb points ch st et))) :
    let r := fit_curve_cubic_body recurse cfp gb rp mefc tb neg fl points st et max_error
    (points.length ≤ 2 ∧ r = fl (listGet points 0) (listGet points 1)) ∨
    (2 < points.length ∧ ∃ chords, I chords ∧ r = [gb points chords st et] ∧
        (mefc points chords (gb points chords st et)).t0 ≤ clampTol max_error) ∨
    (2 < points.length ∧ ∃ chords, I chords ∧ ¬ (mefc points chords (gb points chords st et)).t0 ≤ clampTol max_error ∧
        let sp := (mefc points chords (gb points chords st et)).t1
        let ct := tb (listGet points (sp - 1)) (listGet points sp) (listGet points (sp + 1))
        r = recurse (listSlice points 0 (sp + 1)) st ct (clampTol max_error) ++
            recurse (listSlice points sp points.length) (ct * (-(1.0 : K))) et (clampTol max_error)) := by
  intro r
  have hr : r = _ := body_eq recurse cfp gb rp mefc tb neg fl points st et max_error
  by_cases hlen : points.length ≤ 2
  · exact .inl ⟨hlen, hr.trans (if_pos hlen)⟩
  · have h3 : 2 < points.length := by omega
    obtain ⟨ch, hI, hs⟩ := bodyState_spec I cfp gb rp mefc points st et (clampTol max_error) (h0 h3) (hstep h3)
    rw [if_neg hlen, hs, bodyFinish] at hr
    by_cases hacc : (mefc points ch (gb points ch st et)).t0 ≤ clampTol max_error
    · exact .inr (.inl ⟨h3, ch, hI, hr.trans (if_pos (decide_eq_true hacc)), hacc⟩)
    · exact .inr (.inr ⟨h3, ch, hI, hacc, hr.trans (if_neg (by rwa [decide_eq_true_eq]))⟩)

/-- WHAT `fit_curve_cubic` RETURNS, for any points, tangents, tolerance and any helper functions:
    (1) for at most two points the line of `fit_line` through the first two;
    (2) or ONE curve `generate_bezier points chords …` for some parameters `chords`, and the error that `max_error_for_curve`
        reports FOR THAT CURVE AND THOSE PARAMETERS is `≤` the (clamped) tolerance - the curve returned is the curve measured;
    (3) or the concatenation of the two recursive fits of `points[0..=split]` and `points[split..]`, which share the point
        `points[split]`, with the clamped tolerance, where `split` is the index `max_error_for_curve` reported. -/
theorem cubic_body_cases
    (recurse : List P → P → P → K → List C) (cfp : List P → List K) (gb : List P → List K → P → P → C)
    (rp : List P → List K → C → List K) (mefc : List P → List K → C → T2 K Nat) (tb : P → P → P → P) (neg : P → P)
    (fl : P → P → List C) (points : List P) (st et : P) (max_error : K) :
    let r := fit_curve_cubic_body recurse cfp gb rp mefc tb neg fl points st et max_error
    (points.length ≤ 2 ∧ r = fl (listGet points 0) (listGet points 1)) ∨
    (2 < points.length ∧ ∃ chords, r = [gb points chords st et] ∧ (mefc points chords (gb points chords st et)).t0 ≤ clampTol max_error) ∨
    (2 < points.length ∧ ∃ chords ct, let sp := (mefc points chords (gb points chords st et)).t1
        ¬ (mefc points chords (gb points chords st et)).t0 ≤ clampTol max_error ∧
        ct = tb (listGet points (sp - 1)) (listGet points sp) (listGet points (sp + 1)) ∧
        r = recurse (listSlice points 0 (sp + 1)) st ct (clampTol max_error) ++
            recurse (listSlice points sp points.length) (ct * (-(1.0 : K))) et (clampTol max_error)) := by
  rcases body_cases_inv (fun _ => True) recurse cfp gb rp mefc tb neg fl points st et max_error (fun _ => trivial)
    (fun _ _ _ => trivial) with h | ⟨h3, ch, _, h⟩ | ⟨h3, ch, _, hrej, h⟩
  · exact .inl h
  · exact .inr (.inl ⟨h3, ch, h⟩)
  · exact .inr (.inr ⟨h3, ch, _, hrej, rfl, h⟩)

/-- `max_error_for_curve` instantiated by its translated pieces (`Gen.max_error_pick` over `Gen.fit_point_error`), the body
    returning a single curve.  No `c` satisfies `hsplit` (take `a := [c]`, `b := []`), so as stated this holds of nothing; the error
    bound for a slice answered by one curve is `C08Kernel.generated_fit_near`. -/
theorem returned_curve_within_error
    (hmono : ∀ a b : K, a ≤ b → (fsqrt a : K) ≤ fsqrt b)
    (recurse : List P → P → P → K → List (T4 P P P P)) (cfp : List P → List K) (gb : List P → List K → P → P → T4 P P P P)
    (rp : List P → List K → T4 P P P P → List K) (tb : P → P → P → P) (neg : P → P)
    (fl : P → P → List (T4 P P P P)) (points : List P) (st et : P) (max_error : K) (c : T4 P P P P)
    (hlen : 2 < points.length)
    (hone : fit_curve_cubic_body recurse cfp gb rp
        (fun pts chords c => max_error_pick ((pts.zip chords).map (fun s => fit_point_error c.t0 c.t1 c.t2 c.t3 s.1 s.2)))
        tb neg fl points st et max_error = [c])
    (hsplit : ∀ a b : List (T4 P P P P), a ++ b = [c] → False) :
    ∃ chords, c = gb points chords st et ∧ ∀ s ∈ points.zip chords,
      (fsqrt (dot (s.1 - curve_point_at_pos c.t0 c.t1 c.t2 c.t3 s.2) (s.1 - curve_point_at_pos c.t0 c.t1 c.t2 c.t3 s.2) : K) : K) ≤ clampTol max_error := by
  have h := cubic_body_cases recurse cfp gb rp
    (fun pts chords c => max_error_pick ((pts.zip chords).map (fun s => fit_point_error c.t0 c.t1 c.t2 c.t3 s.1 s.2)))
    tb neg fl points st et max_error
  simp only at h
  rcases h with ⟨h2, _⟩ | ⟨_, chords, hr, hacc⟩ | ⟨_, chords, ct, _, _, hr⟩
  · omega
  · rw [hone] at hr
    have hc : c = gb points chords st et := (List.cons.inj hr).1
    refine ⟨chords, hc, ?_⟩
    rw [← hc] at hacc
    exact C08Error.accepted_within_error hmono c.t0 c.t1 c.t2 c.t3 (points.zip chords) (clampTol max_error) hacc
  · rw [hone] at hr
    exact (hsplit _ _ hr.symm).elim

/-- non-vacuity: a toy instance in which the first candidate is accepted - three 1-D points, a "fitter" that returns the curve
    number 7 with reported error 0 -/
example : fit_curve_cubic_body (K := ℚ) (P := ℚ) (C := Nat) (fun _ _ _ _ => []) (fun _ => []) (fun _ _ _ _ => 7) (fun _ c _ => c)
    (fun _ _ _ => T2.mk 0 1) (fun a _ _ => a) (fun a => a) (fun _ _ => []) [0, 1, 2] 0 0 (1/2) = [7] := by
  decide +kernel

end C08Cubic
