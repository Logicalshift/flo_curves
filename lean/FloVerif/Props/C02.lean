/-
C02  Curve-curve intersection by Bézier clipping (`curve_intersects_curve_clip`): the recursion around the clip step.

What the theorems are about.  `Gen.curve_intersects_curve_clip_inner` is the translation of the WHOLE body of the Rust
function (zero-length tests, the clipping loop with all its `return`s, the split branch, the final mid-parameter
answer), `Gen.curve_intersects_curve_clip` that of the public wrapper (overlap shortcut on the two whole curves, then the
inner function), `Gen.join_subsections`, `Gen.curve_hull_length_sq`, `Gen.section_fast_bounding_box` and `Gen.clip`
(C13) are translated whole as well; all are regenerated from the Rust source on every check.  The function's two calls to
itself are calls of a parameter, and `Model.CurveClip.clipInner cx d` ties the knot with recursion depth `d`.  The two
callees that end in the external `roots` crate are parameters of the model (`cx.ovl` = `overlapping_region`,
`cx.lin12`/`cx.lin21` = `intersections_with_linear_section` in its two call positions): the theorems hold for ANY such
functions.  `CurveClipLemmas.inner_eq` (by `rfl`) / `top_eq` identify the generated terms with the compact forms the proofs use.

Number model as in C13: any linearly ordered field, `f64::abs = |·|`, `f64::sqrt` an arbitrary function, sentinels
`1 ≤ f64::MAX`, `f64::MIN ≤ 0` (hypotheses `hM`, `hm`).  Rounding is not modelled.

The theorems (all for every pair of cubics, every accuracy, every recursion depth, every pair of oracle functions):
 1. `clip_never_loses`          one clip step keeps a true intersection, WITHOUT the 1e-5 slack of C13
 2. `results_have_origin`       every returned pair is a converged mid-pair, an overlap-shortcut pair or a linear-fall-back pair
 3. `returned_parameters_in_range`  RANGE: all returned parameters are in [0,1] if the oracles' are
 4. `converged_pair_close`      SOUNDNESS of the loop's own exit: the two points are within `√12·accuracy` (< 0.035 for 0.01)
                                unless a final section is `is_tiny`;  `convergence_test_tiny_counterexample`: for `is_tiny`
                                sections the test passes with points 0.19 apart (curves inside the 100×100 box)
 5. `search_complete`           COMPLETENESS OF THE SEARCH STRUCTURE: a true intersection is covered by a returned pair, or
                                the overlap shortcut fired (once, on the whole curves), or it is lost in one of the named
                                ways of `LostCall`/`LostLoop`; `covered_pair_near_intersection`
 6. `return_on_clip_none_justified`, `return_on_box_reject_justified`   the two `return smallvec![]` of the loop that never
                                lose a true intersection
 7. `join_keeps_or_close`, `join_invents_nothing`, `join_compares_the_hits`   `join_subsections`
 8. `recursion_depth_irrelevant`, `recursion_bounded`   the recursion goes at most 20 deep; the model's depth parameter does
                                not matter from 21 on
-/
import FloVerif.Lemmas.CurveClipRun
import FloVerif.Lemmas.CurveClipDepth

set_option linter.unusedSectionVars false
namespace C02
open Prelude Gen FatLineLemmas ClipExact CurveClipLemmas Model.CurveClip

variable {K : Type} [Field K] [LinearOrder K] [IsStrictOrderedRing K] [Inhabited K] [FSqrt K] [FConsts K]

/-- in exact arithmetic `f64::abs` is the absolute value -/
local instance : FAbs K := ⟨fun a => |a|⟩

/-! ## 1. the clip step -/

/-- CLIP NEVER LOSES A MEETING POINT (sharp form of C13's `clip_keeps_intersections`).  If the point of the first curve
    at `t ∈ [0,1]` lies on the second curve (whose end points are more than 1e-7 apart), then `clip` answers
    `SecondCurveIsLinear` or a range `[t1, t2]` with `t1 ≤ t ≤ t2` - exactly, not up to the snapping window 0.00001 of
    `round_y_value`: snapping can only produce the ranges `[0,0]` and `[1,1]`, which `clip` widens by 0.005. -/
theorem clip_never_loses (hM : 1 ≤ (fmaxval : K)) (hm : (fminval : K) ≤ 0) (c1 c2 c3 c4 a1 a2 a3 a4 : V2 K)
    (hfar : is_near_to a1 a4 (0.0000001 : K) = false) (t s : K) (ht0 : 0 ≤ t) (ht1 : t ≤ 1) (hs0 : 0 ≤ s) (hs1 : s ≤ 1)
    (hmeet : de_casteljau4 t c1 c2 c3 c4 = de_casteljau4 s a1 a2 a3 a4) :
    clip c1 c2 c3 c4 a1 a2 a3 a4 = ClipResult.SecondCurveIsLinear ∨
    ∃ r, clip c1 c2 c3 c4 a1 a2 a3 a4 = ClipResult.Some r ∧ r.t0 ≤ t ∧ t ≤ r.t1 :=
  clip_keeps_exact hM hm c1 c2 c3 c4 a1 a2 a3 a4 hfar t s ht0 ht1 hs0 hs1 hmeet

/-- every range `clip` returns satisfies `0 ≤ t1 ≤ t2 ≤ 1`, so a clipped section of [0,1] is a section of [0,1] -/
theorem clip_range_in_unit (hM : 1 ≤ (fmaxval : K)) (hm : (fminval : K) ≤ 0) (c1 c2 c3 c4 a1 a2 a3 a4 : V2 K) (r : T2 K K)
    (h : clip c1 c2 c3 c4 a1 a2 a3 a4 = ClipResult.Some r) : 0 ≤ r.t0 ∧ r.t0 ≤ r.t1 ∧ r.t1 ≤ 1 :=
  clip_range hM hm c1 c2 c3 c4 a1 a2 a3 a4 r h

variable (cx : Ctx K) (acc : K)

/-- the model's top-level function: the overlap shortcut on the two whole curves, otherwise the inner function on the two
    whole curves with `accuracy²` -/
theorem clipTop_eq (d : Nat) :
    clipTop cx d acc =
      match cx.ovl (section_new (0.0 : K) (1.0 : K)) (section_new (0.0 : K) (1.0 : K)) with
      | some o => overlapHits (section_new (0.0 : K) (1.0 : K)) (section_new (0.0 : K) (1.0 : K)) o
      | none => clipInner cx d (section_new (0.0 : K) (1.0 : K)) (section_new (0.0 : K) (1.0 : K)) acc (acc * acc) :=
  top_eq cx acc (clipInner cx d)

/-! ## 2. - 4. soundness side -/

/-- ORIGIN: every pair returned by `curve_intersects_curve_clip` (any recursion depth) is
    (1) the pair of mid-parameters of two sections of [0,1] that passed the convergence test and whose boxes overlap, or
    (2) an answer of the overlap shortcut (taken once, for the two whole curves), or (3)/(4) an answer of the linear fall-back mapped back through `t_for_t`,
    taken because `clip` found the fat line of a section flat.  There is no other source. -/
theorem results_have_origin (hM : 1 ≤ (fmaxval : K)) (hm : (fminval : K) ≤ 0) (d : Nat) :
    ∀ h ∈ clipTop cx d acc, Origin cx acc (acc * acc) h := by
  intro h hh
  rw [clipTop_eq] at hh
  cases ho : cx.ovl (section_new (0.0 : K) (1.0 : K)) (section_new (0.0 : K) (1.0 : K)) with
  | some o => rw [ho] at hh; exact Origin.overlap o h ho hh
  | none =>
    rw [ho] at hh
    exact clipInner_origin cx acc (acc * acc) hM hm d _ _ sub01_whole sub01_whole h hh

/-- RANGE: if the two oracles only return parameters in [0,1] (as `overlapping_region` and
    `intersections_with_linear_section` are meant to), every returned pair has both parameters in [0,1]: sections of
    sections stay inside [0,1], and `t_for_t` of a section of [0,1] maps [0,1] into [0,1]. -/
theorem returned_parameters_in_range (hM : 1 ≤ (fmaxval : K)) (hm : (fminval : K) ≤ 0) (d : Nat)
    (hovl : ∀ o, cx.ovl (section_new (0.0 : K) (1.0 : K)) (section_new (0.0 : K) (1.0 : K)) = some o →
      (0 ≤ o.t0.t0 ∧ o.t0.t0 ≤ 1) ∧ (0 ≤ o.t0.t1 ∧ o.t0.t1 ≤ 1) ∧ (0 ≤ o.t1.t0 ∧ o.t1.t0 ≤ 1) ∧ (0 ≤ o.t1.t1 ∧ o.t1.t1 ≤ 1))
    (hlin12 : ∀ c1 c2, ∀ g ∈ cx.lin12 c1 c2 acc, (0 ≤ g.t0 ∧ g.t0 ≤ 1) ∧ (0 ≤ g.t1 ∧ g.t1 ≤ 1))
    (hlin21 : ∀ c1 c2, ∀ g ∈ cx.lin21 c2 c1 acc, (0 ≤ g.t0 ∧ g.t0 ≤ 1) ∧ (0 ≤ g.t1 ∧ g.t1 ≤ 1)) :
    ∀ h ∈ clipTop cx d acc, (0 ≤ h.t0 ∧ h.t0 ≤ 1) ∧ (0 ≤ h.t1 ∧ h.t1 ≤ 1) := by
  intro h hh
  have ho := results_have_origin cx acc hM hm d h hh
  cases ho with
  | converged F1 F2 s1 s2 _ _ _ =>
    exact ⟨inSec_01 F1 s1 _ (midT_inSec F1), inSec_01 F2 s2 _ (midT_inSec F2)⟩
  | overlap o h ho hmem =>
    obtain ⟨a, b, c, e⟩ := hovl o ho
    have s1 : Sub01 (section_new (0.0 : K) (1.0 : K)) := sub01_whole
    rcases mem_overlapHits _ _ o h hmem with rfl | rfl
    · exact ⟨t_for_t_01 _ s1 _ a.1 a.2, t_for_t_01 _ s1 _ c.1 c.2⟩
    · exact ⟨t_for_t_01 _ s1 _ b.1 b.2, t_for_t_01 _ s1 _ e.1 e.2⟩
  | linear12 c1 c2 g s1 s2 _ hg =>
    obtain ⟨a, b⟩ := hlin12 c1 c2 g hg
    exact ⟨t_for_t_01 c1 s1 _ a.1 a.2, t_for_t_01 c2 s2 _ b.1 b.2⟩
  | linear21 c1 c2 g s1 s2 _ hg =>
    obtain ⟨a, b⟩ := hlin21 c1 c2 g hg
    exact ⟨t_for_t_01 c1 s1 _ b.1 b.2, t_for_t_01 c2 s2 _ a.1 a.2⟩

/-- SOUNDNESS OF THE LOOP'S OWN EXIT.  What "both hulls shorter than the accuracy, boxes overlap, report the mid-parameters"
    guarantees: if neither final section is `is_tiny`, the two reported points are at most `√12·accuracy` apart
    (squared distance `≤ 12·accuracy²`; for accuracy 0.01 that is 0.0347, inside the property's 0.1).
    Each box has diameter at most `√3·√(hull_length_sq)` (three legs, Cauchy-Schwarz), the boxes share a point. -/
theorem converged_pair_close (F1 F2 : SectionT K) (h1 : Sub01 F1) (h2 : Sub01 F2)
    (t1 : section_is_tiny F1 = false) (t2 : section_is_tiny F2 = false) (acc2 : K)
    (l1 : len1 cx F1 ≤ acc2) (l2 : len2 cx F2 ≤ acc2) (hov : bounds_overlaps (box1 cx F1) (box2 cx F2) = true) :
    dist2 (ptA cx (midT F1)) (ptB cx (midT F2)) ≤ 12 * acc2 := by
  obtain ⟨q, q1, q2⟩ := common_of_overlaps _ _ (box_ordered _ _ _ _ F1) (box_ordered _ _ _ _ F2) hov
  have pa := sec_point_in_box cx.a1 cx.a2 cx.a3 cx.a4 F1 h1 _ (midT_inSec F1)
  have pb := sec_point_in_box cx.b1 cx.b2 cx.b3 cx.b4 F2 h2 _ (midT_inSec F2)
  have da := box_diameter cx.a1 cx.a2 cx.a3 cx.a4 F1 t1 _ q pa q1
  have db := box_diameter cx.b1 cx.b2 cx.b3 cx.b4 F2 t2 _ q pb q2
  calc dist2 (ptA cx (midT F1)) (ptB cx (midT F2))
      ≤ 2 * (dist2 (ptA cx (midT F1)) q + dist2 (ptB cx (midT F2)) q) := dist2_triangle _ _ q
    _ ≤ 2 * (3 * acc2 + 3 * acc2) := mul_le_mul_of_nonneg_left (add_le_add
        (da.trans (mul_le_mul_of_nonneg_left l1 zero_le_three)) (db.trans (mul_le_mul_of_nonneg_left l2 zero_le_three))) zero_le_two
    _ = 12 * acc2 := by ring

/-- … but `curve_hull_length_sq` is 0 for every `is_tiny` section (parameter length below 0.001), whatever its size, so the
    convergence test says nothing about such sections -/
theorem tiny_section_has_zero_length (S : SectionT K) (h : section_is_tiny S = true) : len1 cx S = 0 ∧ len2 cx S = 0 :=
  ⟨hull_length_of_tiny _ _ _ _ S h, hull_length_of_tiny _ _ _ _ S h⟩

/-! ## 5. completeness of the search structure -/

variable (s1 s2 : K)

/-- COMPLETENESS OF THE SEARCH STRUCTURE.  Let `(s1, s2) ∈ [0,1]²` be a true intersection (`C1(s1) = C2(s2)`).  Then
    `overlapping_region` answered `Some` for the two whole curves (the overlap shortcut: the answer is its two end pairs), or
    the result of `curve_intersects_curve_clip` (model with recursion depth `d`) COVERS the intersection - it contains the
    mid-parameters of two sections that contain `s1` resp. `s2` and passed the convergence test - or the intersection is
    lost in one of the named ways of `LostCall` / `LostLoop`, which follow the actual execution along the sections that
    contain it:
      recursion depth exhausted · a section with hull length 0 (is_tiny) at entry of a call · loop fuel exhausted ·
      linear fall-back taken (either curve) · a clip against a section whose end points are within 1e-7 ·
      `join_subsections` dropped the covering hit.
    The two remaining `return smallvec![]` of the loop (clip answered `None`; boxes of the final sections do not
    overlap) are NOT in the list: they are proved never to lose a true intersection.  No clip step and no split loses it,
    and the overlap shortcut cannot fire inside the recursion. -/
theorem search_complete (hM : 1 ≤ (fmaxval : K)) (hm : (fminval : K) ≤ 0) (d : Nat)
    (h10 : 0 ≤ s1) (h11 : s1 ≤ 1) (h20 : 0 ≤ s2) (h21 : s2 ≤ 1) (hmeet : ptA cx s1 = ptB cx s2) :
    (∃ o, cx.ovl (section_new (0.0 : K) (1.0 : K)) (section_new (0.0 : K) (1.0 : K)) = some o) ∨
    Covered cx (acc * acc) s1 s2 (clipTop cx d acc) ∨
    LostCall cx acc (acc * acc) s1 s2 d (section_new (0.0 : K) (1.0 : K)) (section_new (0.0 : K) (1.0 : K)) := by
  cases ho : cx.ovl (section_new (0.0 : K) (1.0 : K)) (section_new (0.0 : K) (1.0 : K)) with
  | some o => exact Or.inl ⟨o, rfl⟩
  | none =>
    right
    rw [clipTop_eq, ho]
    exact clipInner_complete cx acc (acc * acc) s1 s2 hM hm hmeet d _ _ sub01_whole sub01_whole
      (inSec_whole s1 h10 h11) (inSec_whole s2 h20 h21)

/-- the same for any call of the inner function on sections of [0,1] that contain the intersection (the induction
    hypothesis of `search_complete`): no iteration loses an intersection, and no overlap test happens inside -/
theorem search_complete_sections (hM : 1 ≤ (fmaxval : K)) (hm : (fminval : K) ≤ 0) (acc2 : K) (d : Nat)
    (hmeet : ptA cx s1 = ptB cx s2) (c1 c2 : SectionT K) (h1 : Sub01 c1) (h2 : Sub01 c2) (i1 : InSec c1 s1) (i2 : InSec c2 s2) :
    Covered cx acc2 s1 s2 (clipInner cx d c1 c2 acc acc2) ∨ LostCall cx acc acc2 s1 s2 d c1 c2 :=
  clipInner_complete cx acc acc2 s1 s2 hM hm hmeet d c1 c2 h1 h2 i1 i2

/-- what COVERED means geometrically: the returned pair is the pair of mid-parameters of two sections `F1 ∋ s1`, `F2 ∋ s2`;
    if `F1` is not `is_tiny` the reported point of the first curve is within `√3·accuracy` of the intersection point,
    and the same for the second curve -/
theorem covered_pair_near_intersection (acc2 : K) (res : Hits K) (h : Covered cx acc2 s1 s2 res) :
    ∃ F1 F2 : SectionT K, T2.mk (midT F1) (midT F2) ∈ res ∧ InSec F1 s1 ∧ InSec F2 s2 ∧
      (section_is_tiny F1 = false → dist2 (ptA cx (midT F1)) (ptA cx s1) ≤ 3 * acc2) ∧
      (section_is_tiny F2 = false → dist2 (ptB cx (midT F2)) (ptB cx s2) ≤ 3 * acc2) := by
  obtain ⟨F1, F2, hmem, sb1, sb2, i1, i2, l1, l2⟩ := h
  refine ⟨F1, F2, hmem, i1, i2, fun ht => ?_, fun ht => ?_⟩
  · exact (box_diameter cx.a1 cx.a2 cx.a3 cx.a4 F1 ht _ _ (sec_point_in_box _ _ _ _ F1 sb1 _ (midT_inSec F1))
      (sec_point_in_box _ _ _ _ F1 sb1 s1 i1)).trans (mul_le_mul_of_nonneg_left l1 zero_le_three)
  · exact (box_diameter cx.b1 cx.b2 cx.b3 cx.b4 F2 ht _ _ (sec_point_in_box _ _ _ _ F2 sb2 _ (midT_inSec F2))
      (sec_point_in_box _ _ _ _ F2 sb2 s2 i2)).trans (mul_le_mul_of_nonneg_left l2 zero_le_three)

/-- the split step: the two halves cover the section (and are sections of [0,1]) -/
theorem halves_cover (S : SectionT K) (hS : Sub01 S) (s : K) (h : InSec S s) :
    (InSec (section_subsection S (0.0 : K) (0.5 : K)) s ∨ InSec (section_subsection S (0.5 : K) (1.0 : K)) s) ∧
    Sub01 (section_subsection S (0.0 : K) (0.5 : K)) ∧ Sub01 (section_subsection S (0.5 : K) (1.0 : K)) :=
  ⟨inSec_halves S s h, sub01_halves S hS⟩

/-! ## 6. the two early returns that are justified -/

/-- `ClipResult::None => return smallvec![]` (second curve clipped against the first) never fires while a true
    intersection is inside both sections, unless the first curve's section has end points within 1e-7 of each other -/
theorem return_on_clip_none_justified (hM : 1 ≤ (fmaxval : K)) (hm : (fminval : K) ≤ 0) (c1 c2 : SectionT K)
    (h1 : Sub01 c1) (h2 : Sub01 c2) (hmeet : ptA cx s1 = ptB cx s2) (i1 : InSec c1 s1) (i2 : InSec c2 s2)
    (hfar : nearEnds1 cx c1 = false) : clipBA cx c2 c1 ≠ ClipResult.None :=
  clipBA_ne_none cx hM hm c1 c2 h1 h2 s1 s2 hmeet i1 i2 hfar

/-- the same for the other clip direction -/
theorem return_on_clip_none_justified_other_order (hM : 1 ≤ (fmaxval : K)) (hm : (fminval : K) ≤ 0) (c1 c2 : SectionT K)
    (h1 : Sub01 c1) (h2 : Sub01 c2) (hmeet : ptA cx s1 = ptB cx s2) (i1 : InSec c1 s1) (i2 : InSec c2 s2)
    (hfar : nearEnds2 cx c2 = false) : clipAB cx c1 c2 ≠ ClipResult.None :=
  clipAB_ne_none cx hM hm c1 c2 h1 h2 s1 s2 hmeet i1 i2 hfar

/-- "Clipping algorithm found a point, but the two curves do not actually overlap, so reject them": the boxes of two
    sections that contain a true intersection always overlap, so this `return smallvec![]` never loses one -/
theorem return_on_box_reject_justified (c1 c2 : SectionT K) (h1 : Sub01 c1) (h2 : Sub01 c2)
    (hmeet : ptA cx s1 = ptB cx s2) (i1 : InSec c1 s1) (i2 : InSec c2 s2) :
    bounds_overlaps (box1 cx c1) (box2 cx c2) = true :=
  boxes_overlap_of_meet cx c1 c2 h1 h2 s1 s2 hmeet i1 i2

/-! ## 7. `join_subsections` -/

/-- JOIN KEEPS OR CLOSE.  Every hit of either list is in the joined list, except possibly the FIRST hit of `right`, and
    that one only under `DropCond`: both lists non-empty, its section parameter on the first curve differs by less than
    0.1 from that of the LAST hit of `left`, and the two points of the first curve at those parameters are at most
    `√(2·accuracy²) = 1.42·accuracy` apart (0.0142 units for accuracy 0.01 - not the 1 unit of the property's exclusion);
    the last hit of `left`, to which it was compared, is kept.  Only the first curve is looked at. -/
theorem join_keeps_or_close (w1 w2 w3 w4 : V2 K) (curve1 : SectionT K) (left right : Hits K) (acc2 : K) (h : T2 K K)
    (hh : h ∈ left ∨ h ∈ right) :
    h ∈ join_subsections w1 w2 w3 w4 curve1 left right acc2 ∨
    (DropCond w1 w2 w3 w4 curve1 left right acc2 ∧ h = listGet right 0 ∧
      listGet left (left.length - 1) ∈ join_subsections w1 w2 w3 w4 curve1 left right acc2) := by
  rcases hh with hl | hr
  · exact Or.inl (join_mem_left _ _ _ _ _ _ _ _ _ hl)
  · rcases join_eq w1 w2 w3 w4 curve1 left right acc2 with ⟨hd, e⟩ | ⟨_, e⟩
    · rw [e]
      cases right with
      | nil => exact absurd hr (by simp)
      | cons b r =>
        rcases List.mem_cons.1 hr with rfl | hr'
        · right
          exact ⟨hd, by simp [listGet], List.mem_append_left _
            (listGet_mem (Nat.sub_lt (List.length_pos_iff.2 hd.1) Nat.one_pos))⟩
        · left
          simp only [List.drop_succ_cons, List.drop_zero]
          exact List.mem_append_right _ hr'
    · rw [e]; exact Or.inl (List.mem_append_right _ hr)

/-- the joined list contains nothing but hits of the two lists -/
theorem join_invents_nothing (w1 w2 w3 w4 : V2 K) (curve1 : SectionT K) (left right : Hits K) (acc2 : K) (h : T2 K K)
    (hj : h ∈ join_subsections w1 w2 w3 w4 curve1 left right acc2) : h ∈ left ∨ h ∈ right :=
  join_subset w1 w2 w3 w4 curve1 left right acc2 h hj

/-- the two points `join_subsections` compares are the points of the first curve at the two hits' own parameters
    (section of non-zero length: `t_for_t ∘ section_t_for_original_t = id`) -/
theorem join_compares_the_hits (w1 w2 w3 w4 : V2 K) (curve1 : SectionT K) (hne : curve1.t_m ≠ 0) (t : K) :
    section_point_at_pos w1 w2 w3 w4 curve1 (section_t_for_original_t curve1 t) = curve_point_at_pos w1 w2 w3 w4 t := by
  simp only [section_point_at_pos, section_t_for_original_t, section_t_for_t]
  congr 1
  field_simp
  ring


/-! ## 8. the recursion is bounded -/

/-- BOUNDED RECURSION.  Every recursive call is made on a half of a section that is not `is_tiny` (parameter length at least
    0.001), clipping never lengthens a section, and a call on an `is_tiny` section returns `[]` at once.  Hence, on sections
    of [0,1] of parameter lengths below `0.001·2^j1` and `0.001·2^j2`, the recursion goes at most `j1 + j2` deep: the model
    with any depth `d ≥ j1 + j2 + 1` returns the same list as the model with depth `j1 + j2 + 1`.  (The loop inside each
    call is not covered: its termination is not proved.) -/
theorem recursion_bounded (hM : 1 ≤ (fmaxval : K)) (hm : (fminval : K) ≤ 0) (acc2 : K) (hacc : 0 ≤ acc2) (j1 j2 d : Nat)
    (hd : j1 + j2 + 1 ≤ d) (c1 c2 : SectionT K) (h1 : Sub01 c1) (h2 : Sub01 c2)
    (w1 : c1.t_m < 1/1000 * 2 ^ j1) (w2 : c2.t_m < 1/1000 * 2 ^ j2) :
    clipInner cx d c1 c2 acc acc2 = clipInner cx (j1 + j2 + 1) c1 c2 acc acc2 :=
  clipInner_depth cx acc acc2 hM hm hacc d j1 j2 hd c1 c2 h1 h2 w1 w2

/-- for the two whole curves (`1 < 0.001·2^10`): the recursion of `curve_intersects_curve_clip` is at most 20 deep, so the
    depth parameter of the model is irrelevant from 21 on - "recursion depth exhausted" in `LostCall` is not a way the real
    function (unbounded depth) can lose an intersection -/
theorem recursion_depth_irrelevant (hM : 1 ≤ (fmaxval : K)) (hm : (fminval : K) ≤ 0) (d : Nat) (hd : 21 ≤ d) :
    clipTop cx d acc = clipTop cx 21 acc := by
  rw [clipTop_eq, clipTop_eq]
  cases cx.ovl (section_new (0.0 : K) (1.0 : K)) (section_new (0.0 : K) (1.0 : K)) with
  | some o => rfl
  | none =>
    have hw : (section_new (0.0 : K) (1.0 : K)).t_m < 1/1000 * 2 ^ 10 := by
      simp only [section_new, Prelude.lit0, Prelude.lit1]; norm_num
    exact clipInner_depth cx acc (acc * acc) hM hm (mul_self_nonneg acc) d 10 10 hd _ _ sub01_whole sub01_whole hw hw

/-! ## 9. the convergence test on `is_tiny` sections: a concrete witness for 4. -/

section Witness

/-- `f64::abs` on ℚ (the same instance as above, stated for ℚ so that it is preferred to the executable one of the prelude) -/
local instance : FAbs ℚ := ⟨fun a => |a|⟩
/-- any normalisation factor will do for the statements below -/
local instance : FSqrt ℚ := ⟨fun _ => 1⟩
local instance : FConsts ℚ := ⟨10 ^ 308, -10 ^ 308, 10 ^ 400, -10 ^ 400, 1 / 2 ^ 52⟩

/-- two curves inside the 100×100 box: the first runs along `y = 0` from `(0,0)` with speed 300 at its start, the second
    starts where the first is at `t = 0.0009` (`x = 0.2697570729`) and runs straight up with speed 300 -/
def cxTiny : Ctx ℚ where
  ovl := fun _ _ => none
  lin12 := fun _ _ _ => []
  lin21 := fun _ _ _ => []
  a1 := ⟨0, 0⟩
  a2 := ⟨100, 0⟩
  a3 := ⟨100, 0⟩
  a4 := ⟨100, 0⟩
  b1 := ⟨2697570729/10000000000, 0⟩
  b2 := ⟨2697570729/10000000000, 100⟩
  b3 := ⟨2697570729/10000000000, 100⟩
  b4 := ⟨2697570729/10000000000, 100⟩

/-- the section `[0, 0.0009]` -/
def secTiny : SectionT ℚ := ⟨0, 9/10000⟩

/-- THE CONVERGENCE TEST DOES NOT BOUND THE DISTANCE FOR `is_tiny` SECTIONS.  For accuracy 0.01 the sections `[0, 0.0009]`
    of the two curves of `cxTiny` (both inside the 100×100 box; the end of the first section is the start of the second)
    pass every test of the loop's exit - `curve_hull_length_sq` is 0 ≤ accuracy² because they are `is_tiny`, and their
    boxes overlap - although each section is 0.27 units long and the two points that would be reported (mid-parameters)
    are more than 0.19 apart, outside the property's 0.1.
    (This is a statement about the test; whether the loop can reach such a pair of sections is not claimed.  The exit is
    rare on real inputs: in 200 000 correspondence cases it is taken 20 times, always for overlapping pieces of one curve,
    never with an `is_tiny` section; for crossing curves every answer comes from the linear fall-back.) -/
theorem convergence_test_tiny_counterexample :
    Sub01 secTiny ∧ section_is_tiny secTiny = true ∧
    len1 cxTiny secTiny ≤ (0.01 : ℚ) * 0.01 ∧ len2 cxTiny secTiny ≤ (0.01 : ℚ) * 0.01 ∧
    bounds_overlaps (box1 cxTiny secTiny) (box2 cxTiny secTiny) = true ∧
    dist2 (ptA cxTiny (midT secTiny)) (ptB cxTiny (midT secTiny)) > (19/100) ^ 2 ∧
    Origin cxTiny (0.01 : ℚ) ((0.01 : ℚ) * 0.01) (T2.mk (midT secTiny) (midT secTiny)) := by
  have hs : Sub01 secTiny := by simp only [Sub01, secTiny]; norm_num
  have ht : section_is_tiny secTiny = true := by decide +kernel
  have h1 : len1 cxTiny secTiny ≤ (0.01 : ℚ) * 0.01 := by
    rw [(tiny_section_has_zero_length cxTiny secTiny ht).1]; norm_num
  have h2 : len2 cxTiny secTiny ≤ (0.01 : ℚ) * 0.01 := by
    rw [(tiny_section_has_zero_length cxTiny secTiny ht).2]; norm_num
  have hmeet : ptA cxTiny (9/10000) = ptB cxTiny 0 := by decide +kernel
  have i1 : InSec secTiny (9/10000) := ⟨1, by norm_num, by norm_num, by simp only [section_t_for_t, secTiny]; norm_num⟩
  have i2 : InSec secTiny 0 := ⟨0, by norm_num, by norm_num, by simp only [section_t_for_t, secTiny]; norm_num⟩
  have hov := return_on_box_reject_justified cxTiny (9/10000) 0 secTiny secTiny hs hs hmeet i1 i2
  exact ⟨hs, ht, h1, h2, hov, by decide +kernel, Origin.converged secTiny secTiny hs hs h1 h2 hov⟩

/-! ## Non-vacuity: the hypotheses are met, and the generated code runs through the branches the theorems talk about -/

/-- a curved arch `(0,0) (1,1) (2,1) (3,0)` and a slightly S-shaped upright curve `(1.5,0) (1,0.5) (2,1) (1.5,1.5)` that
    meet at `(1.5, 0.75)`, parameters `(1/2, 1/2)`.  The two fall-back oracles answer with `(1/2, 1/2)`. -/
def cxEx : Ctx ℚ where
  ovl := fun _ _ => none
  lin12 := fun _ _ _ => [⟨1/2, 1/2⟩]
  lin21 := fun _ _ _ => [⟨1/2, 1/2⟩]
  a1 := ⟨0, 0⟩
  a2 := ⟨1, 1⟩
  a3 := ⟨2, 1⟩
  a4 := ⟨3, 0⟩
  b1 := ⟨3/2, 0⟩
  b2 := ⟨1, 1/2⟩
  b3 := ⟨2, 1⟩
  b4 := ⟨3/2, 3/2⟩

/-- the sentinels satisfy `hM`, `hm` -/
example : 1 ≤ (fmaxval : ℚ) ∧ (fminval : ℚ) ≤ 0 := by decide +kernel
/-- the curves of `cxEx` meet at `(1/2, 1/2)`: hypothesis `hmeet` of `search_complete` -/
example : ptA cxEx (1/2) = ptB cxEx (1/2) := by decide +kernel
/-- the end points of both whole curves are far apart: hypothesis `hfar` -/
example : nearEnds1 cxEx (section_new 0 1) = false ∧ nearEnds2 cxEx (section_new 0 1) = false := by decide +kernel
/-- `clip_never_loses` on the two whole curves: the generated `clip` answers `[0, 1/2] ∋ 1/2` -/
example : (clipBA cxEx (section_new 0 1) (section_new 0 1) == ClipResult.Some ⟨0, 1/2⟩) = true := by decide +kernel
/-- … and then `[7/16, 1/2] ∋ 1/2` for the first curve against the clipped second one -/
example : (clipAB cxEx (section_new 0 1) (section_subsection (section_new 0 1) 0 (1/2)) == ClipResult.Some ⟨7/16, 1/2⟩) = true := by
  decide +kernel
/-- the generated function, run in the kernel with accuracy 1: one iteration (both curves clipped), convergence exit -/
theorem cxEx_run : clipTop cxEx 1 (1 : ℚ) = [⟨15/32, 1/4⟩] := by decide +kernel
example : clipTop cxEx 1 (1 : ℚ) = [⟨15/32, 1/4⟩] := cxEx_run
/-- `search_complete` applies … -/
example := search_complete cxEx (1 : ℚ) (1/2) (1/2) (by decide +kernel) (by decide +kernel) 1
  (by norm_num) (by norm_num) (by norm_num) (by norm_num) (by decide +kernel)
/-- … and on this run its SECOND alternative holds: the result covers the intersection, with the final sections
    `[7/16, 1/2]` and `[0, 1/2]` (so `Covered` is not an empty notion) -/
example : Covered cxEx ((1 : ℚ) * 1) (1/2) (1/2) (clipTop cxEx 1 (1 : ℚ)) := by
  refine ⟨section_subsection (section_new 0 1) (7/16) (1/2), section_subsection (section_new 0 1) 0 (1/2),
    ?_, ?_, ?_, ?_, ?_, by decide +kernel, by decide +kernel⟩
  · rw [cxEx_run, midT_eq, midT_eq]
    simp only [section_subsection, section_new, section_t_for_t, List.mem_singleton]
    norm_num
  · simp only [Sub01, section_subsection, section_new, section_t_for_t]; norm_num
  · simp only [Sub01, section_subsection, section_new, section_t_for_t]; norm_num
  · exact ⟨1, by norm_num, by norm_num, by simp only [section_subsection, section_new, section_t_for_t]; norm_num⟩
  · exact ⟨1, by norm_num, by norm_num, by simp only [section_subsection, section_new, section_t_for_t]; norm_num⟩
/-- with accuracy 0.01 the same pair ends in the linear fall-back (a named exception of `LostLoop`): the generated function
    returns the oracle's answer mapped through `t_for_t` -/
example : (clipTop cxEx 1 (0.01 : ℚ)).length = 1 := by decide +kernel
/-- `returned_parameters_in_range` applies to `cxEx` (its oracles answer inside [0,1]) -/
example := returned_parameters_in_range cxEx (0.01 : ℚ) (by decide +kernel) (by decide +kernel) 3
  (by intro o h; simp [cxEx] at h)
  (by intro c1 c2 g hg; simp only [cxEx, List.mem_singleton] at hg; subst hg; norm_num)
  (by intro c1 c2 g hg; simp only [cxEx, List.mem_singleton] at hg; subst hg; norm_num)
/-- `converged_pair_close` applies to the final sections of the run above (neither is `is_tiny`) -/
example := converged_pair_close cxEx (section_subsection (section_new 0 1) (7/16) (1/2))
  (section_subsection (section_new 0 1) 0 (1/2))
  (by simp only [Sub01, section_subsection, section_new, section_t_for_t]; norm_num)
  (by simp only [Sub01, section_subsection, section_new, section_t_for_t]; norm_num)
  (by decide +kernel) (by decide +kernel) (1 : ℚ) (by decide +kernel) (by decide +kernel) (by decide +kernel)
/-- `recursion_depth_irrelevant` applies -/
example := recursion_depth_irrelevant cxEx (0.01 : ℚ) (by decide +kernel) (by decide +kernel) 200 (by norm_num)
/-- `join_subsections` drops a duplicate: the same hit found in both halves of `[0,1]` is kept once … -/
example : join_subsections cxEx.a1 cxEx.a2 cxEx.a3 cxEx.a4 (section_new 0 1) [⟨1/2, 1/3⟩] [⟨1/2, 1/3⟩, ⟨9/10, 1/5⟩] (1/10000 : ℚ)
    = [⟨1/2, 1/3⟩, ⟨9/10, 1/5⟩] := by decide +kernel
/-- … and two hits 0.05 apart in parameter (0.1 units apart on the curve) are both kept -/
example : join_subsections cxEx.a1 cxEx.a2 cxEx.a3 cxEx.a4 (section_new 0 1) [⟨1/2, 1/3⟩] [⟨11/20, 1/3⟩] (1/10000 : ℚ)
    = [⟨1/2, 1/3⟩, ⟨11/20, 1/3⟩] := by decide +kernel

end Witness

end C02
