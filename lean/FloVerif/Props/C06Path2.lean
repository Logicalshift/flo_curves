/-
C06 (2-D paths)  The bounding box of a 2-D path is the union of its curves' boxes, with the code's own notion of "empty".

`Gen.union_bounds2`, `Gen.box2_is_empty`, `Gen.pb2_from_smallest_components` / `_biggest_components`, `Gen.path_bounding_box2`
and `Gen.path_fast_bounding_box2` are regenerated on every check from bounding_box.rs, coord2.rs and path/bounds.rs at
`Point = Coord2`; the per-curve box is a parameter `boxOf` (the 1-D theorems of `Props/C06.lean` describe it per axis).  In 2-D a box
counts as empty only when its two corners are THE SAME POINT, so a curve that is constant in one coordinate (a vertical or
horizontal line) still takes part in the union - which the per-axis model of `Props/C06Path.lean` cannot say.

Proved for any number of curves: every curve whose box is not a single point has its box inside the path's box, in both coordinates
(`path_bounding_box2_contains`, `path_fast_bounding_box2_contains`); the path's box of a path without curves is the origin box.
-/
import FloVerif.Props.C06
import FloVerif.Gen.PathBounds2
import FloVerif.Lemmas.Basics

namespace C06Path2
open Prelude Gen C06

abbrev Box := T2 (V2 ℝ) (V2 ℝ)

theorem v2_beq (a b : V2 ℝ) : (a == b) = true ↔ a = b := by
  cases a with | mk ax ay => cases b with | mk bx b_y =>
  show (ax == bx && ay == b_y) = true ↔ _
  simp only [Bool.and_eq_true, beq_iff_eq, V2.mk.injEq]

/-- corners in order -/
def Wf (b : Box) : Prop := b.t0.x ≤ b.t1.x ∧ b.t0.y ≤ b.t1.y
/-- `a` lies inside `b`, in both coordinates -/
def Sub (a b : Box) : Prop := b.t0.x ≤ a.t0.x ∧ a.t1.x ≤ b.t1.x ∧ b.t0.y ≤ a.t0.y ∧ a.t1.y ≤ b.t1.y
/-- the code's notion of a non-empty box: the corners differ -/
def NonEmpty (b : Box) : Prop := b.t0 ≠ b.t1

/-- the union of two 2-D boxes as the code computes it: a box whose corners coincide counts as empty and is skipped -/
theorem union_bounds2_spec (a b : Box) :
    union_bounds2 a b =
      if a.t0 = a.t1 then b else if b.t0 = b.t1 then a
      else T2.mk ⟨min a.t0.x b.t0.x, min a.t0.y b.t0.y⟩ ⟨max a.t1.x b.t1.x, max a.t1.y b.t1.y⟩ := by
  simp only [union_bounds2, box2_is_empty, pb2_from_smallest_components, pb2_from_biggest_components, smallest_eq_min,
    biggest_eq_max, v2_beq]

theorem Sub.refl (a : Box) : Sub a a := ⟨le_rfl, le_rfl, le_rfl, le_rfl⟩

theorem Sub.trans {a b c : Box} (h1 : Sub a b) (h2 : Sub b c) : Sub a c :=
  ⟨h2.1.trans h1.1, h1.2.1.trans h2.2.1, h2.2.2.1.trans h1.2.2.1, h1.2.2.2.trans h2.2.2.2⟩

theorem union_bounds2_props (a b : Box) (ha : Wf a) (hb : Wf b) :
    Wf (union_bounds2 a b) ∧ (NonEmpty a → NonEmpty (union_bounds2 a b) ∧ Sub a (union_bounds2 a b)) ∧
      (NonEmpty b → NonEmpty (union_bounds2 a b) ∧ Sub b (union_bounds2 a b)) := by
  rw [union_bounds2_spec]
  split_ifs with hna hnb
  · exact ⟨hb, fun h => absurd hna h, fun h => ⟨h, Sub.refl b⟩⟩
  · exact ⟨ha, fun h => ⟨h, Sub.refl a⟩, fun h => absurd hnb h⟩
  · -- the union is a single point only if `a` is
    have hne : NonEmpty (T2.mk ⟨min a.t0.x b.t0.x, min a.t0.y b.t0.y⟩ ⟨max a.t1.x b.t1.x, max a.t1.y b.t1.y⟩ : Box) := by
      intro h
      obtain ⟨hx, hy⟩ := V2.mk.inj h
      have e1 : a.t0.x = a.t1.x :=
        le_antisymm ha.1 ((le_max_left _ _).trans (hx.symm.trans_le (min_le_left _ _)))
      have e2 : a.t0.y = a.t1.y :=
        le_antisymm ha.2 ((le_max_left _ _).trans (hy.symm.trans_le (min_le_left _ _)))
      exact hna (V2.ext' e1 e2)
    exact ⟨⟨(min_le_left _ _).trans (ha.1.trans (le_max_left _ _)),
        (min_le_left _ _).trans (ha.2.trans (le_max_left _ _))⟩,
      fun _ => ⟨hne, min_le_left _ _, le_max_left _ _, min_le_left _ _, le_max_left _ _⟩,
      fun _ => ⟨hne, min_le_right _ _, le_max_right _ _, min_le_right _ _, le_max_right _ _⟩⟩

/-- THE FOLD OF `reduce`: the result is well-formed; a non-empty accumulator stays inside it; every non-empty box of the list is
    inside it -/
theorem foldl_union2_contains (l : List Box) (acc : Box) (hacc : Wf acc) (hl : ∀ b ∈ l, Wf b) :
    Wf (l.foldl (fun first second => union_bounds2 first second) acc) ∧
      (NonEmpty acc → NonEmpty (l.foldl (fun first second => union_bounds2 first second) acc) ∧
        Sub acc (l.foldl (fun first second => union_bounds2 first second) acc)) ∧
      (∀ b ∈ l, NonEmpty b → Sub b (l.foldl (fun first second => union_bounds2 first second) acc)) :=
  foldl_union_sub Sub.refl Sub.trans union_bounds2_props l acc hacc hl

/-- the generated function is `reduce` over the per-curve boxes; the box of a path without curves is the origin box -/
theorem path_bounding_box2_eq {C : Type} (curves : List C) (boxOf : C → Box) :
    path_bounding_box2 curves boxOf =
      match curves.map boxOf with
      | [] => T2.mk ⟨0, 0⟩ ⟨0, 0⟩
      | b :: bs => bs.foldl (fun first second => union_bounds2 first second) b := by
  unfold path_bounding_box2
  cases curves.map boxOf with
  | nil => exact congrArg₂ T2.mk (congrArg₂ V2.mk lit0 lit0) (congrArg₂ V2.mk lit0 lit0)
  | cons b bs => rfl

theorem path_fast_bounding_box2_eq {C : Type} (curves : List C) (boxOf : C → Box) :
    path_fast_bounding_box2 curves boxOf = path_bounding_box2 curves boxOf := rfl

/-- THE 2-D PATH BOX CONTAINS THE BOX OF EVERY CURVE THAT IS NOT A SINGLE POINT, in both coordinates, for any number of curves and
    whatever well-formed boxes the curves have (vertical and horizontal lines included: their box is not a point) -/
theorem path_bounding_box2_contains {C : Type} (curves : List C) (boxOf : C → Box) (hwf : ∀ c ∈ curves, Wf (boxOf c))
    (c : C) (hc : c ∈ curves) (hne : NonEmpty (boxOf c)) : Sub (boxOf c) (path_bounding_box2 curves boxOf) :=
  reduce_sub Sub.refl Sub.trans union_bounds2_props boxOf _ curves hwf c hc hne

theorem path_fast_bounding_box2_contains {C : Type} (curves : List C) (boxOf : C → Box) (hwf : ∀ c ∈ curves, Wf (boxOf c))
    (c : C) (hc : c ∈ curves) (hne : NonEmpty (boxOf c)) : Sub (boxOf c) (path_fast_bounding_box2 curves boxOf) := by
  rw [path_fast_bounding_box2_eq]; exact path_bounding_box2_contains curves boxOf hwf c hc hne

/-- non-vacuity: a vertical line x = 3 (box (3,0)-(3,5): empty in the x coordinate, NOT empty as a 2-D box) and a point box: the path's
    box is the line's box -/
example : path_bounding_box2 [0, 1] (fun i : Nat => if i = 0 then (T2.mk ⟨7, 7⟩ ⟨7, 7⟩ : Box) else T2.mk ⟨3, 0⟩ ⟨3, 5⟩) =
    T2.mk ⟨3, 0⟩ ⟨3, 5⟩ := by
  rw [path_bounding_box2_eq]
  show union_bounds2 (T2.mk ⟨7, 7⟩ ⟨7, 7⟩) (T2.mk ⟨3, 0⟩ ⟨3, 5⟩) = _
  rw [union_bounds2_spec, if_pos rfl]

end C06Path2
