/-
C07  Point-in-path agrees with the winding number.

`Gen.path_contains_point` (the whole function: bounds test, ray from just beyond the maximum corner of the bounding
box to the point, loop over the collisions with its `break`, signed sum, `!= 0`), `Gen.normal_at_pos`,
`Gen.tangent_at_pos` and `Gen.to_normal` are regenerated from src/bezier/path/point.rs and src/bezier/normal.rs on
every check.  `ray_collisions` (src/bezier/path/ray.rs) is a PARAMETER of the generated function: every theorem
below holds whatever it returns, and what is assumed about its result is written as a hypothesis.

Numbers are an arbitrary ordered field `K` (exact arithmetic; no NaN, no negative zero: `signum 0 = 1`).
`x as i32` is only applied to results of `signum`; all that is assumed about it is `I32Spec`: `1 ↦ 1`, `-1 ↦ -1`.

A collision is `T4 index curve_t line_t position`; a curve is the tuple of its four control points.
Definitions used in the statements (Lemmas/PointInPath.lean, namespace `PIP`):
  `rayOf bounds p`      the ray of the code: `(bounds.max + (0.01, 0.01), p)`
  `outsideBox bounds p` the test of the first `if`
  `counted l`           `l.takeWhile (¬ line_t > 1.0)`: the collisions the loop reaches before its `break`
  `dirOf curves rd c`   `(rd · normal_at_pos(curves[c.index], c.curve_t)).signum() as i32`
  `signedSum curves rd l = ((counted l).map (dirOf curves rd)).sum`
  `cross a b = a.x b.y − a.y b.x`, `rayCross p d a b ∈ {1, 0, −1}` signed crossing of the ray `p + l d (l > 0)` by the
  segment `a → b`, `wind p d vs` = sum of `rayCross` over the edges of the closed polygon `vs`.

What is NOT proved here (searched on the real code only): that `ray_collisions` returns exactly the transversal
crossings of the ray with the path (hypothesis `Faithful` below; C04/C05 territory plus the clean-up filters of ray.rs),
that its result is equivariant under reversal / change of start vertex (hypotheses of the invariance theorems), and
the passage from polygons to curved edges (Jordan-curve content).
-/
import FloVerif.Gen.PointInPath
import FloVerif.Lemmas.PointInPath
import FloVerif.Props.C05Path
import Mathlib.Tactic.IntervalCases

set_option linter.unusedSectionVars false
namespace C07
open Prelude Gen PIP

variable {K : Type} [Field K] [LinearOrder K] [IsStrictOrderedRing K] [Inhabited K] [FSqrt K] [FConsts K] [FToI32 K]

/-! ### concrete data for the non-vacuity examples

The square `(0,0)-(4,4)` built as `line_to` builds it (anticlockwise), its bounding box, the query point `(1,2)`.
The code's ray runs from `(4.01, 4.01)` to `(1,2)` and crosses the top edge (curve 2) only. -/

-- the examples run over ℚ with the same `signum`/`abs` as the theorems (the executable instances of the prelude are the same functions)
attribute [-instance] Prelude.instFSignumRat Prelude.instFAbsRat Prelude.instOfIntRat
local instance : FSqrt ℚ := ⟨id⟩
local instance : FConsts ℚ := ⟨1, -1, 1, -1, 1 / 4503599627370496⟩
/-- the prelude's `x as i32` on ℚ (truncation, saturation) satisfies the specification -/
instance : I32Spec ℚ := ⟨by decide, by decide⟩

def sqV : List (V2 ℚ) := [⟨0, 0⟩, ⟨4, 0⟩, ⟨4, 4⟩, ⟨0, 4⟩]
def sqC : List (Curve ℚ) := [lineTo ⟨0, 0⟩ ⟨4, 0⟩, lineTo ⟨4, 0⟩ ⟨4, 4⟩, lineTo ⟨4, 4⟩ ⟨0, 4⟩, lineTo ⟨0, 4⟩ ⟨0, 0⟩]
def sqB : T2 (V2 ℚ) (V2 ℚ) := T2.mk ⟨0, 0⟩ ⟨4, 4⟩
def sqP : V2 ℚ := ⟨1, 2⟩
/-- the crossing of the top edge: curve 2 at `t = 1/804`, ray position `1/201` -/
def sqHit : Coll ℚ := T4.mk 2 (1/804) (1/201) ⟨803/201, 4⟩
/-- a second, spurious collision on the right edge (curve 1), used to permute lists -/
def sqHit2 : Coll ℚ := T4.mk 1 (1/2) (1/2) ⟨4, 2⟩

/-- the example square is a polygon path: four `line_to` edges joining consecutive vertices -/
theorem sq_isPolygonPath : IsPolygonPath sqC sqV := by
  intro i hi
  have hi' : i < 4 := hi
  interval_cases i <;> exact ⟨lineTo_straight _ _, by decide +kernel, by decide +kernel⟩

/-! ### what `path_contains_point` computes -/

/-- WHAT THE FUNCTION COMPUTES, for every path, point and collision list: `false` outside the bounding box, otherwise
    "the signed sum of the crossing directions of the collisions met before the first one with `line_t > 1.0` is not 0",
    where the ray runs from `bounds.max + (0.01, 0.01)` to the point and `ray_direction = point − ray start`. -/
theorem contains_eq_signed_sum (rc : List (Curve K) → T2 (V2 K) (V2 K) → List (Coll K)) (bounds : T2 (V2 K) (V2 K))
    (curves : List (Curve K)) (point : V2 K) :
    path_contains_point rc bounds curves point =
      if outsideBox bounds point then false
      else decide (signedSum curves (point - (rayOf bounds point).t0) (rc curves (rayOf bounds point)) ≠ 0) := by
  unfold path_contains_point
  refine if_congr ?_ rfl ?_
  · simp only [outsideBox, Bool.or_eq_true, decide_eq_true_eq, or_assoc]
  · exact (congrArg (· != 0) (loop_eq curves _ (rc curves (rayOf bounds point)))).trans (bne_zero_eq_decide _)

example : ¬ outsideBox sqB sqP ∧ signedSum sqC (sqP - (rayOf sqB sqP).t0) [sqHit] = 1 ∧
    path_contains_point (fun _ _ => [sqHit]) sqB sqC sqP = true := by decide +kernel

/-- the sum written out: a `takeWhile` (the `break`), not a filter -/
theorem signedSum_unfold (curves : List (Curve K)) (rd : V2 K) (l : List (Coll K)) :
    signedSum curves rd l =
      ((l.takeWhile (fun c => !decide (c.t2 > (1.0 : K)))).map (fun c =>
        toInt_i32 (fsignum (dot rd (normal_at_pos (listGet curves c.t0).t0 (listGet curves c.t0).t1
          (listGet curves c.t0).t2 (listGet curves c.t0).t3 c.t1))))).sum := rfl

example : signedSum sqC (sqP - (rayOf sqB sqP).t0) [sqHit, sqHit2] = 2 := by decide +kernel

/-- a point outside the bounding box is reported outside without looking at the path -/
theorem outside_box_false (rc : List (Curve K) → T2 (V2 K) (V2 K) → List (Coll K)) (bounds : T2 (V2 K) (V2 K))
    (curves : List (Curve K)) (point : V2 K) (h : outsideBox bounds point) :
    path_contains_point rc bounds curves point = false := by
  rw [contains_eq_signed_sum, if_pos h]

example : outsideBox sqB (⟨5, 2⟩ : V2 ℚ) ∧ path_contains_point (fun _ _ => [sqHit]) sqB sqC ⟨5, 2⟩ = false := by
  decide +kernel

/-- when the collision list is sorted by position on the ray (what `ray_collisions` promises), the collisions that are
    counted are exactly those with `line_t ≤ 1`: the ones between the ray's start and the point (the point included) -/
theorem counted_eq_filter_of_sorted (l : List (Coll K)) (h : l.Pairwise (fun a b => a.t2 ≤ b.t2)) :
    counted l = l.filter (fun c => decide (c.t2 ≤ 1)) := by
  rw [counted_eq_filter (stopClosed_of_sorted h)]
  congr 1
  funext c
  rw [lit1]
  by_cases h : c.t2 ≤ 1
  · simp [h, not_lt.2 h]
  · simp [h, not_le.1 h]

example : [sqHit, sqHit2, (T4.mk 0 0 2 ⟨0, 0⟩ : Coll ℚ)].Pairwise (fun a b => a.t2 ≤ b.t2) ∧
    counted [sqHit, sqHit2, (T4.mk 0 0 2 ⟨0, 0⟩ : Coll ℚ)] = [sqHit, sqHit2] := by decide +kernel

/-- HYPOTHESIS FORCED BY THE `break`: on a list that is not sorted the loop ignores collisions that lie before the point.
    Witness: a collision beyond the point (`line_t = 2`) listed before one half way (`line_t = 1/2`) -/
theorem unsorted_list_is_cut_short :
    counted [(T4.mk 0 0 2 ⟨0, 0⟩ : Coll ℚ), T4.mk 1 0 (1/2) ⟨0, 0⟩] = [] ∧
    [(T4.mk 0 0 2 ⟨0, 0⟩ : Coll ℚ), T4.mk 1 0 (1/2) ⟨0, 0⟩].filter (fun c => decide (c.t2 ≤ 1)) = [T4.mk 1 0 (1/2) ⟨0, 0⟩] := by
  decide +kernel

/-! ### the ray -/

/-- the ray starts strictly beyond the maximum corner of the bounding box in both coordinates - so at a point that is in
    no box `[min, max]`, hence not on or inside a path that its bounding box contains - and ends at the query point.
    (Exact arithmetic: in binary64 `max + 0.01 = max` once `|max| ≥ 2^47`: there the ray starts ON the corner of the box.) -/
theorem ray_starts_outside_box (bounds : T2 (V2 K) (V2 K)) (point : V2 K) :
    bounds.t1.x < (rayOf bounds point).t0.x ∧ bounds.t1.y < (rayOf bounds point).t0.y ∧
    (rayOf bounds point).t1 = point ∧
    ∀ q : V2 K, q.x ≤ bounds.t1.x ∨ q.y ≤ bounds.t1.y → q ≠ (rayOf bounds point).t0 := by
  obtain ⟨hx, hy⟩ := ray_start_gt bounds point
  refine ⟨hx, hy, rfl, ?_⟩
  rintro q (h | h) rfl
  · exact absurd h (not_le.2 hx)
  · exact absurd h (not_le.2 hy)

example : (rayOf sqB sqP).t0 = ⟨401/100, 401/100⟩ := by decide +kernel

/-! ### the crossing direction -/

/-- the normal is the tangent turned a quarter turn anticlockwise -/
theorem normal_is_rotated_tangent (w1 w2 w3 w4 : V2 K) (t : K) :
    normal_at_pos w1 w2 w3 w4 t = V2.mk (-(tangent_at_pos w1 w2 w3 w4 t).y) (tangent_at_pos w1 w2 w3 w4 t).x :=
  normal_at_pos_eq w1 w2 w3 w4 t

example : tangent_at_pos (K := ℚ) ⟨0, 0⟩ ⟨1, 2⟩ ⟨3, 2⟩ ⟨4, 0⟩ (1/2) = ⟨9/2, 0⟩ ∧
    normal_at_pos (K := ℚ) ⟨0, 0⟩ ⟨1, 2⟩ ⟨3, 2⟩ ⟨4, 0⟩ (1/2) = ⟨0, 9/2⟩ := by decide +kernel

/-- THE DIRECTION TEST: the summand of a collision is the sign of `tangent × ray_direction`: `−1` when the curve passes
    the ray from its right to its left (seen along the ray), `+1` otherwise - including `+1` when the tangent is parallel
    to the ray (`signum(+0.0) = 1`; in binary64 the sign of the zero decides) -/
theorem direction_eq_cross_sign [I32Spec K] (curves : List (Curve K)) (rd : V2 K) (c : Coll K) :
    dirOf curves rd c = if cross (tangentOf curves c) rd < 0 then (-1 : Int) else 1 :=
  dirOf_eq curves rd c

example : 0 < cross (tangentOf sqC sqHit) (sqP - (rayOf sqB sqP).t0) ∧
    dirOf sqC (sqP - (rayOf sqB sqP).t0) sqHit = 1 := by decide +kernel

/-- the tangent used is the derivative of the curve, evaluated at `nudge t` (`t` itself except that `0` and `1` are moved
    inwards by `f64::EPSILON`) -/
theorem tangent_is_derivative [Inhabited ℝ] [FSqrt ℝ] [FConsts ℝ] [FToI32 ℝ] (w1 w2 w3 w4 : V2 ℝ) (t : ℝ) :
    HasDerivAt (fun s => (de_casteljau4 s w1 w2 w3 w4).x) (tangent_at_pos w1 w2 w3 w4 t).x (nudge t) ∧
    HasDerivAt (fun s => (de_casteljau4 s w1 w2 w3 w4).y) (tangent_at_pos w1 w2 w3 w4 t).y (nudge t) ∧
    (t ≠ 0 → t ≠ 1 → nudge t = t) := by
  rw [tangent_at_pos_eq]
  exact ⟨(hodograph_hasDerivAt w1 w2 w3 w4 (nudge t)).1, (hodograph_hasDerivAt w1 w2 w3 w4 (nudge t)).2, nudge_of_ne t⟩

example : True := by
  let _ : Inhabited ℝ := ⟨0⟩; let _ : FSqrt ℝ := ⟨id⟩; let _ : FConsts ℝ := ⟨0, 0, 0, 0, 1/2⟩; let _ : FToI32 ℝ := ⟨fun _ => 0⟩
  have h := tangent_is_derivative (⟨0, 0⟩ : V2 ℝ) ⟨1, 2⟩ ⟨3, 2⟩ ⟨4, 0⟩ (1/3)
  have : nudge (1/3 : ℝ) = 1/3 := h.2.2 (by norm_num) (by norm_num)
  trivial

/-! ### the answer does not depend on the order of the list, the starting vertex, the direction of the path -/

/-- ORDER: two collision lists with the same members give the same answer, provided neither lists a collision before the
    point after one beyond it (`StopClosed`, true of sorted lists: `stopClosed_of_sorted`) -/
theorem contains_perm_invariant (rc rc' : List (Curve K) → T2 (V2 K) (V2 K) → List (Coll K)) (bounds : T2 (V2 K) (V2 K))
    (curves : List (Curve K)) (point : V2 K)
    (h : (rc curves (rayOf bounds point)).Perm (rc' curves (rayOf bounds point)))
    (hs : StopClosed (rc curves (rayOf bounds point))) (hs' : StopClosed (rc' curves (rayOf bounds point))) :
    path_contains_point rc bounds curves point = path_contains_point rc' bounds curves point := by
  rw [contains_eq_signed_sum, contains_eq_signed_sum, signedSum_perm curves _ h hs hs']

example : path_contains_point (fun _ _ => [sqHit, sqHit2]) sqB sqC sqP =
    path_contains_point (fun _ _ => [sqHit2, sqHit]) sqB sqC sqP :=
  contains_perm_invariant _ _ sqB sqC sqP (List.Perm.swap _ _ _) (by unfold StopClosed; decide +kernel)
    (by unfold StopClosed; decide +kernel)

/-- `k = 1`: another starting vertex, `k = −1`: the reversed path -/
theorem contains_relabel_invariant (k : Int) (hk : k ≠ 0) (rc rc' : List (Curve K) → T2 (V2 K) (V2 K) → List (Coll K))
    (bounds : T2 (V2 K) (V2 K)) (curves curves' : List (Curve K)) (point : V2 K) (σ : Coll K → Coll K)
    (hσ : ∀ c, (σ c).t2 = c.t2)
    (hdir : ∀ c ∈ counted (rc curves (rayOf bounds point)),
      dirOf curves' (point - (rayOf bounds point).t0) (σ c) = k * dirOf curves (point - (rayOf bounds point).t0) c)
    (hperm : (rc' curves' (rayOf bounds point)).Perm ((rc curves (rayOf bounds point)).map σ))
    (hs : StopClosed (rc curves (rayOf bounds point))) (hs' : StopClosed (rc' curves' (rayOf bounds point))) :
    path_contains_point rc' bounds curves' point = path_contains_point rc bounds curves point := by
  rw [contains_eq_signed_sum, contains_eq_signed_sum, signedSum_perm _ _ hperm hs' (stopClosed_map σ hσ hs),
    signedSum_map k curves curves' _ _ σ _ hσ hdir]
  simp only [ne_eq, mul_eq_zero, hk, false_or]

/-- STARTING VERTEX: start the same closed path at its `k`-th curve (`curves.rotate k`; same bounding box). IF
    `ray_collisions` then returns the same collisions with the curve indices shifted accordingly, in any stop-closed
    order, the answer is the same. -/
theorem contains_start_vertex_invariant (rc rc' : List (Curve K) → T2 (V2 K) (V2 K) → List (Coll K))
    (bounds : T2 (V2 K) (V2 K)) (curves : List (Curve K)) (point : V2 K) (k : Nat)
    (hidx : ∀ c ∈ rc curves (rayOf bounds point), c.t0 < curves.length)
    (hperm : (rc' (curves.rotate k) (rayOf bounds point)).Perm
      ((rc curves (rayOf bounds point)).map (rotColl curves.length k)))
    (hs : StopClosed (rc curves (rayOf bounds point))) (hs' : StopClosed (rc' (curves.rotate k) (rayOf bounds point))) :
    path_contains_point rc' bounds (curves.rotate k) point = path_contains_point rc bounds curves point :=
  contains_relabel_invariant 1 one_ne_zero rc rc' bounds curves _ point (rotColl curves.length k) (fun _ => rfl)
    (fun c hc => (dirOf_rot curves _ k c (hidx c (counted_subset _ c hc))).trans (one_mul _).symm) hperm hs hs'

example : path_contains_point (fun _ _ => [rotColl 4 1 sqHit]) sqB (sqC.rotate 1) sqP =
    path_contains_point (fun _ _ => [sqHit]) sqB sqC sqP :=
  contains_start_vertex_invariant (fun _ _ => [sqHit]) (fun _ _ => [rotColl 4 1 sqHit]) sqB sqC sqP 1
    (by decide +kernel) (List.Perm.refl _) (by unfold StopClosed; decide +kernel) (by unfold StopClosed; decide +kernel)

/-- `reversePath` IS `BezierPath::reversed` on the list of curves: the curves of the generated `path_reversed` (translated
    from path.rs, closed form proved in C05Path) are `reversePath` of the curves of the path -/
theorem reversePath_eq_reversed (origin s : V2 K) (pts : List (T3 (V2 K) (V2 K) (V2 K))) :
    C05Path.curvesOf (path_reversed origin s pts).t0 (path_reversed origin s pts).t1 =
      reversePath (C05Path.curvesOf s pts) := by
  rw [C05Path.path_reversed_curves, reversePath, List.map_reverse]; rfl

example : C05Path.curvesOf (path_reversed (⟨0, 0⟩ : V2 ℚ) ⟨0, 0⟩ [T3.mk ⟨1, 0⟩ ⟨2, 0⟩ ⟨3, 0⟩, T3.mk ⟨3, 1⟩ ⟨3, 2⟩ ⟨3, 3⟩]).t0
    (path_reversed (⟨0, 0⟩ : V2 ℚ) ⟨0, 0⟩ [T3.mk ⟨1, 0⟩ ⟨2, 0⟩ ⟨3, 0⟩, T3.mk ⟨3, 1⟩ ⟨3, 2⟩ ⟨3, 3⟩]).t1 =
    [T4.mk ⟨3, 3⟩ ⟨3, 2⟩ ⟨3, 1⟩ ⟨3, 0⟩, T4.mk ⟨3, 0⟩ ⟨2, 0⟩ ⟨1, 0⟩ ⟨0, 0⟩] := by decide +kernel

/-- DIRECTION: reverse the path (curves in reverse order, each reversed: `reversePath_eq_reversed`). IF `ray_collisions` then returns the same
    collisions re-labelled (`index ↦ n−1−index`, `curve_t ↦ 1−curve_t`) in any stop-closed order, and every counted
    collision is transversal (`tangent × ray_direction ≠ 0`), every summand changes sign and the answer is the same.
    `f64::EPSILON ≠ 1` is needed for the end-point nudge to commute with `t ↦ 1−t`. -/
theorem contains_reversal_invariant [I32Spec K] (heps : (feps : K) ≠ 1)
    (rc rc' : List (Curve K) → T2 (V2 K) (V2 K) → List (Coll K))
    (bounds : T2 (V2 K) (V2 K)) (curves : List (Curve K)) (point : V2 K)
    (hidx : ∀ c ∈ rc curves (rayOf bounds point), c.t0 < curves.length)
    (htrans : ∀ c ∈ counted (rc curves (rayOf bounds point)),
      cross (tangentOf curves c) (point - (rayOf bounds point).t0) ≠ 0)
    (hperm : (rc' (reversePath curves) (rayOf bounds point)).Perm
      ((rc curves (rayOf bounds point)).map (revColl curves.length)))
    (hs : StopClosed (rc curves (rayOf bounds point)))
    (hs' : StopClosed (rc' (reversePath curves) (rayOf bounds point))) :
    path_contains_point rc' bounds (reversePath curves) point = path_contains_point rc bounds curves point :=
  contains_relabel_invariant (-1) (by decide) rc rc' bounds curves _ point (revColl curves.length) (fun _ => rfl)
    (fun c hc => (dirOf_rev heps curves _ c (hidx c (counted_subset _ c hc)) (htrans c hc)).trans (neg_one_mul _).symm)
    hperm hs hs'

example : path_contains_point (fun _ _ => [revColl 4 sqHit]) sqB (reversePath sqC) sqP =
    path_contains_point (fun _ _ => [sqHit]) sqB sqC sqP :=
  contains_reversal_invariant (by decide +kernel) (fun _ _ => [sqHit]) (fun _ _ => [revColl 4 sqHit]) sqB sqC sqP
    (by decide +kernel) (by decide +kernel) (List.Perm.refl _) (by unfold StopClosed; decide +kernel)
    (by unfold StopClosed; decide +kernel)

/-- TRANSVERSALITY IS NEEDED in `contains_reversal_invariant`: a collision whose tangent is parallel to the ray
    contributes `+1` for the path and `+1` again for the reversed path (`signum 0 = 1` either way) instead of changing
    sign.  Witness: the straight edge `(0,0) → (3,0)` hit by a ray of direction `(1,0)`. -/
theorem tangent_collision_not_negated [I32Spec ℚ] [FSqrt ℚ] [FConsts ℚ] (heps : (feps : ℚ) ≠ 1) :
    let c : Curve ℚ := T4.mk ⟨0, 0⟩ ⟨1, 0⟩ ⟨2, 0⟩ ⟨3, 0⟩
    let hit : Coll ℚ := T4.mk 0 (1/2) (1/2) ⟨3/2, 0⟩
    dirOf [c] ⟨1, 0⟩ hit = 1 ∧ dirOf (reversePath [c]) ⟨1, 0⟩ (revColl 1 hit) = 1 := by
  intro c hit
  have h1 : (tangentOf [c] hit).y = 0 := by
    simp only [c, hit, tangentOf, curveOf, listGet, tangent_at_pos_eq, hodograph, de_casteljau3_y, de_casteljau3_eq, sub_y,
      mul_y]
    norm_num
  have h2 : (tangentOf (reversePath [c]) (revColl 1 hit)).y = 0 := by
    rw [show (1 : Nat) = [c].length from rfl, tangentOf_rev heps [c] hit (by simp [hit]), h1, neg_zero]
  rw [direction_eq_cross_sign, direction_eq_cross_sign, cross, cross, h1, h2]
  simp

example := tangent_collision_not_negated (by decide +kernel : (feps : ℚ) ≠ 1)

/-! ### the winding number of a closed polygon, and the link -/

set_option linter.unusedVariables false in
/-- MEANING OF THE CROSSING NUMBER: when neither end point is on the line of the ray, `rayCross0 d a b ≠ 0` exactly when the
    segment from `a` to `b` meets the open ray `{l·d | l > 0}` from the origin strictly inside the segment -/
theorem rayCross_ne_zero_iff_meets (d a b : V2 K) (ha : cross d a ≠ 0) (hb : cross d b ≠ 0) :
    rayCross0 d a b ≠ 0 ↔ ∃ l m : K, 0 < l ∧ 0 < m ∧ m < 1 ∧ d * l = a + (b - a) * m :=
  rayCross0_ne_zero_iff d a b ha

example : rayCross0 (⟨1, 0⟩ : V2 ℚ) ⟨1, -1⟩ ⟨1, 1⟩ = 1 ∧ rayCross0 (⟨1, 0⟩ : V2 ℚ) ⟨1, 1⟩ ⟨1, -1⟩ = -1 ∧
    rayCross0 (⟨1, 0⟩ : V2 ℚ) ⟨-1, -1⟩ ⟨-1, 1⟩ = 0 := by decide +kernel

/-- RAY INDEPENDENCE: for every closed polygon `vs` (any number of vertices, convex or not, self-intersecting or not),
    every point `p` that is on no edge, and any two directions whose lines through `p` pass through no vertex, the signed
    numbers of crossings of the two rays agree.  So "the winding number of the polygon about `p`" is well defined by
    counting signed crossings of any ray in general position - no topology is used: per edge the difference of the two
    crossing numbers is the change of the indicator of the sector between the rays (Plücker relation between the six
    cross products), and around a closed polygon these changes cancel. -/
theorem winding_ray_independent (p d1 d2 : V2 K) (vs : List (V2 K)) (h1 : LineAvoids p d1 vs) (h2 : LineAvoids p d2 vs)
    (hoff : OffBoundary p vs) : wind p d1 vs = wind p d2 vs :=
  wind_ray_independent p d1 d2 vs h1 h2 hoff

example : LineAvoids sqP ⟨1, 0⟩ sqV ∧ LineAvoids sqP ((rayOf sqB sqP).t0 - sqP) sqV ∧ OffBoundary sqP sqV ∧
    wind sqP ⟨1, 0⟩ sqV = 1 ∧ wind sqP ((rayOf sqB sqP).t0 - sqP) sqV = 1 := by
  unfold LineAvoids OffBoundary OffSegment; decide +kernel

/-- in particular the counts on the two opposite half-lines of a line through `p` agree (as winding numbers; as side
    changes they are negatives of each other) -/
theorem winding_opposite_rays (p d : V2 K) (vs : List (V2 K)) (h : LineAvoids p d vs) (hoff : OffBoundary p vs) :
    wind p d vs = wind p (V2.mk (-d.x) (-d.y)) vs :=
  wind_ray_independent p d _ vs h (lineAvoids_neg h) hoff

example : wind sqP ⟨1, 0⟩ sqV = 1 ∧ wind sqP ⟨-1, 0⟩ sqV = 1 := by decide +kernel

/-- the bounds rejection is sound for polygons: a point strictly outside a box that contains all vertices has winding
    number 0 (along every ray in general position) -/
theorem winding_zero_outside_box (bounds : T2 (V2 K) (V2 K)) (p d : V2 K) (vs : List (V2 K))
    (hbox : ∀ v ∈ vs, bounds.t0.x ≤ v.x ∧ v.x ≤ bounds.t1.x ∧ bounds.t0.y ≤ v.y ∧ v.y ≤ bounds.t1.y)
    (hout : outsideBox bounds p) (hd : LineAvoids p d vs) : wind p d vs = 0 := by
  -- the side of the box that `p` is beyond separates `p` from all vertices
  have key : ∀ nx ny : K, (∀ v ∈ vs, nx * (v.x - p.x) + ny * (v.y - p.y) < 0) → wind p d vs = 0 :=
    fun nx ny h => wind_eq_zero_of_separated_any p ⟨nx, ny⟩ d vs (fun v hv => (dot_eq _ _).trans_lt (h v hv)) hd
  rcases hout with h | h | h | h
  · exact key (-1) 0 fun v hv => by simpa using h.trans_le (hbox v hv).1
  · exact key 1 0 fun v hv => by simpa using (hbox v hv).2.1.trans_lt h
  · exact key 0 (-1) fun v hv => by simpa using h.trans_le (hbox v hv).2.2.1
  · exact key 0 1 fun v hv => by simpa using (hbox v hv).2.2.2.trans_lt h

example : outsideBox sqB (⟨5, 2⟩ : V2 ℚ) ∧ LineAvoids (⟨5, 2⟩ : V2 ℚ) ⟨-1, 1/3⟩ sqV ∧ wind (⟨5, 2⟩ : V2 ℚ) ⟨-1, 1/3⟩ sqV = 0 := by
  unfold LineAvoids; decide +kernel

/-- every crossing of the code's ray (from the point towards the corner beyond the box) with an edge inside the box lies
    before the corner: nothing is lost by casting a segment instead of a half-line -/
theorem crossings_before_corner (bounds : T2 (V2 K) (V2 K)) (p a b : V2 K) (hp : p.x ≤ bounds.t1.x)
    (ha : a.x ≤ bounds.t1.x) (hb : b.x ≤ bounds.t1.x) (l m : K) (hm0 : 0 ≤ m) (hm1 : m ≤ 1)
    (hv : ((rayOf bounds p).t0 - p) * l = (a - p) + ((b - p) - (a - p)) * m) : l < 1 :=
  meets_before_corner bounds.t1 _ p a b (ray_start_gt bounds p).1 hp ha hb l m hm0 hm1 hv

example : ((rayOf sqB sqP).t0 - sqP) * (200/201 : ℚ) = ((⟨4, 4⟩ : V2 ℚ) - sqP) + (((⟨0, 4⟩ : V2 ℚ) - sqP) - (⟨4, 4⟩ - sqP)) * (1/804 : ℚ) := by
  decide +kernel

/-- THE LINK, for closed polygons given as paths of straight edges (`IsPolygonPath`: curve `i` runs from vertex `i` to
    vertex `i+1` with control points in between, as `line_to` builds them).  IF the collision list is faithful for the
    code's ray (`Faithful`: the counted collisions are, in any order, exactly one per edge that crosses the ray, with
    `curve_t ∈ [0,1]`), THEN `path_contains_point` is true exactly when the winding number of the polygon about the point
    is not 0 - the winding number counted along ANY ray `d` in general position, not just the code's.
    Remaining hypotheses: the point is on no edge, the two lines avoid the vertices, the box contains the vertices,
    `0 ≤ f64::EPSILON ≤ 1`. -/
theorem polygon_contains_iff_winding [I32Spec K] (h0e : 0 ≤ (feps : K)) (h1e : (feps : K) ≤ 1)
    (rc : List (Curve K) → T2 (V2 K) (V2 K) → List (Coll K)) (bounds : T2 (V2 K) (V2 K))
    (curves : List (Curve K)) (vs : List (V2 K)) (p d : V2 K)
    (hpoly : IsPolygonPath curves vs)
    (hbox : ∀ v ∈ vs, bounds.t0.x ≤ v.x ∧ v.x ≤ bounds.t1.x ∧ bounds.t0.y ≤ v.y ∧ v.y ≤ bounds.t1.y)
    (hoff : OffBoundary p vs) (hd : LineAvoids p d vs)
    (hray : LineAvoids p ((rayOf bounds p).t0 - p) vs)
    (hf : ¬ outsideBox bounds p → Faithful p ((rayOf bounds p).t0 - p) vs (rc curves (rayOf bounds p))) :
    path_contains_point rc bounds curves p = decide (wind p d vs ≠ 0) := by
  rw [contains_eq_signed_sum]
  by_cases hout : outsideBox bounds p
  · rw [if_pos hout, winding_zero_outside_box bounds p d vs hbox hout hd]; rfl
  · rw [if_neg hout, signedSum_polygon h0e h1e curves vs _ p _ hpoly (hf hout),
      wind_ray_independent p _ d vs hray hd hoff]

example : path_contains_point (fun _ _ => [sqHit]) sqB sqC sqP = decide (wind sqP ⟨1, 0⟩ sqV ≠ 0) ∧ wind sqP ⟨1, 0⟩ sqV = 1 :=
  ⟨polygon_contains_iff_winding (by decide +kernel) (by decide +kernel) (fun _ _ => [sqHit]) sqB sqC sqV sqP ⟨1, 0⟩
    sq_isPolygonPath (by decide +kernel) (by unfold OffBoundary OffSegment; decide +kernel)
    (by unfold LineAvoids; decide +kernel) (by unfold LineAvoids; decide +kernel)
    (fun _ => by unfold Faithful; decide +kernel), by decide +kernel⟩

end C07
