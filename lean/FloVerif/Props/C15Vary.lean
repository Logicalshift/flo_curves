/-
C15 (vary_by)  Varying the distance with `vary_by` preserves the tiling.

`Gen.vary_step` is the body of `VaryingWalkIterator::next` that changes the even iterator (walk.rs: clamp of the new distance,
`ratio`, the assignments to `even_iterator.distance` and `even_iterator.last_increment`), regenerated from the Rust source on every
check; `Gen.even_walk_next` is the whole `EvenWalkIterator::next`.  The glue around them - ask the distance iterator while there is
one, drop it when it is exhausted, then call the even iterator - is `variedStep` below; the distance iterator is ANY iterator: a
state `ι` and a function `nxt : ι → Option (K × ι)` (finite lists, cycles, anything).

The tiling theorem is proved once for an abstract step function (`tiling_of_step`, in Props/C15) and instantiated with the varied walk.
-/
import FloVerif.Props.C15
import FloVerif.Model.Total

set_option linter.unusedSectionVars false
namespace C15Vary
open Prelude Gen

variable {K : Type} [Field K] [LinearOrder K] [IsStrictOrderedRing K] [Inhabited K] [FSqrt K]

attribute [local instance] C15.instFAbs C15.instOfInt

/-- state of a varied walk: the distance iterator (while there is one), and the even iterator's distance, position, point, increment -/
structure VState (ι K : Type) where
  iter : Option ι
  distance : K
  last_t : K
  last_point : V2 K
  last_increment : K

/-- `VaryingWalkIterator::next`: ask the distance iterator (if it is still there) for the next distance; `Some`: the generated
    `vary_step` updates the even iterator's distance and increment; `None`: the distance iterator is dropped; then the generated
    `EvenWalkIterator::next` -/
def variedStep {ι : Type} (nxt : ι → Option (K × ι)) (w1 w2 w3 w4 : V2 K) (d : T3 (V2 K) (V2 K) (V2 K)) (err : K)
    (s : VState ι K) : T2 (Option (T2 K K)) (VState ι K) :=
  let upd : Option ι × K × K :=
    match s.iter with
    | none => (none, s.distance, s.last_increment)
    | some it =>
      match nxt it with
      | some (x, it') => let v := vary_step x s.distance s.last_increment; (some it', v.t1.t0, v.t1.t1)
      | none => (none, s.distance, s.last_increment)
  let r := even_walk_next w1 w2 w3 w4 d upd.2.1 err s.last_t s.last_point upd.2.2
  T2.mk r.t0 { iter := upd.1, distance := upd.2.1, last_t := r.t1.t0, last_point := r.t1.t1, last_increment := r.t1.t2 }

/-- VARYING THE DISTANCE PRESERVES THE TILING: for any curve, any tolerance, any start state and ANY distance iterator (whatever
    distances it yields - zero and negative ones included - and whenever it ends): the sections of the varied walk start where the
    walk stands, each starts exactly where the previous one ended, none ends after 1, and when the iterator finishes the last section
    ends at exactly 1 -/
theorem varied_tiling {ι : Type} (nxt : ι → Option (K × ι)) (w1 w2 w3 w4 : V2 K) (d : T3 (V2 K) (V2 K) (V2 K)) (err : K) :
    ∀ (fuel : Nat) (s : VState ι K),
      let run := runFrom (variedStep nxt w1 w2 w3 w4 d err) fuel s
      (∀ x, run.1.head? = some x → x.t0 = s.last_t) ∧
      run.1.IsChain (fun a b => a.t1 = b.t0) ∧
      (∀ x ∈ run.1, x.t1 ≤ 1) ∧
      (run.2 = true → (∀ x, run.1.getLast? = some x → x.t1 = 1) ∧ (run.1 = [] → s.last_t ≥ 1)) := by
  apply tiling_of_step (fun s : VState ι K => s.last_t)
  intro s
  simp only [variedStep]
  have ht := C15.even_next_tiles w1 w2 w3 w4 d
  simp only at ht
  constructor
  · exact (ht _ err s.last_t s.last_point _).1
  · intro sec hsec
    exact (ht _ err s.last_t s.last_point _).2.2 sec hsec

/-- what `vary_step` computes: the new distance is the requested one clamped to `≥ 1e-10`, the increment is scaled by the ratio of the
    new to the old distance -/
theorem vary_step_spec (x dist inc : K) :
    (vary_step x dist inc).t1.t0 = max x 1e-10 ∧ (vary_step x dist inc).t1.t1 = inc * (max x 1e-10 / dist) := by
  simp only [vary_step]
  by_cases h : x < 1e-10
  · simp [h, max_eq_right h.le]
  · simp [h, max_eq_left (not_lt.1 h)]

/-- the varied distance stays positive (so the ratio of the following step is finite) -/
theorem vary_step_distance_pos (x dist inc : K) : 0 < (vary_step x dist inc).t1.t0 := by
  rw [(vary_step_spec x dist inc).1]
  exact lt_of_lt_of_le (by norm_num) (le_max_right _ _)

/-- THE HAND MODEL OF C20 IS THE GENERATED CODE: `Model.Total.varyUpdate` (hand transcription used by C20's finiteness theorems
    and its correspondence run) equals the generated `vary_step` when the distance iterator yields a value, and changes nothing
    otherwise -/
theorem varyUpdate_eq_generated (x dist inc : K) :
    Model.Total.varyUpdate (some x) dist inc = (vary_step x dist inc).t1 ∧
    Model.Total.varyUpdate (none : Option K) dist inc = T2.mk dist inc := by
  constructor
  · simp only [Model.Total.varyUpdate, vary_step]
    by_cases h : x < 1e-10 <;> simp [h]
  · rfl

/-- non-vacuity: a distance of 0 is clamped; the increment 1/4 at distance 2 becomes 1/4 * (1e-10 / 2) -/
example : (vary_step (0 : ℚ) 2 (1/4)).t1 = T2.mk 1e-10 ((1/4) * (1e-10 / 2)) := by
  simp only [vary_step]; norm_num

end C15Vary
