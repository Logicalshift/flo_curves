/-
C05 (path level)  `BezierPath::reversed` traverses the same curves backwards and is an involution.

`Gen.path_reversed` is regenerated from src/bezier/path/path.rs on every check (the loop over
`iter::once(fake).chain(points).tuple_windows()` becomes a fold over `windows2`).  A path is its start point and
the list of `(cp1, cp2, end)` triples, exactly `SimpleBezierPath`.
-/
import FloVerif.Gen.PathRev
import FloVerif.Gen.Basis

set_option linter.unusedSectionVars false
namespace C05Path
open Prelude Gen

variable {P : Type} [Inhabited P]

/-- the curves of a path, in order (`BezierPath::to_curves`): each starts where the previous one ended -/
def curvesOf (s : P) : List (T3 P P P) → List (T4 P P P P)
  | [] => []
  | c :: r => T4.mk s c.t0 c.t1 c.t2 :: curvesOf c.t2 r

/-- the point the path ends at (its start point when it has no curves) -/
def lastPt (s : P) : List (T3 P P P) → P
  | [] => s
  | c :: r => lastPt c.t2 r

/-- the triples of the reversed path, still in forward order -/
def revPts (s : P) : List (T3 P P P) → List (T3 P P P)
  | [] => []
  | c :: r => T3.mk c.t1 c.t0 s :: revPts c.t2 r

theorem reversed_fold_eq (x y s : P) (pts acc : List (T3 P P P)) :
    foldlT (windows2 (T3.mk x y s :: pts)) (T2.mk s acc) (fun st it =>
      T2.mk it.t1.t2 (st.t1 ++ [T3.mk it.t1.t1 it.t1.t0 it.t0.t2]))
    = T2.mk (lastPt s pts) (acc ++ revPts s pts) := by
  induction pts generalizing x y s acc with
  | nil => simp [windows2, foldlT, revPts, lastPt]
  | cons c r ih =>
    have h := ih c.t0 c.t1 c.t2 (acc ++ [T3.mk c.t1 c.t0 s])
    simp only [windows2, foldlT, List.foldl_cons] at h ⊢
    rw [h]
    simp [lastPt, revPts]

/-- CLOSED FORM of the generated function: the reversed path starts at the last point and lists the swapped control
points with the previous end points, backwards.  (`origin` only fills the ignored control points of the fake first entry.) -/
theorem path_reversed_eq (origin s : P) (pts : List (T3 P P P)) :
    path_reversed origin s pts = T2.mk (lastPt s pts) (revPts s pts).reverse := by
  simp only [path_reversed]
  rw [reversed_fold_eq origin origin s pts []]
  simp

theorem lastPt_snoc (s : P) (l : List (T3 P P P)) (c : T3 P P P) : lastPt s (l ++ [c]) = c.t2 := by
  induction l generalizing s with
  | nil => rfl
  | cons a r ih => simpa [lastPt] using ih a.t2

theorem revPts_snoc (s : P) (l : List (T3 P P P)) (c : T3 P P P) :
    revPts s (l ++ [c]) = revPts s l ++ [T3.mk c.t1 c.t0 (lastPt s l)] := by
  induction l generalizing s with
  | nil => rfl
  | cons a r ih => simp [revPts, lastPt, ih a.t2]

theorem lastPt_reversed (s : P) (pts : List (T3 P P P)) : lastPt (lastPt s pts) (revPts s pts).reverse = s := by
  cases pts with
  | nil => rfl
  | cons c r => simp only [revPts, List.reverse_cons]; rw [lastPt_snoc]

theorem revPts_reversed (s : P) (pts : List (T3 P P P)) :
    (revPts (lastPt s pts) (revPts s pts).reverse).reverse = pts := by
  induction pts generalizing s with
  | nil => rfl
  | cons c r ih =>
    simp only [lastPt, revPts, List.reverse_cons]
    rw [revPts_snoc, lastPt_reversed, List.reverse_append, ih]
    rfl

/-- REVERSING TWICE IS THE IDENTITY, for every path: any start point, any number of curves - including none -/
theorem path_reversed_twice (origin s : P) (pts : List (T3 P P P)) :
    path_reversed origin (path_reversed origin s pts).t0 (path_reversed origin s pts).t1 = T2.mk s pts := by
  rw [path_reversed_eq origin s pts]
  simp only
  rw [path_reversed_eq]
  rw [lastPt_reversed, revPts_reversed]

theorem curvesOf_snoc (s : P) (l : List (T3 P P P)) (c : T3 P P P) :
    curvesOf s (l ++ [c]) = curvesOf s l ++ [T4.mk (lastPt s l) c.t0 c.t1 c.t2] := by
  induction l generalizing s with
  | nil => rfl
  | cons a r ih => simp [curvesOf, lastPt, ih a.t2]

/-- THE REVERSED PATH TRAVERSES THE SAME CURVES BACKWARDS: its curves are the reversed curves (the generated
`Curve::reverse`) of the original, in reverse order; in particular there are as many -/
theorem path_reversed_curves (origin s : P) (pts : List (T3 P P P)) :
    curvesOf (path_reversed origin s pts).t0 (path_reversed origin s pts).t1
      = ((curvesOf s pts).map (fun c => curve_reverse c.t0 c.t1 c.t2 c.t3)).reverse := by
  rw [path_reversed_eq]
  simp only
  induction pts generalizing s with
  | nil => simp [curvesOf, revPts, lastPt]
  | cons c r ih =>
    have h := ih c.t2
    simp only [lastPt, revPts, List.reverse_cons, curvesOf, List.map_cons]
    rw [curvesOf_snoc, h, lastPt_reversed]
    simp [curve_reverse]

/-- the reversed path starts where the original ended and ends where it started -/
theorem path_reversed_ends (origin s : P) (pts : List (T3 P P P)) :
    (path_reversed origin s pts).t0 = lastPt s pts ∧
    lastPt (path_reversed origin s pts).t0 (path_reversed origin s pts).t1 = s := by
  rw [path_reversed_eq]
  exact ⟨rfl, lastPt_reversed s pts⟩

/-- non-vacuity: a two-curve path over ℕ-labelled points, and the path with no curves -/
example : path_reversed 0 1 [T3.mk 2 3 4, T3.mk 5 6 7] = T2.mk 7 [T3.mk 6 5 4, T3.mk 3 2 1] := by decide
example : path_reversed 0 (8 : Nat) [] = T2.mk 8 [] := by decide

end C05Path
