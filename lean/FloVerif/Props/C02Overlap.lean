/-
C02 (the overlap shortcut and `t_for_point`, generated)

`Gen/Overlaps.lean` is regenerated on every check: `solve_curve_for_t_along_axis` (solve.rs - what `BezierCurve::t_for_point` calls
with `CLOSE_ENOUGH`; the two nested searching `for` loops become `List.findSome?`; `solve_basis_for_t`, which ends in the external
`roots` crate, is a parameter) and `overlapping_region` (overlaps.rs, whole function with its three inner functions; the two
`t_for_point` are parameters).  Run at `Float` both reproduce the real functions bit for bit (driver ops `tfp`, `ovl`).

`overlapping_region` is the callee that `curve_intersects_curve_clip` asks once, for the whole curves, before clipping;
`C02.results_have_origin` names "an overlap-shortcut answer" as one of the three origins of a returned pair.  Here that
origin is made precise: every pair of parameters it reports is an END POINT OF ONE CURVE LOCATED ON THE OTHER by `t_for_point`,
and `t_for_point` only ever answers with a parameter whose curve point is within its accuracy of the point asked for - whatever the
root solver returns.
-/
import FloVerif.Gen.Overlaps
import FloVerif.Gen.LinearFallback
import FloVerif.Props.C04
import FloVerif.Lemmas.Basics
import Mathlib.Tactic.Ring
import Mathlib.Tactic.NormNum.OfScientific
import Mathlib.Tactic.Linarith
import Mathlib.Algebra.Order.Field.Basic

set_option linter.unusedSectionVars false
namespace C02Overlap
open Prelude Gen

variable {K : Type} [Field K] [LinearOrder K] [IsStrictOrderedRing K] [Inhabited K]
local instance : FAbs K := ⟨fun a => |a|⟩
local instance : OfInt K := ⟨fun n => (n : K)⟩
variable [FSqrt K] [FConsts K] [FSignum K]

abbrev Cub (K : Type) := T4 (V2 K) (V2 K) (V2 K) (V2 K)

/-- `is_near_to`: the squared distance is at most the squared tolerance -/
theorem is_near_to_iff (p q : V2 K) (d : K) :
    is_near_to p q d = true ↔ (p.x - q.x) * (p.x - q.x) + (p.y - q.y) * (p.y - q.y) ≤ d * d := by
  unfold is_near_to
  simp only [decide_eq_true_eq]
  show ((0.0 : K) + (p.x - q.x) * (p.x - q.x)) + (p.y - q.y) * (p.y - q.y) ≤ d * d ↔ _
  rw [lit0, zero_add]

/-- WHAT `solve_curve_for_t_along_axis` (hence `t_for_point`) CAN ANSWER, for ANY behaviour of the root solver: a parameter in
    [-0.001, 1.001] that the solver offered for one of the two coordinates and whose curve point is within `accuracy` of the point
    asked for - or exactly 0 / 1 when the point is within 1e-9 of the start / end point. -/
theorem solve_for_t_sound (solver : K → K → K → K → K → List K) (w1 w2 w3 w4 point : V2 K) (accuracy t : K)
    (h : solve_curve_for_t_along_axis solver w1 w2 w3 w4 point accuracy = some t) :
    ((-(0.001 : K)) ≤ t ∧ t ≤ (1.001 : K) ∧ is_near_to (curve_point_at_pos w1 w2 w3 w4 t) point accuracy = true ∧
      ∃ d ∈ [0, 1], t ∈ solver (getc w1 d) (getc w2 d) (getc w3 d) (getc w4 d) (getc point d)) ∨
    (t = 0 ∧ is_near_to w1 point (1e-9 : K) = true) ∨
    (t = 1 ∧ is_near_to w4 point (1e-9 : K) = true) := by
  unfold solve_curve_for_t_along_axis at h
  dsimp only at h
  split at h
  · rename_i r hr
    obtain ⟨d, hd, hfd⟩ := List.exists_of_findSome?_eq_some hr
    split at hfd
    · rename_i r' hr'
      obtain ⟨u, hu, hfu⟩ := List.exists_of_findSome?_eq_some hr'
      split at hfu
      · cases hfu
      · split at hfu
        · rename_i hrange hnear
          cases hfu
          cases hfd
          cases h
          left
          simp only [Bool.not_eq_true', Bool.and_eq_false_iff, decide_eq_false_iff_not, not_or, not_not] at hrange
          have hd' : d ∈ [0, 1] := by
            have := List.mem_range'_1.1 hd
            simp only [List.mem_cons, List.mem_nil_iff, or_false]; omega
          exact ⟨hrange.1, hrange.2, hnear, d, hd', hu⟩
        · cases hfu
    · cases hfd
  · split at h
    · cases h; right; left; rename_i hn; exact ⟨lit0, hn⟩
    · split at h
      · cases h; right; right; rename_i hn; exact ⟨lit1, hn⟩
      · cases h

/-- AND WHAT `None` MEANS: no parameter in [-0.001, 1.001] offered by the solver for either coordinate has its curve point within
    `accuracy` of the point, and the point is not within 1e-9 of the start or the end point - `t_for_point` is complete relative to
    the root solver -/
theorem solve_for_t_none (solver : K → K → K → K → K → List K) (w1 w2 w3 w4 point : V2 K) (accuracy : K)
    (h : solve_curve_for_t_along_axis solver w1 w2 w3 w4 point accuracy = none) :
    (∀ d ∈ [0, 1], ∀ u ∈ solver (getc w1 d) (getc w2 d) (getc w3 d) (getc w4 d) (getc point d),
        (-(0.001 : K)) ≤ u → u ≤ (1.001 : K) → is_near_to (curve_point_at_pos w1 w2 w3 w4 u) point accuracy = false) ∧
    is_near_to w1 point (1e-9 : K) = false ∧ is_near_to w4 point (1e-9 : K) = false := by
  unfold solve_curve_for_t_along_axis at h
  dsimp only at h
  split at h
  · -- something was found: the function does not answer `None`
    rename_i r hr
    obtain ⟨d, _, hfd⟩ := List.exists_of_findSome?_eq_some hr
    split at hfd
    · rename_i r' hr'
      obtain ⟨u, _, hfu⟩ := List.exists_of_findSome?_eq_some hr'
      split at hfu
      · cases hfu
      · split at hfu
        · cases hfu; cases hfd; cases h
        · cases hfu
    · cases hfd
  · rename_i hnone
    refine ⟨?_, ?_, ?_⟩
    · intro d hd u hu hlo hhi
      have hd' : d ∈ List.range' 0 (2 - 0) := by
        simp only [List.mem_cons, List.mem_nil_iff, or_false] at hd
        rcases hd with rfl | rfl <;> simp [List.mem_range'_1]
      have h1 := (List.findSome?_eq_none_iff.1 hnone) d hd'
      split at h1
      · cases h1
      · rename_i hinner
        have h2 := (List.findSome?_eq_none_iff.1 hinner) u hu
        split at h2
        · rename_i hrange
          simp only [Bool.not_eq_true', Bool.and_eq_false_iff, decide_eq_false_iff_not] at hrange
          rcases hrange with hr | hr
          · exact absurd hlo hr
          · exact absurd hhi hr
        · split at h2
          · cases h2
          · rename_i hn; simpa using hn
    · split at h
      · cases h
      · rename_i hn; simpa using hn
    · split at h
      · cases h
      · split at h
        · cases h
        · rename_i hn; simpa using hn

/-- a reported pair of parameters `(a on curve 1, c on curve 2)` is an end point of one curve located on the other one:
    curve 2's start (`c = 0`) or end (`c = 1`) found on curve 1 at `a`, or curve 1's start (`a = 0`) or end (`a = 1`) found on
    curve 2 at `c` -/
def Located (tfp1 tfp2 : V2 K → Option K) (c1 c2 : Cub K) (a c : K) : Prop :=
  (c = 0 ∧ tfp1 c2.t0 = some a) ∨ (c = 1 ∧ tfp1 c2.t3 = some a) ∨ (a = 0 ∧ tfp2 c1.t0 = some c) ∨ (a = 1 ∧ tfp2 c1.t3 = some c)

/-- the last part of `overlapping_region`, common to all its paths once the four parameters are chosen: reject a single shared
    point, accept collinear lines, otherwise compare the control points of the two matching sections (text of the generated tail) -/
def ovlFinish (curve1 curve2 : Cub K) (c1_t1 c1_t2 c2_t1 c2_t2 : K) : Option (T2 (T2 K K) (T2 K K)) :=
(if ((decide ((fabs (c1_t1 - c1_t2)) < (SMALL_T_DISTANCE : K))) || (decide ((fabs (c2_t1 - c2_t2)) < (SMALL_T_DISTANCE : K)))) then
none
else
let coeff := (line_coefficients_2d (T2.mk curve1.t0 curve1.t3))
let tup_1 := (T2.mk curve1.t1 curve1.t2)
let c1_cp1 := tup_1.t0
let c1_cp2 := tup_1.t1
(if ((((ovl_is_collinear c1_cp1 coeff) && (ovl_is_collinear c1_cp2 coeff)) && (ovl_is_collinear curve2.t0 coeff)) && (ovl_is_collinear curve2.t3 coeff)) then
let tup_2 := (T2.mk curve2.t1 curve2.t2)
let c2_cp1 := tup_2.t0
let c2_cp2 := tup_2.t1
(if ((ovl_is_collinear c2_cp1 coeff) && (ovl_is_collinear c2_cp2 coeff)) then
(some (T2.mk (T2.mk c1_t1 c1_t2) (T2.mk c2_t1 c2_t2)))
else
let tup_3 := (if ((c2_t1 != (0.0 : K)) || (c2_t2 != (1.0 : K))) then
(ovl_control_points curve2 c2_t1 c2_t2)
else
(T2.mk curve2.t1 curve2.t2))
let c2_cp1 := tup_3.t0
let c2_cp2 := tup_3.t1
let tup_4 := (ovl_control_points curve1 c1_t1 c1_t2)
let c1_cp1 := tup_4.t0
let c1_cp2 := tup_4.t1
(if ((ovl_close_enough c1_cp1 c2_cp1) && (ovl_close_enough c1_cp2 c2_cp2)) then
(some (T2.mk (T2.mk c1_t1 c1_t2) (T2.mk c2_t1 c2_t2)))
else
none))
else
let tup_5 := (if ((c2_t1 != (0.0 : K)) || (c2_t2 != (1.0 : K))) then
(ovl_control_points curve2 c2_t1 c2_t2)
else
(T2.mk curve2.t1 curve2.t2))
let c2_cp1 := tup_5.t0
let c2_cp2 := tup_5.t1
let tup_6 := (ovl_control_points curve1 c1_t1 c1_t2)
let c1_cp1 := tup_6.t0
let c1_cp2 := tup_6.t1
(if ((ovl_close_enough c1_cp1 c2_cp1) && (ovl_close_enough c1_cp2 c2_cp2)) then
(some (T2.mk (T2.mk c1_t1 c1_t2) (T2.mk c2_t1 c2_t2)))
else
none)))

/-- the part that chooses the second pair of parameters when curve 2's end point is not on curve 1 -/
def ovlSecond (tfp2 : V2 K → Option K) (curve1 curve2 : Cub K) (c1_t1 c2_t1 : K) : Option (T2 (T2 K K) (T2 K K)) :=
  match tfp2 curve1.t3 with
  | some t =>
    if ((decide (c1_t1 > (0.9 : K))) && (is_near_to curve2.t0 curve1.t3 (SMALL_DISTANCE : K))) then
      (match tfp2 curve1.t0 with
       | some t' => ovlFinish curve1 curve2 c1_t1 (0.0 : K) c2_t1 t'
       | _ => none)
    else ovlFinish curve1 curve2 c1_t1 (1.0 : K) c2_t1 t
  | _ =>
    (match tfp2 curve1.t0 with
     | some t' => ovlFinish curve1 curve2 c1_t1 (0.0 : K) c2_t1 t'
     | _ => none)

/-- THE SHAPE OF `overlapping_region`: choose `(c1_t1, c2_t1)`, choose `(c1_t2, c2_t2)`, finish -/
theorem overlapping_region_eq (tfp1 tfp2 : V2 K → Option K) (c1 c2 : Cub K) :
    overlapping_region tfp1 tfp2 c1 c2 =
      match tfp1 c2.t0 with
      | some t =>
        (match tfp1 c2.t3 with
         | some t' => ovlFinish c1 c2 t t' (0.0 : K) (1.0 : K)
         | _ => ovlSecond tfp2 c1 c2 t (0.0 : K))
      | _ =>
        (match tfp2 c1.t0 with
         | some t =>
           (match tfp1 c2.t3 with
            | some t' => ovlFinish c1 c2 (0.0 : K) t' t (1.0 : K)
            | _ => ovlSecond tfp2 c1 c2 (0.0 : K) t)
         | _ => none) := by
  rfl

theorem some_of_ite {α : Type} {c : Prop} [Decidable c] {x y : Option α} {P : α → Prop}
    (hx : ∀ r, x = some r → P r) (hy : ∀ r, y = some r → P r) (r : α) (h : (if c then x else y) = some r) : P r := by
  split at h
  · exact hx r h
  · exact hy r h

/-- what `ovlFinish` can answer: exactly the four parameters it was given, and only if neither pair is a single point -/
theorem ovlFinish_some (c1 c2 : Cub K) (p q u v : K) (r : T2 (T2 K K) (T2 K K)) (h : ovlFinish c1 c2 p q u v = some r) :
    r = ⟨⟨p, q⟩, ⟨u, v⟩⟩ ∧ ¬ |p - q| < (SMALL_T_DISTANCE : K) ∧ ¬ |u - v| < (SMALL_T_DISTANCE : K) := by
  have X : ∀ r', some (⟨⟨p, q⟩, ⟨u, v⟩⟩ : T2 (T2 K K) (T2 K K)) = some r' → r' = ⟨⟨p, q⟩, ⟨u, v⟩⟩ :=
    fun _ e => (Option.some.inj e).symm
  have N : ∀ r', (none : Option (T2 (T2 K K) (T2 K K))) = some r' → r' = ⟨⟨p, q⟩, ⟨u, v⟩⟩ := fun _ e => nomatch e
  unfold ovlFinish at h
  by_cases hsingle : (decide (fabs (p - q) < (SMALL_T_DISTANCE : K)) || decide (fabs (u - v) < (SMALL_T_DISTANCE : K))) = true
  · rw [if_pos hsingle] at h; cases h
  · rw [if_neg hsingle] at h
    simp only [Bool.or_eq_true, decide_eq_true_eq, not_or] at hsingle
    -- every leaf is `none` or `some ⟨⟨p, q⟩, ⟨u, v⟩⟩`
    exact ⟨some_of_ite (some_of_ite X (some_of_ite X N)) (some_of_ite X N) r h, hsingle⟩

/-- THE OVERLAP SHORTCUT ONLY REPORTS LOCATED END POINTS, FAR ENOUGH APART: for ANY behaviour of the two `t_for_point`, if
    `overlapping_region` answers `((a, b), (c, d))` then `(a, c)` and `(b, d)` are both end points of one curve located on the other,
    and neither `|a-b|` nor `|c-d|` is below `SMALL_T_DISTANCE` (a single shared point is not an overlap). -/
theorem overlapping_region_origin (tfp1 tfp2 : V2 K → Option K) (c1 c2 : Cub K) (a b c d : K)
    (h : overlapping_region tfp1 tfp2 c1 c2 = some ⟨⟨a, b⟩, ⟨c, d⟩⟩) :
    Located tfp1 tfp2 c1 c2 a c ∧ Located tfp1 tfp2 c1 c2 b d ∧
    ¬ |a - b| < (SMALL_T_DISTANCE : K) ∧ ¬ |c - d| < (SMALL_T_DISTANCE : K) := by
  have fin : ∀ p q u v : K, ovlFinish c1 c2 p q u v = some ⟨⟨a, b⟩, ⟨c, d⟩⟩ → Located tfp1 tfp2 c1 c2 p u →
      Located tfp1 tfp2 c1 c2 q v → Located tfp1 tfp2 c1 c2 a c ∧ Located tfp1 tfp2 c1 c2 b d ∧
      ¬ |a - b| < (SMALL_T_DISTANCE : K) ∧ ¬ |c - d| < (SMALL_T_DISTANCE : K) := by
    intro p q u v hf l1 l2
    obtain ⟨hr, n⟩ := ovlFinish_some _ _ _ _ _ _ _ hf
    simp only [T2.mk.injEq] at hr
    obtain ⟨⟨rfl, rfl⟩, rfl, rfl⟩ := hr
    exact ⟨l1, l2, n⟩
  -- the second choice, for any first choice
  have second : ∀ p u : K, ovlSecond tfp2 c1 c2 p u = some ⟨⟨a, b⟩, ⟨c, d⟩⟩ → Located tfp1 tfp2 c1 c2 p u →
      Located tfp1 tfp2 c1 c2 a c ∧ Located tfp1 tfp2 c1 c2 b d ∧
      ¬ |a - b| < (SMALL_T_DISTANCE : K) ∧ ¬ |c - d| < (SMALL_T_DISTANCE : K) := by
    intro p u hs l1
    have start : ∀ t', tfp2 c1.t0 = some t' → ovlFinish c1 c2 p (0.0 : K) u t' = some ⟨⟨a, b⟩, ⟨c, d⟩⟩ → _ :=
      fun t' h3 hf => fin _ _ _ _ hf l1 (Or.inr (Or.inr (Or.inl ⟨lit0, h3⟩)))
    unfold ovlSecond at hs
    split at hs
    · rename_i t h4
      split at hs
      · split at hs
        · rename_i t' h3; exact start t' h3 hs
        · cases hs
      · exact fin _ _ _ _ hs l1 (Or.inr (Or.inr (Or.inr ⟨lit1, h4⟩)))
    · split at hs
      · rename_i t' h3; exact start t' h3 hs
      · cases hs
  rw [overlapping_region_eq] at h
  split at h
  · rename_i t h1
    split at h
    · rename_i t' h2; exact fin _ _ _ _ h (Or.inl ⟨lit0, h1⟩) (Or.inr (Or.inl ⟨lit1, h2⟩))
    · exact second _ _ h (Or.inl ⟨lit0, h1⟩)
  · split at h
    · rename_i t h3
      split at h
      · rename_i t' h2; exact fin _ _ _ _ h (Or.inr (Or.inr (Or.inl ⟨lit0, h3⟩))) (Or.inr (Or.inl ⟨lit1, h2⟩))
      · exact second _ _ h (Or.inr (Or.inr (Or.inl ⟨lit0, h3⟩)))
    · cases h

def Within (d : K) (p q : V2 K) : Prop := (p.x - q.x) * (p.x - q.x) + (p.y - q.y) * (p.y - q.y) ≤ d * d

theorem Within.symm {d : K} {p q : V2 K} (h : Within d p q) : Within d q p := by
  unfold Within at *
  rwa [← neg_sub p.x, ← neg_sub p.y, neg_mul_neg, neg_mul_neg]

theorem Within.mono {d e : K} {p q : V2 K} (h : Within d p q) (hd : 0 ≤ d) (hde : d ≤ e) : Within e p q := by
  exact le_trans h (mul_self_le_mul_self hd hde)

theorem V2_add_x (a b : V2 K) : (a + b).x = a.x + b.x := V2.add_x a b
theorem V2_add_y (a b : V2 K) : (a + b).y = a.y + b.y := V2.add_y a b
theorem V2_mul_x (a : V2 K) (k : K) : (a * k).x = a.x * k := V2.mul_x a k
theorem V2_mul_y (a : V2 K) (k : K) : (a * k).y = a.y * k := V2.mul_y a k

/-- `t_for_point` as the library defines it: `solve_curve_for_t_along_axis(curve, point, CLOSE_ENOUGH)`, for any root solver -/
def tForPoint (solver : K → K → K → K → K → List K) (c : Cub K) (p : V2 K) : Option K :=
  solve_curve_for_t_along_axis solver c.t0 c.t1 c.t2 c.t3 p (CLOSE_ENOUGH : K)

/-- `t_for_point` IS SOUND: whatever the root solver answers, a parameter it returns has its curve point within `CLOSE_ENOUGH`
    (= 0.05) of the point asked for -/
theorem tForPoint_sound (solver : K → K → K → K → K → List K) (c : Cub K) (p : V2 K) (t : K)
    (h : tForPoint solver c p = some t) : Within (0.05 : K) (curve_point_at_pos c.t0 c.t1 c.t2 c.t3 t) p := by
  have hce : (CLOSE_ENOUGH : K) = 0.05 := by unfold CLOSE_ENOUGH SMALL_DISTANCE; norm_num
  rcases solve_for_t_sound solver _ _ _ _ _ _ _ h with ⟨_, _, hn, _⟩ | ⟨rfl, hn⟩ | ⟨rfl, hn⟩
  · rw [is_near_to_iff, hce] at hn; exact hn
  · rw [is_near_to_iff] at hn; rw [point_at_zero]
    exact Within.mono (d := (1e-9 : K)) hn (by norm_num) (by norm_num)
  · rw [is_near_to_iff] at hn; rw [point_at_one]
    exact Within.mono (d := (1e-9 : K)) hn (by norm_num) (by norm_num)

/-- **WHAT THE OVERLAP SHORTCUT REPORTS ARE COMMON POINTS** (to 0.05, the library's `CLOSE_ENOUGH`): with `t_for_point` as the
    library defines it and ANY root solvers, if `overlapping_region(curve1, curve2) = ((a, b), (c, d))` then curve 1 at `a` is within
    0.05 of curve 2 at `c`, curve 1 at `b` is within 0.05 of curve 2 at `d`, and neither parameter pair is a single point. -/
theorem overlap_answer_points_close (s1 s2 : K → K → K → K → K → List K) (c1 c2 : Cub K) (a b c d : K)
    (h : overlapping_region (tForPoint s1 c1) (tForPoint s2 c2) c1 c2 = some ⟨⟨a, b⟩, ⟨c, d⟩⟩) :
    Within (0.05 : K) (curve_point_at_pos c1.t0 c1.t1 c1.t2 c1.t3 a) (curve_point_at_pos c2.t0 c2.t1 c2.t2 c2.t3 c) ∧
    Within (0.05 : K) (curve_point_at_pos c1.t0 c1.t1 c1.t2 c1.t3 b) (curve_point_at_pos c2.t0 c2.t1 c2.t2 c2.t3 d) ∧
    ¬ |a - b| < (SMALL_T_DISTANCE : K) ∧ ¬ |c - d| < (SMALL_T_DISTANCE : K) := by
  obtain ⟨hac, hbd, n1, n2⟩ := overlapping_region_origin _ _ _ _ _ _ _ _ h
  have key : ∀ x y : K, Located (tForPoint s1 c1) (tForPoint s2 c2) c1 c2 x y →
      Within (0.05 : K) (curve_point_at_pos c1.t0 c1.t1 c1.t2 c1.t3 x) (curve_point_at_pos c2.t0 c2.t1 c2.t2 c2.t3 y) := by
    intro x y hl
    rcases hl with ⟨rfl, hq⟩ | ⟨rfl, hq⟩ | ⟨rfl, hq⟩ | ⟨rfl, hq⟩
    · rw [point_at_zero]; exact tForPoint_sound s1 c1 _ _ hq
    · rw [point_at_one]; exact tForPoint_sound s1 c1 _ _ hq
    · rw [point_at_zero]; exact (tForPoint_sound s2 c2 _ _ hq).symm
    · rw [point_at_one]; exact (tForPoint_sound s2 c2 _ _ hq).symm
  exact ⟨key a c hac, key b d hbd, n1, n2⟩

/-! ### the linear fall-back -/

/-- the cubic of a section: its start point, its two control points, its end point -/
def secCubic (w1 w2 w3 w4 : V2 K) (s : SectionT K) : Cub K :=
  ⟨section_start_point w1 w2 w3 w4 s, (section_control_points w1 w2 w3 w4 s).t0, (section_control_points w1 w2 w3 w4 s).t1,
   section_end_point w1 w2 w3 w4 s⟩

theorem mem_ite {α : Type} {c : Prop} [Decidable c] {l1 l2 : List α} {x : α} (h : x ∈ if c then l1 else l2) :
    (c ∧ x ∈ l1) ∨ (¬ c ∧ x ∈ l2) := by
  split at h
  · exact Or.inl ⟨‹c›, h⟩
  · exact Or.inr ⟨‹¬ c›, h⟩

/-- **WHAT THE LINEAR FALL-BACK REPORTS** (`intersections_with_linear_section`, generated whole; in practice every transversal
    crossing `curve_intersects_curve_clip` returns comes from here): for ANY behaviour of the two root solvers, every reported pair
    `(linear_t, curved_t)` belongs to a hit `(curved_t, _, pos)` of `curve_intersects_ray(curved section, ray through the ends of the
    linear section)` (what C04 proves about such hits applies), and EITHER the point of the linear section's cubic at `linear_t` is
    within `max(accuracy, CLOSE_DISTANCE)` of `pos` (`solve_for_t_sound`), OR `linear_t = 0.5`, the linear section's ends are within
    0.1 of each other and `pos` is within 0.05 of the section's mid point (the short-section rescue). -/
theorem linear_fallback_sound (solve_roots : T4 K K K K → List K) (solve_basis : K → K → K → K → K → List K)
    (a1 a2 a3 a4 b1 b2 b3 b4 : V2 K) (lin cur : SectionT K) (accuracy lt ct : K) (hacc : 0 ≤ accuracy)
    (h : T2.mk lt ct ∈ intersections_with_linear_section solve_roots solve_basis a1 a2 a3 a4 b1 b2 b3 b4 lin cur accuracy) :
    ∃ hit ∈ curve_intersects_ray solve_roots (secCubic b1 b2 b3 b4 cur).t0 (secCubic b1 b2 b3 b4 cur).t1 (secCubic b1 b2 b3 b4 cur).t2
        (secCubic b1 b2 b3 b4 cur).t3 (T2.mk (section_start_point a1 a2 a3 a4 lin) (section_end_point a1 a2 a3 a4 lin)),
      hit.t0 = ct ∧
      (Within (max accuracy (CLOSE_DISTANCE : K))
          (curve_point_at_pos (secCubic a1 a2 a3 a4 lin).t0 (secCubic a1 a2 a3 a4 lin).t1 (secCubic a1 a2 a3 a4 lin).t2
            (secCubic a1 a2 a3 a4 lin).t3 lt) hit.t2 ∨
       (lt = 0.5 ∧ is_near_to hit.t2 (section_point_at_pos a1 a2 a3 a4 lin (0.5 : K)) (CLOSE_ENOUGH : K) = true ∧
        is_near_to (section_point_at_pos a1 a2 a3 a4 lin (0.0 : K)) (section_point_at_pos a1 a2 a3 a4 lin (1.0 : K)) (0.1 : K) = true)) := by
  have hcd : (CLOSE_DISTANCE : K) = 0.01 := rfl
  have hm0 : (0 : K) ≤ max accuracy (CLOSE_DISTANCE : K) := le_max_of_le_left hacc
  have hm9 : (1e-9 : K) ≤ max accuracy (CLOSE_DISTANCE : K) := le_max_of_le_right (by rw [hcd]; norm_num)
  -- a pair found by the first pass
  have first : ∀ l, T2.mk lt ct ∈ List.filterMap (fun arg_0 : T3 K K (V2 K) =>
        Option.map (fun linear_t_ => T2.mk linear_t_ arg_0.t0)
          (solve_curve_for_t_along_axis solve_basis (secCubic a1 a2 a3 a4 lin).t0 (secCubic a1 a2 a3 a4 lin).t1
            (secCubic a1 a2 a3 a4 lin).t2 (secCubic a1 a2 a3 a4 lin).t3 arg_0.t2 (fmax accuracy (CLOSE_DISTANCE : K)))) l →
      ∃ hit ∈ l, hit.t0 = ct ∧ Within (max accuracy (CLOSE_DISTANCE : K))
        (curve_point_at_pos (secCubic a1 a2 a3 a4 lin).t0 (secCubic a1 a2 a3 a4 lin).t1 (secCubic a1 a2 a3 a4 lin).t2
          (secCubic a1 a2 a3 a4 lin).t3 lt) hit.t2 := by
    intro l hmem
    obtain ⟨hit, hhit, hopt⟩ := List.mem_filterMap.1 hmem
    obtain ⟨t, hsolve, hpair⟩ := Option.map_eq_some_iff.1 hopt
    simp only [T2.mk.injEq] at hpair
    obtain ⟨rfl, rfl⟩ := hpair
    refine ⟨hit, hhit, rfl, ?_⟩
    rw [fmax_eq_max] at hsolve
    rcases solve_for_t_sound solve_basis _ _ _ _ _ _ _ hsolve with ⟨_, _, hn, _⟩ | ⟨rfl, hn⟩ | ⟨rfl, hn⟩
    · exact (is_near_to_iff _ _ _).1 hn
    · rw [point_at_zero]; exact Within.mono ((is_near_to_iff _ _ _).1 hn) (by norm_num) hm9
    · rw [point_at_one]; exact Within.mono ((is_near_to_iff _ _ _).1 hn) (by norm_num) hm9
  unfold intersections_with_linear_section at h
  rcases mem_ite h with ⟨_, h⟩ | ⟨_, h⟩
  · rcases mem_ite h with ⟨hshort, h⟩ | ⟨_, h⟩
    · -- the rescue for a short linear section
      obtain ⟨hit, hhit, hopt⟩ := List.mem_filterMap.1 h
      dsimp only at hopt
      split_ifs at hopt with hnear
      simp only [Option.some.injEq, T2.mk.injEq] at hopt
      obtain ⟨rfl, rfl⟩ := hopt
      exact ⟨hit, hhit, rfl, Or.inr ⟨rfl, hnear, hshort⟩⟩
    · obtain ⟨hit, hhit, hc, hw⟩ := first _ h
      exact ⟨hit, hhit, hc, Or.inl hw⟩
  · obtain ⟨hit, hhit, hc, hw⟩ := first _ h
    exact ⟨hit, hhit, hc, Or.inl hw⟩

/-- **THE TWO POINTS OF A LINEAR-FALL-BACK ANSWER ARE CLOSE**: `linear_fallback_sound` with what C04 proves about the hits of
    `curve_intersects_ray` (`C04.hit_sound`: the hit's parameter is in [0,1] and its position IS the point of the curved section's
    cubic at that parameter).  For ANY root solvers, every reported `(linear_t, curved_t)` has `0 ≤ curved_t ≤ 1`, and the point of the
    linear section's cubic at `linear_t` is within `max(accuracy, 0.01)` of the point of the curved section's cubic at `curved_t` - or
    it is the short-section rescue, where the curved point is within 0.05 of the linear section's mid point. -/
theorem linear_fallback_points_close (solve_roots : T4 K K K K → List K) (solve_basis : K → K → K → K → K → List K)
    (a1 a2 a3 a4 b1 b2 b3 b4 : V2 K) (lin cur : SectionT K) (accuracy lt ct : K) (hacc : 0 ≤ accuracy)
    (h : T2.mk lt ct ∈ intersections_with_linear_section solve_roots solve_basis a1 a2 a3 a4 b1 b2 b3 b4 lin cur accuracy) :
    0 ≤ ct ∧ ct ≤ 1 ∧
    (Within (max accuracy (CLOSE_DISTANCE : K))
        (curve_point_at_pos (secCubic a1 a2 a3 a4 lin).t0 (secCubic a1 a2 a3 a4 lin).t1 (secCubic a1 a2 a3 a4 lin).t2
          (secCubic a1 a2 a3 a4 lin).t3 lt)
        (de_casteljau4 ct (secCubic b1 b2 b3 b4 cur).t0 (secCubic b1 b2 b3 b4 cur).t1 (secCubic b1 b2 b3 b4 cur).t2
          (secCubic b1 b2 b3 b4 cur).t3) ∨
     (lt = 0.5 ∧ is_near_to (de_casteljau4 ct (secCubic b1 b2 b3 b4 cur).t0 (secCubic b1 b2 b3 b4 cur).t1
          (secCubic b1 b2 b3 b4 cur).t2 (secCubic b1 b2 b3 b4 cur).t3) (section_point_at_pos a1 a2 a3 a4 lin (0.5 : K)) (CLOSE_ENOUGH : K) = true)) := by
  obtain ⟨hit, hhit, hct, hcase⟩ := linear_fallback_sound solve_roots solve_basis a1 a2 a3 a4 b1 b2 b3 b4 lin cur accuracy lt ct hacc h
  obtain ⟨_, r, _, _, h0, h1, hpos, _⟩ := C04.hit_sound solve_roots _ _ _ _ _ hit hhit
  rw [hct] at h0 h1 hpos
  refine ⟨h0, h1, ?_⟩
  rcases hcase with hw | ⟨hlt, hnear, _⟩
  · left; rw [← hpos]; exact hw
  · right; rw [← hpos]; exact ⟨hlt, hnear⟩

/-! ### non-vacuity -/
section example_
local instance : FSqrt ℚ := ⟨fun x => x⟩
local instance : FConsts ℚ := ⟨0, 0, 0, 0, 0⟩
local instance : FSignum ℚ := ⟨fun x => if x < 0 then -1 else 1⟩
local instance : FAbs ℚ := ⟨fun a => |a|⟩
local instance : OfInt ℚ := ⟨fun n => (n : ℚ)⟩

/-- the hypothesis of `solve_for_t_sound` is met: asked for its own start point the function answers 0 even when the root solver
    offers nothing (the end-point clause of repair F23).  That `overlapping_region` answers `Some` on real inputs (identical curves,
    sub-sections, collinear lines: more than half of the correspondence cases) is measured on every run (`ovl.kind*.some`). -/
example : solve_curve_for_t_along_axis (K := ℚ) (fun _ _ _ _ _ => []) ⟨1, 2⟩ ⟨3, 4⟩ ⟨5, 1⟩ ⟨7, 7⟩ ⟨1, 2⟩ (1/20) = some 0 := by
  decide +kernel

end example_

end C02Overlap
