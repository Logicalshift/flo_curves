/-
C20  Core queries are total on finite input.

Every theorem here is about a definition that rs2lean regenerates from the Rust source on every check (`Gen.*`),
instantiated at `Prelude.XQ`: exact rational arithmetic with the IEEE-754 rules for signed zeros, x/0, 0/0, ∞−∞, 0·∞,
sqrt of negative numbers and unordered NaN comparisons, but without rounding (hence without overflow and underflow).
"Finite" = not NaN and not ±∞ (`XQ.Fin`).  A theorem `f_fin` says: for ALL finite inputs - every degenerate case
included: coincident control points, zero-length lines, parameters 0 and 1, empty sections - every number `f` returns
is finite, i.e. every division the code reaches has a non-zero divisor thanks to its guard, and every non-finite
intermediate value the code does produce (it does: see `polish_root`, `solve_line_y`, `find_extremities`) is discarded
by a comparison before it can reach the result.  Where the code is NOT total the negation is proved with a witness.

`f64::sqrt` is any function with `0 ≤ sqrt q` and `sqrt q = 0 ↔ q = 0` on the non-negative rationals (`SqrtFn`).

Out of scope (stated, not hidden): rounding, overflow (a finite exact result whose binary64 value overflows) and
underflow (e.g. `a·a + b·b` rounding to 0 for |a|,|b| < 1e-162); the guards that test the computed divisor itself
(`factor == 0.0`, `denominator == 0.0`, `|divisor| > 2e-12`, `aa != 0.0`, `|speed| < 1e-8`, `|det| < 1e-4`) are
rounding-independent, the ones that test another quantity (`t_c >= 1.0` for the divisor `1.0 - t_c`; `a == 0 && b == 0`
for `sqrt(a·a + b·b)`) rely on exact arithmetic in the proof.
-/
import FloVerif.Lemmas.XQFin
import FloVerif.Lemmas.Total
import FloVerif.Lemmas.Walk
import FloVerif.Model.Total
import FloVerif.Gen.Section
import FloVerif.Gen.Lines
import FloVerif.Gen.FatLine
import FloVerif.Gen.CurveLine
import FloVerif.Gen.CurveBounds
import FloVerif.Gen.Walk
import FloVerif.Gen.Fit
import FloVerif.Gen.Nearest
import FloVerif.Gen.Length
import FloVerif.Gen.Total
import FloVerif.Gen.PointInPath

set_option linter.unusedSectionVars false
namespace C20
open Prelude Gen XQ Model.Total

abbrev Pt := V2 XQ

def CurveFin (c : T4 Pt Pt Pt Pt) : Prop := V2.Fin c.t0 ∧ V2.Fin c.t1 ∧ V2.Fin c.t2 ∧ V2.Fin c.t3

/-- an example square-root function for the non-vacuity examples (any function meeting `SqrtFn` will do) -/
@[reducible] def exSqrt : SqrtFn where
  s := fun q => if q = 0 then 0 else (q + 1) / 2
  nonneg := fun q h => by split_ifs <;> [exact le_rfl; exact by linarith]
  zero_iff := fun q h => by
    constructor
    · intro h1; by_contra h2; rw [if_neg h2] at h1; linarith
    · intro h1; rw [if_pos h1]

/-- a degenerate curve: all control points equal -/
def pt5 : Pt := ⟨fin 5, fin 5⟩
theorem pt5_fin : V2.Fin pt5 := ⟨rfl, rfl⟩
theorem pt5_sub_fin : V2.Fin (pt5 - pt5) := ⟨rfl, rfl⟩

def Ctl (w1 w2 w3 w4 : Pt) : Prop := V2.Fin w1 ∧ V2.Fin w2 ∧ V2.Fin w3 ∧ V2.Fin w4
theorem ctl5 : Ctl pt5 pt5 pt5 pt5 := ⟨pt5_fin, pt5_fin, pt5_fin, pt5_fin⟩

/-! ## 1. Division-free kernels: finite in, finite out -/

theorem eval_fin {t : XQ} {w1 w2 w3 w4 : Pt} (ht : Fin t) (hw : Ctl w1 w2 w3 w4) :
    V2.Fin (basis t w1 w2 w3 w4) ∧ V2.Fin (de_casteljau4 t w1 w2 w3 w4) ∧ V2.Fin (de_casteljau2 t w1 w2) ∧
    V2.Fin (curve_point_at_pos w1 w2 w3 w4 t) := by
  obtain ⟨h1, h2, h3, h4⟩ := hw
  simp only [curve_point_at_pos, basis, de_casteljau4, de_casteljau3, de_casteljau2]
  xq_fin

example : V2.Fin (curve_point_at_pos pt5 pt5 pt5 pt5 (1.0 : XQ)) := (eval_fin fin_one_lit ctl5).2.2.2

theorem dc3_fin {t : XQ} {a b c : Pt} (ht : Fin t) (ha : V2.Fin a) (hb : V2.Fin b) (hc : V2.Fin c) :
    V2.Fin (de_casteljau3 t a b c) := by
  simp only [de_casteljau3, de_casteljau2]
  xq_fin

/-- `subdivide` at any finite parameter (0 and 1 included) returns two curves with finite control points -/
theorem subdivide_fin (t : XQ) (w1 w2 w3 w4 : Pt) (ht : Fin t) (h1 : V2.Fin w1) (h2 : V2.Fin w2) (h3 : V2.Fin w3) (h4 : V2.Fin w4) :
    CurveFin (curve_subdivide w1 w2 w3 w4 t).t0 ∧ CurveFin (curve_subdivide w1 w2 w3 w4 t).t1 := by
  simp only [CurveFin, curve_subdivide, subdivide4, de_casteljau2]
  xq_fin

example : CurveFin (curve_subdivide pt5 pt5 pt5 pt5 (0.0 : XQ)).t0 :=
  (subdivide_fin _ _ _ _ _ fin_zero_lit pt5_fin pt5_fin pt5_fin pt5_fin).1

theorem coefficients_fin {a b c d : XQ} (ha : Fin a) (hb : Fin b) (hc : Fin c) (hd : Fin d) :
    let p := bezier_coefficients a b c d
    Fin p.t0 ∧ Fin p.t1 ∧ Fin p.t2 ∧ Fin p.t3 := by
  simp only [bezier_coefficients]
  xq_fin

theorem derivative_fin {w1 w2 w3 w4 : Pt} (hw : Ctl w1 w2 w3 w4) :
    (let q := derivative4 w1 w2 w3 w4; V2.Fin q.t0 ∧ V2.Fin q.t1 ∧ V2.Fin q.t2) ∧ CurveFin (curve_reverse w1 w2 w3 w4) := by
  obtain ⟨h1, h2, h3, h4⟩ := hw
  simp only [CurveFin, derivative4, curve_reverse]
  xq_fin

example : CurveFin (curve_reverse pt5 pt5 pt5 pt5) := (derivative_fin ctl5).2

/-! ## 2. Sections -/

/-- the numeric state of a section is finite -/
def SecFin (s : SectionT XQ) : Prop := Fin s.t_c ∧ Fin s.t_m

theorem section_new_fin {a b : XQ} (ha : Fin a) (hb : Fin b) : SecFin (section_new a b) := by
  simp only [SecFin, section_new]
  xq_fin

theorem subsection_fin {s : SectionT XQ} {a b : XQ} (hs : SecFin s) (ha : Fin a) (hb : Fin b) :
    SecFin (section_subsection s a b) := by
  obtain ⟨hc, hm⟩ := hs
  simp only [SecFin, section_subsection, section_new, section_t_for_t]
  xq_fin

theorem section_params_fin {s : SectionT XQ} {t : XQ} (hs : SecFin s) (ht : Fin t) :
    Fin (section_t_for_t s t) ∧ Fin (section_original_curve_t_values s).t0 ∧ Fin (section_original_curve_t_values s).t1 := by
  obtain ⟨hc, hm⟩ := hs
  simp only [section_t_for_t, section_original_curve_t_values]
  xq_fin

/-- the empty section at the end of the curve, `section(1.0, 1.0)` -/
def sec11 : SectionT XQ := section_new (1.0 : XQ) (1.0 : XQ)
theorem sec11_fin : SecFin sec11 := section_new_fin fin_one_lit fin_one_lit

example : SecFin (section_subsection sec11 (0.0 : XQ) (0.0 : XQ)) := subsection_fin sec11_fin fin_zero_lit fin_zero_lit

theorem section_point_fin {w1 w2 w3 w4 : Pt} {s : SectionT XQ} {t : XQ} (hw : Ctl w1 w2 w3 w4) (hs : SecFin s) (ht : Fin t) :
    V2.Fin (section_point_at_pos w1 w2 w3 w4 s t) :=
  (eval_fin (section_params_fin hs ht).1 hw).2.2.2

theorem section_ends_fin {w1 w2 w3 w4 : Pt} {s : SectionT XQ} (hw : Ctl w1 w2 w3 w4) (hs : SecFin s) :
    V2.Fin (section_start_point w1 w2 w3 w4 s) ∧ V2.Fin (section_end_point w1 w2 w3 w4 s) :=
  ⟨section_point_fin hw hs fin_zero_lit, section_point_fin hw hs fin_one_lit⟩

example : V2.Fin (section_end_point pt5 pt5 pt5 pt5 sec11) := (section_ends_fin ctl5 sec11_fin).2

/-- SECTION CONTROL POINTS ARE TOTAL (defect F4 and its repair): for every finite curve and every finite section -
    `t_c = 1` (where the unrepaired code computed 0/0), `t_c > 1`, empty sections `a = b`, reversed sections - both
    control points are finite: the divisor `1 − t_c` is only reached when `t_c < 1` -/
theorem section_control_points_fin (w1 w2 w3 w4 : Pt) (s : SectionT XQ) (h1 : V2.Fin w1) (h2 : V2.Fin w2) (h3 : V2.Fin w3)
    (h4 : V2.Fin w4) (hs : SecFin s) :
    V2.Fin (section_control_points w1 w2 w3 w4 s).t0 ∧ V2.Fin (section_control_points w1 w2 w3 w4 s).t1 := by
  obtain ⟨hc, hm⟩ := hs
  simp only [section_control_points, de_casteljau2]
  -- `t_max`, section.rs:134
  generalize htm : (if decide (s.t_c ≥ (1.0 : XQ)) then (0.0 : XQ) else s.t_m / ((1.0 : XQ) - s.t_c)) = tmax
  have ht : Fin tmax := by
    rw [← htm]
    split_ifs with h
    · exact fin_zero_lit
    · apply fin_div hm (fin_sub fin_one_lit hc)
      rw [val_sub fin_one_lit hc, val_one_lit]
      simp only [decide_eq_true_eq, ge_iff_le] at h
      rw [le_iff fin_one_lit hc, val_one_lit] at h
      intro h0; apply h; linarith
  xq_fin

theorem section_ctl_fin {w1 w2 w3 w4 : Pt} {s : SectionT XQ} (hw : Ctl w1 w2 w3 w4) (hs : SecFin s) :
    Ctl (section_start_point w1 w2 w3 w4 s) (section_control_points w1 w2 w3 w4 s).t0 (section_control_points w1 w2 w3 w4 s).t1
      (section_end_point w1 w2 w3 w4 s) :=
  have hc := section_control_points_fin w1 w2 w3 w4 s hw.1 hw.2.1 hw.2.2.1 hw.2.2.2 hs
  ⟨(section_ends_fin hw hs).1, hc.1, hc.2, (section_ends_fin hw hs).2⟩

example : V2.Fin (section_control_points pt5 pt5 pt5 pt5 sec11).t0 :=
  (section_control_points_fin _ _ _ _ _ pt5_fin pt5_fin pt5_fin pt5_fin sec11_fin).1

/-- NOT TOTAL: `section_t_for_original_t` divides by `t_m` without a guard; for an empty section (`a = b`, as produced by
    `section(0.5, 0.5)` or by clipping to a single point) the result is not finite, whatever `t` is.  (A parameter
    conversion is not one of the operations C20 enumerates and the inverse of a constant map is undefined: the catalogue
    counts this as information, not as a failure.  The library's only own use, `join_subsections` in curve_curve_clip.rs,
    feeds the result into the comparison `|right − left| < 0.1` only.) -/
theorem section_t_for_original_t_not_total (a t : XQ) (ha : Fin a) :
    ¬ Fin (section_t_for_original_t (section_new a a) t) := by
  simp only [section_t_for_original_t, section_new]
  refine not_fin_div_zero ?_ (fin_sub ha ha)
  rw [val_sub ha ha]; ring

/-- it is finite exactly when the section is not empty -/
theorem section_t_for_original_t_fin_iff (s : SectionT XQ) (t : XQ) (hs : SecFin s) (ht : Fin t) :
    Fin (section_t_for_original_t s t) ↔ val s.t_m ≠ 0 := by
  obtain ⟨hc, hm⟩ := hs
  simp only [section_t_for_original_t]
  exact fin_div_iff (fin_sub ht hc) hm

example : ¬ Fin (section_t_for_original_t (section_new (0.5 : XQ) (0.5 : XQ)) (0.5 : XQ)) :=
  section_t_for_original_t_not_total _ _ (fin_ofScientific ..)

/-! ## 3. Lines -/

/-- both end points of a line are finite -/
def LineFin (l : T2 Pt Pt) : Prop := V2.Fin l.t0 ∧ V2.Fin l.t1

/-- three finite coefficients -/
def CoeffFin (c : T3 XQ XQ XQ) : Prop := Fin c.t0 ∧ Fin c.t1 ∧ Fin c.t2

/-- a zero-length line (both end points equal) -/
def pointLine : T2 Pt Pt := ⟨pt5, pt5⟩
theorem pointLine_fin : LineFin pointLine := ⟨pt5_fin, pt5_fin⟩

/-- `line_coefficients_2d_unnormalized` IS TOTAL: for every finite line - a point line (both offsets zero: the repaired
    guard returns (0,0,0)), horizontal, vertical - the coefficients are finite: the code divides by the offset of larger
    magnitude, which is non-zero once the offsets are not both zero -/
theorem line_coefficients_unnormalized_fin (l : T2 Pt Pt) (hl : LineFin l) : CoeffFin (line_coefficients_2d_unnormalized l) := by
  obtain ⟨h0, h1⟩ := hl
  have hox : Fin (l.t1.x - l.t0.x) := by xq_fin
  have hoy : Fin (l.t1.y - l.t0.y) := by xq_fin
  simp only [line_coefficients_2d_unnormalized, V2.sub_x, V2.sub_y, decide_eq_true_eq]
  by_cases hz : ((l.t1.x - l.t0.x == (0.0 : XQ)) && (l.t1.y - l.t0.y == (0.0 : XQ))) = true
  · rw [if_pos hz]
    exact ⟨fin_zero_lit, fin_zero_lit, fin_zero_lit⟩
  rw [if_neg hz]
  by_cases hgt : fabs (l.t1.x - l.t0.x) > fabs (l.t1.y - l.t0.y)
  · rw [if_pos hgt]
    have ha := fin_div hoy hox (abs_gt_ne hox hoy hgt)
    -- the sign of the divisor only decides whether all three coefficients are negated
    refine ite_of_both CoeffFin _ ?_ ?_
    all_goals
      unfold CoeffFin
      xq_fin
  · rw [if_neg hgt]
    have ha := fin_div hox hoy (abs_not_gt_ne hox hoy hgt hz)
    refine ite_of_both CoeffFin _ ?_ ?_
    all_goals
      unfold CoeffFin
      xq_fin

example : CoeffFin (line_coefficients_2d_unnormalized pointLine) := line_coefficients_unnormalized_fin _ pointLine_fin

section
variable [SqrtFn]

/-- `line_coefficients_2d` (`Line2D::coefficients`) IS TOTAL (defect F6 and its repair f5fb198): the normalisation divides
    by `factor = sqrt(a² + b²)` only after testing `factor == 0.0` -/
theorem line_coefficients_fin (l : T2 Pt Pt) (hl : LineFin l) : CoeffFin (line_coefficients_2d l) := by
  have hu := line_coefficients_unnormalized_fin l hl
  simp only [line_coefficients_2d, CoeffFin] at hu ⊢
  generalize line_coefficients_2d_unnormalized l = u at hu ⊢
  obtain ⟨ha, hb, hc⟩ := hu
  have hf := fin_hypot ha hb
  split_ifs with hz
  · exact ⟨fin_zero_lit, fin_zero_lit, fin_zero_lit⟩
  · have hne := ne_of_not_beq_zero hf hz
    exact ⟨fin_div ha hf hne, fin_div hb hf hne, fin_div hc hf hne⟩

example : CoeffFin (line_coefficients_2d pointLine) := line_coefficients_fin _ pointLine_fin

/-- A POINT LINE HAS ZERO COEFFICIENTS: for a zero-length line `line_coefficients_2d` returns exactly (0, 0, 0) (the value
    `LineCoefficients::is_point` tests for) -/
theorem line_coefficients_point (p : Pt) (hp : V2.Fin p) :
    line_coefficients_2d (T2.mk p p) = T3.mk (0.0 : XQ) (0.0 : XQ) (0.0 : XQ) := by
  obtain ⟨hx, hy⟩ := hp
  have h1 : ((p.x - p.x) == (0.0 : XQ)) = true := by
    rw [beq_iff (fin_sub hx hx) fin_zero_lit, val_sub hx hx, val_zero_lit]; ring
  have h2 : ((p.y - p.y) == (0.0 : XQ)) = true := by
    rw [beq_iff (fin_sub hy hy) fin_zero_lit, val_sub hy hy, val_zero_lit]; ring
  have hu : line_coefficients_2d_unnormalized (T2.mk p p) = T3.mk (0.0 : XQ) (0.0 : XQ) (0.0 : XQ) := by
    simp only [line_coefficients_2d_unnormalized, V2.sub_x, V2.sub_y, h1, h2, Bool.and_self, if_true]
  have h3 : (fsqrt ((0.0 : XQ) * (0.0 : XQ) + (0.0 : XQ) * (0.0 : XQ)) == (0.0 : XQ)) = true := by
    rw [beq_iff (fin_hypot fin_zero_lit fin_zero_lit) fin_zero_lit, val_zero_lit,
      val_hypot_eq_zero_iff fin_zero_lit fin_zero_lit]
    exact ⟨val_zero_lit, val_zero_lit⟩
  simp only [line_coefficients_2d, hu, h3, if_true]

example : line_coefficients_2d pointLine = T3.mk (0.0 : XQ) (0.0 : XQ) (0.0 : XQ) := line_coefficients_point _ pt5_fin

/-- signed distance of a point to a line (`LineCoefficients::distance_to`) and a point on a line (`Line::point_at_pos`):
    finite (no division) -/
theorem line_distance_fin (c : T3 XQ XQ XQ) (p : Pt) (l : T2 Pt Pt) (t : XQ) (hc : CoeffFin c) (hp : V2.Fin p) (hl : LineFin l) (ht : Fin t) :
    Fin (coefficients_distance_to c p) ∧ V2.Fin (line_point_at_pos l t) := by
  obtain ⟨ha, hb, hcc⟩ := hc
  obtain ⟨h0, h1⟩ := hl
  simp only [coefficients_distance_to, line_point_at_pos]
  xq_fin

example : Fin (coefficients_distance_to (line_coefficients_2d pointLine) pt5) :=
  (line_distance_fin _ _ pointLine (0.0 : XQ) (line_coefficients_fin _ pointLine_fin) pt5_fin pointLine_fin fin_zero_lit).1

/-- `LineCoefficients::nearest_point` divides by `a² + b²` without a guard: the result is finite exactly when the
    coefficients are not those of a point -/
theorem coefficients_nearest_point_fin_iff (c : T3 XQ XQ XQ) (p : Pt) (hc : CoeffFin c) (hp : V2.Fin p) :
    V2.Fin (coefficients_nearest_point c p) ↔ ¬ (val c.t0 = 0 ∧ val c.t1 = 0) := by
  obtain ⟨ha, hb, hcc⟩ := hc
  obtain ⟨hx, hy⟩ := hp
  have hd : Fin (c.t0 * c.t0 + c.t1 * c.t1) := by xq_fin
  have hn1 : Fin (-c.t0 * c.t2 - c.t1 * (-c.t1 * p.x + c.t0 * p.y)) := by xq_fin
  have hn2 : Fin (c.t0 * (-c.t1 * p.x + c.t0 * p.y) - c.t1 * c.t2) := by xq_fin
  simp only [coefficients_nearest_point, V2.fin_mk, fin_div_iff hn1 hd, fin_div_iff hn2 hd, and_self, val_sq_add_sq ha hb]
  constructor
  · rintro h ⟨h1, h2⟩; apply h; rw [h1, h2]; ring
  · intro h h0
    apply h
    have h1 := mul_self_nonneg (val c.t0); have h2 := mul_self_nonneg (val c.t1)
    exact ⟨mul_self_eq_zero.1 (by linarith), mul_self_eq_zero.1 (by linarith)⟩

/-- NOT TOTAL (known finding `non_finite.line_distance_nearest_pos.point_line`): `(p, p).nearest_point(q)` is not finite
    for ANY finite `p`, `q`: the coefficients of a point line are (0,0,0) and `nearest_point` divides 0 by 0 -/
theorem point_line_nearest_point_not_finite (p q : Pt) (hp : V2.Fin p) (hq : V2.Fin q) :
    ¬ V2.Fin (coefficients_nearest_point (line_coefficients_2d (T2.mk p p)) q) := by
  rw [line_coefficients_point p hp,
    coefficients_nearest_point_fin_iff _ _ ⟨fin_zero_lit, fin_zero_lit, fin_zero_lit⟩ hq]
  exact fun h => h ⟨val_zero_lit, val_zero_lit⟩

example : ¬ V2.Fin (coefficients_nearest_point (line_coefficients_2d pointLine) ⟨fin 1, fin 2⟩) :=
  point_line_nearest_point_not_finite _ _ pt5_fin ⟨rfl, rfl⟩

/-- `Line::pos_for_point` IS TOTAL: it divides by a line component only after testing `|component| > 0.000001`; a point
    line gives 0 -/
theorem line_pos_for_point_fin (l : T2 Pt Pt) (p : Pt) (hl : LineFin l) (hp : V2.Fin p) : Fin (tot_line_pos_for_point l p) := by
  obtain ⟨⟨h1a, h1b⟩, ⟨h1c, h1d⟩⟩ := hl
  obtain ⟨hx, hy⟩ := hp
  have h6 : (0:ℚ) ≤ val (0.000001 : XQ) := by rw [val_ofScientific]; norm_num
  simp only [tot_line_pos_for_point, getc, Bool.and_eq_true, decide_eq_true_eq, V2.sub_x, V2.sub_y]
  simp only [show ((0:Nat) == 0) = true from rfl, show ((1:Nat) == 0) = false from rfl, if_true, Bool.false_eq_true, if_false]
  split_ifs with h1 h2
  · exact fin_div (by xq_fin) (by xq_fin) (ne_of_abs_gt (by xq_fin) (fin_ofScientific ..) h6 h1.1)
  · exact fin_div (by xq_fin) (by xq_fin) (ne_of_abs_gt (by xq_fin) (fin_ofScientific ..) h6 h2.1)
  · exact fin_zero_lit

example : Fin (tot_line_pos_for_point pointLine pt5) := line_pos_for_point_fin _ _ pointLine_fin pt5_fin

end

theorem line_at_fin {l : T2 Pt Pt} (hl : LineFin l) {ua : XQ} (hua : Fin ua) :
    V2.Fin ⟨l.t0.x + ua * (l.t1.x - l.t0.x), l.t0.y + ua * (l.t1.y - l.t0.y)⟩ := by
  obtain ⟨h0, h1⟩ := hl
  xq_fin

set_option linter.unusedVariables false in
/-- `line_intersects_line` / `line_intersects_ray` divide by the cross product of the directions WITHOUT a guard; the
    unguarded division is shown harmless here: a point is only returned after the range test `0 ≤ ua ≤ 1`, which no
    non-finite `ua` passes (parallel, collinear, zero-length lines give `None`), so every returned point is finite.
    (`h2` is not needed: a non-finite second line can only make `ua` non-finite.) -/
theorem line_intersects_line_fin (l1 l2 : T2 Pt Pt) (h1 : LineFin l1) (h2 : LineFin l2) :
    (∀ p, line_intersects_line l1 l2 = some p → V2.Fin p) ∧ (∀ p, line_intersects_ray l1 l2 = some p → V2.Fin p) := by
  refine ⟨fun p hp => ?_, fun p hp => ?_⟩
  · simp only [line_intersects_line, Bool.and_eq_true, decide_eq_true_eq] at hp
    split_ifs at hp with h
    exact Option.some.inj hp ▸ line_at_fin h1 (fin_of_le_of_le fin_zero_lit fin_one_lit h.1.1 h.1.2)
  · simp only [line_intersects_ray, Bool.and_eq_true, decide_eq_true_eq] at hp
    split_ifs at hp with h
    exact Option.some.inj hp ▸ line_at_fin h1 (fin_of_le_of_le fin_zero_lit fin_one_lit h.1 h.2)

example : ∀ p, line_intersects_line pointLine pointLine = some p → V2.Fin p :=
  (line_intersects_line_fin _ _ pointLine_fin pointLine_fin).1

/-- `ray_intersects_ray` has no range test but a guard: it divides only when `|divisor| > RAY_DIVISOR_SMALLEST_VALUE`
    (ray.rs / intersection.rs:84), so every returned point is finite -/
theorem ray_intersects_ray_fin (l1 l2 : T2 Pt Pt) (h1 : LineFin l1) (h2 : LineFin l2) :
    ∀ p, ray_intersects_ray l1 l2 = some p → V2.Fin p := by
  intro p hp
  simp only [ray_intersects_ray, decide_eq_true_eq] at hp
  split_ifs at hp with h
  have ⟨h1a, h1b⟩ := h1
  have ⟨h2a, h2b⟩ := h2
  have hd : Fin ((l2.t1.y - l2.t0.y) * (l1.t1.x - l1.t0.x) - (l2.t1.x - l2.t0.x) * (l1.t1.y - l1.t0.y)) := by xq_fin
  have hn : Fin ((l2.t1.x - l2.t0.x) * (l1.t0.y - l2.t0.y) - (l2.t1.y - l2.t0.y) * (l1.t0.x - l2.t0.x)) := by xq_fin
  exact Option.some.inj hp ▸ line_at_fin h1
    (fin_div hn hd (ne_of_abs_gt hd (fin_ofScientific ..) (by simp only [val_ofScientific]; norm_num) h))

example : ∀ p, ray_intersects_ray pointLine pointLine = some p → V2.Fin p := ray_intersects_ray_fin _ _ pointLine_fin pointLine_fin

/-! ## 4. Fat lines and Bezier clipping -/

/-- a fat line with finite bounds and coefficients -/
def FatFin (f : FatLineT XQ) : Prop := Fin f.d_min ∧ Fin f.d_max ∧ CoeffFin f.coeff

/-- inner ordinates of a distance curve, factors in `offset_scaling` -/
theorem third_fin : Fin ((1.0 : XQ) / (3.0 : XQ)) := fin_div_lit fin_one_lit _ _ _ (by norm_num)
theorem two_thirds_fin : Fin ((2.0 : XQ) / (3.0 : XQ)) := fin_div_lit (fin_ofScientific ..) _ _ _ (by norm_num)

theorem hull_forall (dc : T4 Pt Pt Pt Pt) (P : Pt → Prop) (h0 : P dc.t0) (h1 : P dc.t1) (h2 : P dc.t2) (h3 : P dc.t3) :
    ∀ p ∈ distance_curve_convex_hull dc, P p := by
  simp only [distance_curve_convex_hull]
  repeat' refine ite_of_both (fun l : List Pt => ∀ p ∈ l, P p) _ ?_ ?_
  all_goals simp only [List.forall_mem_cons, List.not_mem_nil, false_imp_iff, implies_true, h0, h1, h2, h3, and_self]

/-- `FatLine::clip_t` RETURNS FINITE PARAMETERS FOR EVERY INPUT WHATSOEVER - finite or not, any fat line, any curve.
    Inside, `solve_line_y` divides by `p2.x − p1.x` without a guard and does return `Some(NaN)` for a vertical hull edge
    (see `solve_line_y_not_total`), but a solved value only enters `t1`/`t2` after the range test `0 ≤ t ≤ 1`, which no
    NaN or infinity passes; the other candidates are the hull ordinates 0, 1/3, 2/3, 1 and the sentinels `f64::MAX/MIN`,
    and the final case analysis (fat_line.rs:198-224) never lets a sentinel out... except as a finite number -/
theorem clip_t_fin (f : FatLineT XQ) (w1 w2 w3 w4 : Pt) :
    ∀ r, clip_t f w1 w2 w3 w4 = some r → Fin r.t0 ∧ Fin r.t1 := by
  unfold clip_t
  extract_lets dc hull n t1 t2 dmin dmax upd
  have hy : ∀ i, Fin (listGet hull i).y := fun i =>
    listGet_of_mem (fun p : Pt => Fin p.y) hull i rfl (hull_forall dc _ fin_zero_lit third_fin two_thirds_fin fin_one_lit)
  have hst : Fin upd.t0 ∧ Fin upd.t1 := by
    refine foldl_inv (fun s : T2 XQ XQ => Fin s.t0 ∧ Fin s.t1) _ _ _ (fun b a _ hb => ?_) ⟨fin_fmaxval, fin_fminval⟩
    have hrange : ∀ t : XQ, (decide ((0.0 : XQ) ≤ t) && decide (t ≤ (1.0 : XQ))) = true → Fin t := fun t hc => by
      simp only [Bool.and_eq_true, decide_eq_true_eq] at hc
      exact fin_of_le_of_le fin_zero_lit fin_one_lit hc.1 hc.2
    extract_lets s1 s2 idx tup2 p1 p2 hl tup3 t1a t2a u1 a1 a2 u2 b1 b2 m3 M3 u3 c1 c2 m4 M4 u4 d1 d2
    clear_value t1a t2a
    have h1 : Fin u1.t0 ∧ Fin u1.t1 := by
      cases t1a with
      | none => exact hb
      | some t => exact fin_minmax_if hb (hrange t)
    have h2 : Fin u2.t0 ∧ Fin u2.t1 := by
      cases t2a with
      | none => exact h1
      | some t => exact fin_minmax_if h1 (hrange t)
    have h3 : Fin u3.t0 ∧ Fin u3.t1 := fin_minmax_if h2 fun _ => hy idx
    exact fin_minmax_if h3 fun _ => hy ((idx + 1) % n)
  clear_value upd
  obtain ⟨ht1, ht2⟩ := hst
  let P (o : Option (T2 XQ XQ)) : Prop := ∀ r, o = some r → Fin r.t0 ∧ Fin r.t1
  have hsome : ∀ a b : XQ, Fin a → Fin b → P (some ⟨a, b⟩) := fun a b ha hb r hr => Option.some.inj hr ▸ ⟨ha, hb⟩
  have h0 := fin_zero_lit
  have h1 := fin_one_lit
  -- every leaf of the final case analysis (fat_line.rs:198-224) is `None` or a pair made of 0, 1, `t1`, `t2`
  show P _
  repeat' refine ite_of_both P _ ?_ ?_
  all_goals first | exact hsome _ _ (by assumption) (by assumption) | exact fun _ h => nomatch h

example : ∀ r, clip_t ⟨nan, pinf, ⟨nan, nan, nan⟩⟩ pt5 pt5 pt5 pt5 = some r → Fin r.t0 ∧ Fin r.t1 := clip_t_fin _ _ _ _ _

section
variable [SqrtFn]

/-- `FatLine::from_line_and_points` is finite for every finite line (a point line included: zero coefficients) -/
theorem from_line_and_points_fin (l : T2 Pt Pt) (p1 p2 : Pt) (hl : LineFin l) (h1 : V2.Fin p1) (h2 : V2.Fin p2) :
    FatFin (from_line_and_points l p1 p2) := by
  obtain ⟨ha, hb, hc⟩ := line_coefficients_fin l hl
  simp only [from_line_and_points, FatFin, CoeffFin]
  generalize line_coefficients_2d l = co at ha hb hc
  have h34 : Fin ((3.0 : XQ) / (4.0 : XQ)) := fin_div_lit (fin_ofScientific ..) _ _ _ (by norm_num)
  have h49 : Fin ((4.0 : XQ) / (9.0 : XQ)) := fin_div_lit (fin_ofScientific ..) _ _ _ (by norm_num)
  obtain ⟨h1x, h1y⟩ := h1
  obtain ⟨h2x, h2y⟩ := h2
  have hd1 : Fin (co.t0 * p1.x + co.t1 * p1.y + co.t2) := by xq_fin
  have hd2 : Fin (co.t0 * p2.x + co.t1 * p2.y + co.t2) := by xq_fin
  have hmin := fin_fmin (fin_fmin hd1 hd2) fin_zero_lit
  have hmax := fin_fmax (fin_fmax hd1 hd2) fin_zero_lit
  exact ⟨ite_of_both (fun t : T2 XQ XQ => Fin t.t0) _ (fin_mul h34 hmin) (fin_mul h49 hmin),
    ite_of_both (fun t : T2 XQ XQ => Fin t.t1) _ (fin_mul h34 hmax) (fin_mul h49 hmax), ha, hb, hc⟩


example : FatFin (from_line_and_points pointLine pt5 pt5) := from_line_and_points_fin _ _ _ pointLine_fin pt5_fin pt5_fin

/-- `FatLine::from_curve` and `from_curve_perpendicular` ARE TOTAL: for every finite curve - all control points equal,
    start = end (the `is_near_to` fallback to the direction cp2 − cp1), start = end and cp1 = cp2 (a point line: zero
    coefficients, zero width) - the fat line has finite bounds and coefficients -/
theorem fat_from_curve_fin (w1 w2 w3 w4 : Pt) (h : Ctl w1 w2 w3 w4) : FatFin (fat_from_curve w1 w2 w3 w4) := by
  obtain ⟨h1, h2, h3, h4⟩ := h
  unfold fat_from_curve
  refine from_line_and_points_fin _ _ _ ?_ h2 h3
  simp only []
  split_ifs
  · exact ⟨h1, by show V2.Fin (w1 + (w3 - w2)); xq_fin⟩
  · exact ⟨h1, h4⟩

example : FatFin (fat_from_curve pt5 pt5 pt5 pt5) := fat_from_curve_fin _ _ _ _ ctl5

/-- the same for the perpendicular fat line (its base line is built from the mid point of the chord, or of the
    fallback direction, and is a point line for a point curve) -/
theorem fat_from_curve_perpendicular_fin (w1 w2 w3 w4 : Pt) (h : Ctl w1 w2 w3 w4) :
    FatFin (fat_from_curve_perpendicular w1 w2 w3 w4) := by
  obtain ⟨h1, h2, h3, h4⟩ := h
  unfold fat_from_curve_perpendicular
  extract_lets tup1 sp ep0 tup2 cp1 cp2 ep line mid off0 off target line2 tup4 a b c d1 d2 d3 d4 dmin dmax
  have hep : V2.Fin ep := by
    simp only [ep]; split_ifs
    · simp only [sp, tup1, cp1, cp2, tup2]; xq_fin
    · exact h4
  have hmid : V2.Fin mid := by
    simp only [mid, line_point_at_pos, line, sp, tup1]
    xq_fin
  have hl2 : LineFin line2 := by
    refine ⟨hmid, ?_⟩
    simp only [line2, target, off, off0, sp, tup1]
    xq_fin
  obtain ⟨ha, hb, hc⟩ := line_coefficients_fin line2 hl2
  have ha' : Fin a := ha
  have hb' : Fin b := hb
  have hc' : Fin c := hc
  obtain ⟨hex, hey⟩ := hep
  have hd1 : Fin d1 := by simp only [d1, sp, tup1]; xq_fin
  have hd2 : Fin d2 := by simp only [d2, cp1, tup2]; xq_fin
  have hd3 : Fin d3 := by simp only [d3, cp2, tup2]; xq_fin
  have hd4 : Fin d4 := by simp only [d4]; xq_fin
  exact ⟨fin_fmin (fin_fmin (fin_fmin hd1 hd2) hd3) hd4, fin_fmax (fin_fmax (fin_fmax hd1 hd2) hd3) hd4, ha, hb, hc⟩

example : FatFin (fat_from_curve_perpendicular pt5 pt5 pt5 pt5) := fat_from_curve_perpendicular_fin _ _ _ _ ctl5


/-- the distance curve of a finite curve to a finite fat line is finite (ordinates 0, 1/3, 2/3, 1) -/
theorem fat_distance_curve_fin (f : FatLineT XQ) (w1 w2 w3 w4 : Pt) (hf : FatFin f) (h : Ctl w1 w2 w3 w4) :
    CurveFin (fat_distance_curve f w1 w2 w3 w4) := by
  obtain ⟨h1, h2, h3, h4⟩ := h
  obtain ⟨_, _, ha, hb, hc⟩ := hf
  have h13 := third_fin
  have h23 := two_thirds_fin
  simp only [CurveFin, fat_distance_curve, fat_distance]
  xq_fin

example : CurveFin (fat_distance_curve (fat_from_curve pt5 pt5 pt5 pt5) pt5 pt5 pt5 pt5) :=
  fat_distance_curve_fin _ _ _ _ _ (fat_from_curve_fin _ _ _ _ ctl5) ctl5

/-- `clip` (curve_curve_clip.rs:85-127) returns finite parameter ranges for every input: both `clip_t` results are
    finite and the widening of a single-point range (`t1 == t2`) is clamped to [0,1] -/
theorem clip_fin (c1 c2 c3 c4 a1 a2 a3 a4 : Pt) :
    ∀ r, clip c1 c2 c3 c4 a1 a2 a3 a4 = ClipResult.Some r → Fin r.t0 ∧ Fin r.t1 := by
  intro r hr
  unfold clip at hr
  extract_lets fl ct pl ctp ct' at hr
  have h1 : ∀ r, ct = some r → Fin r.t0 ∧ Fin r.t1 := clip_t_fin fl c1 c2 c3 c4
  have h2 : ∀ r, ctp = some r → Fin r.t0 ∧ Fin r.t1 := clip_t_fin pl c1 c2 c3 c4
  have hct' : ∀ q, ct' = ClipResult.Some q → Fin q.t0 ∧ Fin q.t1 := by
    intro q hq
    simp only [ct'] at hq
    clear_value ct ctp
    cases ct with
    | none => simp only [reduceCtorEq] at hq
    | some r1 =>
      cases ctp with
      | none => simp only [reduceCtorEq] at hq
      | some r2 =>
        simp only [] at hq
        split_ifs at hq <;> simp only [ClipResult.Some.injEq] at hq <;> subst hq
        · exact h1 _ rfl
        · exact h2 _ rfl
  clear_value ct'
  split_ifs at hr
  cases ct' with
  | None => simp only [reduceCtorEq] at hr
  | SecondCurveIsLinear => simp only [reduceCtorEq] at hr
  | Some q =>
    have := hct' _ rfl
    obtain ⟨t1, t2⟩ := q
    simp only [] at hr
    split_ifs at hr <;> simp only [ClipResult.Some.injEq] at hr <;> subst hr
    · refine ⟨fin_fmax ?_ fin_zero_lit, fin_fmin ?_ fin_one_lit⟩ <;> xq_fin
    · exact this

example : ∀ r, clip pt5 pt5 pt5 pt5 pt5 pt5 pt5 pt5 = ClipResult.Some r → Fin r.t0 ∧ Fin r.t1 := clip_fin _ _ _ _ _ _ _ _

end

/-! ## 5. Curve / line intersection -/

/-- one guarded Newton-Raphson step of `polish_root`, as the generated code writes it -/
def newtonStep (p : T4 XQ XQ XQ XQ) (t : XQ) : XQ :=
  let value := ((p.t0 * t + p.t1) * t + p.t2) * t + p.t3
  let derivative := ((3.0 : XQ) * p.t0 * t + (2.0 : XQ) * p.t1) * t + p.t2
  let next_t := t - value / derivative
  let next_value := ((p.t0 * next_t + p.t1) * next_t + p.t2) * next_t + p.t3
  if decide (fabs next_value < fabs value) then next_t else t

/-- the generated `polish_root` is the identity or four guarded Newton steps -/
theorem polish_unfold (p : T4 XQ XQ XQ XQ) (t : XQ) :
    polish_root p t = newtonStep p (newtonStep p (newtonStep p (newtonStep p t))) ∨ polish_root p t = t := by
  unfold polish_root
  split
  · right; rfl
  · left
    extract_lets t0 v1 d1 n1 nv1 i1 s1 v2 d2 n2 nv2 i2 s2 v3 d3 n3 nv3 i3 s3 v4 d4 n4 nv4 i4 s4
    have e1 : s1 = newtonStep p t := rfl
    have e2 : s2 = newtonStep p s1 := rfl
    have e3 : s3 = newtonStep p s2 := rfl
    have e4 : s4 = newtonStep p s3 := rfl
    rw [e4, e3, e2, e1]

example : polish_root ⟨fin 0, fin 0, fin 0, fin 0⟩ (fin 3) = fin 3 := by decide +kernel

/-- a Newton step divides by the derivative WITHOUT a guard (`value / derivative`, curve_line.rs:62) and does produce
    ±∞ or NaN at a stationary point; the step is only taken when `|next_value| < |value|`, which a non-finite
    `next_value` never satisfies - and `next_value` is non-finite whenever `next_t` is.  So a step keeps a finite
    parameter finite, for EVERY polynomial (coefficients finite or not) -/
theorem newtonStep_fin (p : T4 XQ XQ XQ XQ) (t : XQ) (ht : Fin t) : Fin (newtonStep p t) := by
  simp only [newtonStep]
  split_ifs with h
  · simp only [decide_eq_true_eq] at h
    have := fin_of_abs_lt h
    simp only [fin_add_iff, fin_mul_iff] at this
    exact this.1.2
  · exact ht

/-- the stationary point t = 0 of t² − 1: value −1, derivative 0, the division gives −∞ … and the step is not taken -/
example : newtonStep ⟨fin 0, fin 1, fin 0, fin (-1)⟩ (fin 0) = fin 0 := by decide +kernel

/-- `polish_root` IS TOTAL: a finite root estimate stays finite, for every polynomial -/
theorem polish_root_fin (p : T4 XQ XQ XQ XQ) (t : XQ) (ht : Fin t) : Fin (polish_root p t) := by
  rcases polish_unfold p t with h | h <;> rw [h]
  · exact newtonStep_fin _ _ (newtonStep_fin _ _ (newtonStep_fin _ _ (newtonStep_fin _ _ ht)))
  · exact ht

example : Fin (polish_root ⟨fin 0, fin 1, fin 0, fin (-1)⟩ (fin 0)) := polish_root_fin _ _ rfl

/-- `solve_roots` adds nothing non-finite to what the external solvers (crate `roots`) return: `[0.0, 1.0]` for the zero
    polynomial, the solvers' roots otherwise -/
theorem solve_roots_fin (quad : XQ → XQ → XQ → List XQ) (cubic : XQ → XQ → XQ → XQ → List XQ) (p : T4 XQ XQ XQ XQ)
    (hq : ∀ a b c, ∀ r ∈ quad a b c, Fin r) (hc : ∀ a b c d, ∀ r ∈ cubic a b c d, Fin r) :
    ∀ r ∈ solve_roots quad cubic p, Fin r := by
  simp only [solve_roots]
  repeat' refine ite_of_both (fun l : List XQ => ∀ r ∈ l, Fin r) _ ?_ ?_
  · simp only [List.forall_mem_cons, List.not_mem_nil, false_imp_iff, implies_true, fin_zero_lit, fin_one_lit, and_self]
  exacts [hq _ _ _, hq _ _ _, hc _ _ _ _]

example : ∀ r ∈ solve_roots (fun _ _ _ => []) (fun _ _ _ _ => []) (⟨fin 0, fin 0, fin 0, fin 0⟩ : T4 XQ XQ XQ XQ), Fin r :=
  solve_roots_fin _ _ _ (by simp) (by simp)

/-- a hit `(t, s, position)` of `curve_intersects_ray` with finite components -/
def HitFin (h : T3 XQ XQ Pt) : Prop := Fin h.t0 ∧ Fin h.t1 ∧ V2.Fin h.t2

section
variable [SqrtFn]

/-- `curve_intersects_ray` IS TOTAL, WHATEVER THE ROOT SOLVER RETURNS (NaN and ±∞ roots included): for every finite
    curve and finite line every reported hit has a finite curve parameter, line parameter and position.  A point line
    (`a == 0 && b == 0`) returns no hits before anything is divided; a root is only reported after the range test
    `0 ≤ t ≤ 1`; the line parameter divides by `p2.x − p1.x` only if `|b| > |a|` (so `b = p1.x − p2.x ≠ 0`) and by
    `p2.y − p1.y = a` otherwise (then `a ≠ 0` because not both vanish).  The end-point snapping divides by
    `sqrt(a² + b²)`, which only feeds a comparison. -/
theorem curve_intersects_ray_fin (solve : T4 XQ XQ XQ XQ → List XQ) (w1 w2 w3 w4 : Pt) (line : T2 Pt Pt)
    (hw : Ctl w1 w2 w3 w4) (hl : LineFin line) :
    ∀ h ∈ curve_intersects_ray solve w1 w2 w3 w4 line, HitFin h := by
  obtain ⟨h1, h2, h3, h4⟩ := hw
  obtain ⟨⟨hl0x, hl0y⟩, ⟨hl1x, hl1y⟩⟩ := hl
  unfold curve_intersects_ray
  extract_lets p1 p2 a b c tup1 v2 v3 tup2 v1 v4 bx by_ p roots roots' res0 factor tup4 a' b' c' sp ep upd result
  have ha : Fin a := by simp only [a, p1, p2]; xq_fin
  have hb : Fin b := by simp only [b, p1, p2]; xq_fin
  split_ifs with hz
  · simp
  · refine foldl_inv (fun res : List (T3 XQ XQ Pt) => ∀ h ∈ res, HitFin h) _ _ _ (fun res root _ hres => ?_) (by simp [res0])
    extract_lets +onlyGivenNames r0 t0
    by_cases hwin : (!(decide (t0 > -(0.1 : XQ)) && decide (t0 < (1.1 : XQ)))) = true
    · rw [if_pos hwin]; exact hres
    · rw [if_neg hwin]
      extract_lets t1 t pos x y s res1 res2
      clear_value t
      simp only [res2]
      split_ifs with hrange
      · simp only [Bool.and_eq_true, decide_eq_true_eq] at hrange
        have ht : Fin t := fin_of_le_of_le fin_zero_lit fin_one_lit hrange.1 hrange.2
        have hpos : V2.Fin pos := (eval_fin ht ⟨h1, h2, h3, h4⟩).2.1
        obtain ⟨hpx, hpy⟩ := hpos
        have hs : Fin s := by
          simp only [s, decide_eq_true_eq]
          split_ifs with hba
          · have hne : val (p2.x - p1.x) ≠ 0 := by
              have hb0 := abs_gt_ne hb ha hba
              simp only [b, p1, p2] at hb0 ⊢
              rw [val_sub hl0x hl1x] at hb0; rw [val_sub hl1x hl0x]
              intro h0; apply hb0; linarith
            exact fin_div (by simp only [x, p1]; xq_fin) (by simp only [p1, p2]; xq_fin) hne
          · have hne : val (p2.y - p1.y) ≠ 0 := abs_not_gt_ne hb ha hba (by rwa [Bool.and_comm] at hz)
            exact fin_div (by simp only [y, p1]; xq_fin) (by simp only [p1, p2]; xq_fin) hne
        intro h hh
        simp only [res1, List.mem_append, List.mem_singleton] at hh
        rcases hh with hh | hh
        · exact hres h hh
        · subst hh
          exact ⟨ht, hs, hpx, hpy⟩
      · exact hres

example : ∀ h ∈ curve_intersects_ray (fun _ => [nan, pinf, fin 0]) pt5 pt5 pt5 pt5 pointLine, HitFin h :=
  curve_intersects_ray_fin _ _ _ _ _ _ ctl5 pointLine_fin

/-- `curve_intersects_line` keeps a subset of the ray hits -/
theorem curve_intersects_line_fin (solve : T4 XQ XQ XQ XQ → List XQ) (w1 w2 w3 w4 : Pt) (line : T2 Pt Pt)
    (hw : Ctl w1 w2 w3 w4) (hl : LineFin line) :
    ∀ h ∈ curve_intersects_line solve w1 w2 w3 w4 line, HitFin h := by
  intro h hh
  simp only [curve_intersects_line] at hh
  exact curve_intersects_ray_fin solve w1 w2 w3 w4 line hw hl h (List.mem_filter.1 hh).1

example : ∀ h ∈ curve_intersects_line (fun _ => [fin 0]) pt5 pt5 pt5 pt5 ⟨pt5, ⟨fin 6, fin 7⟩⟩, HitFin h :=
  curve_intersects_line_fin _ _ _ _ _ _ ctl5 ⟨pt5_fin, ⟨rfl, rfl⟩⟩

end

/-! ## 6. Bounding boxes (per coordinate axis, as the generated 1-D kernels are) -/

/-- `from_smallest_components` / `from_biggest_components` select one of their arguments -/
theorem from_components_fin {a b : XQ} (ha : Fin a) (hb : Fin b) : Fin (f64_from_smallest_components a b) ∧ Fin (f64_from_biggest_components a b) :=
  ⟨ite_of_both Fin _ ha hb, ite_of_both Fin _ ha hb⟩


example : Fin (f64_from_smallest_components (fin 5) (fin 5)) := (from_components_fin (a := fin 5) (b := fin 5) rfl rfl).1

/-- 1-D evaluation (one coordinate axis of a curve) -/
theorem de_casteljau4_1d_fin (t w1 w2 w3 w4 : XQ) (ht : Fin t) (h1 : Fin w1) (h2 : Fin w2) (h3 : Fin w3) (h4 : Fin w4) :
    Fin (de_casteljau4 t w1 w2 w3 w4) := by
  simp only [de_casteljau4, de_casteljau3, de_casteljau2]
  xq_fin


example : Fin (de_casteljau4 (1.0 : XQ) (fin 5) (fin 5) (fin 5) (fin 5)) := de_casteljau4_1d_fin _ _ _ _ _ fin_one_lit rfl rfl rfl rfl

section
variable [SqrtFn]

/-- `find_extremities` RETURNS ONLY FINITE PARAMETERS, FOR EVERY INPUT WHATSOEVER.  The quadratic formula divides by
    `a·2` WITHOUT a guard (`a = 0` for every curve whose derivative is at most linear: lines, points, quadratics) and takes
    the square root of a possibly negative discriminant; each of `root1`, `root2`, `root3` only enters the list after
    the open range test `0 < root < 1`, which NaN and ±∞ fail (`root3` is also guarded by `aa != 0.0`) -/
theorem find_extremities_fin (w1 w2 w3 w4 : XQ) : ∀ t ∈ find_extremities w1 w2 w3 w4, Fin t := by
  unfold find_extremities
  extract_lets e0 ci p1 p2 p3 p4 a b c root1 root2 e1 e1' e2 e2' aa bb root3 e3 e3' e4
  have hpush : ∀ (l : List XQ) (r : XQ), (∀ t ∈ l, Fin t) →
      ∀ t ∈ (if (decide (r > (0.0 : XQ)) && decide (r < (1.0 : XQ))) = true then l ++ [r] else l), Fin t := by
    intro l r hl t ht
    split_ifs at ht with hc
    · simp only [Bool.and_eq_true, decide_eq_true_eq] at hc
      rcases List.mem_append.1 ht with ht | ht
      · exact hl t ht
      · rw [List.mem_singleton.1 ht]; exact fin_of_lt_of_lt fin_zero_lit fin_one_lit hc.1 hc.2
    · exact hl t ht
  have h2 : ∀ t ∈ e2', Fin t :=
    hpush e1' root2 (hpush e0 root1 fun t ht => by rw [List.mem_singleton.1 ht]; exact fin_one_lit)
  exact ite_of_both (fun l : List XQ => ∀ t ∈ l, Fin t) _ (hpush e2' root3 h2) h2


example : ∀ t ∈ find_extremities (fin 5) (fin 5) (fin 5) (fin 5), Fin t := find_extremities_fin _ _ _ _

/-- `bounding_box4` (the tight box, one axis) of a finite curve is finite: the curve is evaluated at finite parameters only -/
theorem bounding_box4_fin (w1 w2 w3 w4 : XQ) (h1 : Fin w1) (h2 : Fin w2) (h3 : Fin w3) (h4 : Fin w4) :
    Fin (bounding_box4 w1 w2 w3 w4).t0 ∧ Fin (bounding_box4 w1 w2 w3 w4).t1 := by
  unfold bounding_box4
  extract_lets ex mn mx upd mn' mx'
  have hex : ∀ t ∈ ex, Fin t := find_extremities_fin w1 w2 w3 w4
  have h0 : Fin mn := de_casteljau4_1d_fin _ _ _ _ _ fin_zero_lit h1 h2 h3 h4
  show Fin upd.t0 ∧ Fin upd.t1
  refine foldl_inv (fun s : T2 XQ XQ => Fin s.t0 ∧ Fin s.t1) _ _ _ (fun s t ht hs => ?_) ⟨h0, h0⟩
  have hp := de_casteljau4_1d_fin t w1 w2 w3 w4 (hex t ht) h1 h2 h3 h4
  exact ⟨(from_components_fin hs.1 hp).1, (from_components_fin hs.2 hp).2⟩


example : Fin (bounding_box4 (fin 5) (fin 5) (fin 5) (fin 5)).t0 := (bounding_box4_fin (fin 5) (fin 5) (fin 5) (fin 5) rfl rfl rfl rfl).1

end

/-- `fast_bounding_box` selects among its inputs -/
theorem fast_bounding_box_fin (w1 w2 w3 w4 : XQ) (h1 : Fin w1) (h2 : Fin w2) (h3 : Fin w3) (h4 : Fin w4) :
    Fin (fast_bounding_box w1 w2 w3 w4).t0 ∧ Fin (fast_bounding_box w1 w2 w3 w4).t1 := by
  simp only [fast_bounding_box]
  exact ⟨(from_components_fin (from_components_fin (from_components_fin h1 h4).1 h2).1 h3).1, (from_components_fin (from_components_fin (from_components_fin h1 h4).2 h2).2 h3).2⟩


example : Fin (fast_bounding_box (fin 5) (fin 5) (fin 5) (fin 5)).t1 := (fast_bounding_box_fin (fin 5) (fin 5) (fin 5) (fin 5) rfl rfl rfl rfl).2

/-- the union of two finite boxes (an empty box `min == max` is skipped) is finite -/
theorem union_bounds_fin (a b : T2 XQ XQ) (ha : Fin a.t0 ∧ Fin a.t1) (hb : Fin b.t0 ∧ Fin b.t1) :
    Fin (union_bounds a b).t0 ∧ Fin (union_bounds a b).t1 := by
  let P (t : T2 XQ XQ) : Prop := Fin t.t0 ∧ Fin t.t1
  exact ite_of_both P _ hb (ite_of_both P _ ha ⟨(from_components_fin ha.1 hb.1).1, (from_components_fin ha.2 hb.2).2⟩)

example : Fin (union_bounds (⟨fin 5, fin 5⟩ : T2 XQ XQ) ⟨fin 5, fin 5⟩).t0 := (union_bounds_fin ⟨fin 5, fin 5⟩ ⟨fin 5, fin 5⟩ ⟨rfl, rfl⟩ ⟨rfl, rfl⟩).1

/-! ## 7. Distances, walking -/

section
variable [SqrtFn]

/-- `Coordinate::magnitude` of a finite vector is finite and non-negative (the zero vector included) -/
theorem magnitude_fin (p : Pt) (hp : V2.Fin p) : Fin (magnitude p) ∧ 0 ≤ val (magnitude p) := by
  obtain ⟨hx, hy⟩ := hp
  have hd : Fin (dot p p) := V2.fin_dot ⟨hx, hy⟩ ⟨hx, hy⟩
  have h0 : 0 ≤ val (dot p p) := by
    simp only [V2.dot_def]
    rw [val_add (by xq_fin) (by xq_fin), val_add fin_zero_lit (by xq_fin), val_mul hx hx, val_mul hy hy, val_zero_lit]
    nlinarith [mul_self_nonneg (val p.x), mul_self_nonneg (val p.y)]
  exact ⟨fin_fsqrt hd h0, val_fsqrt_nonneg hd h0⟩


example : Fin (magnitude (pt5 - pt5)) := (magnitude_fin _ pt5_sub_fin).1

theorem speed_fin {t : XQ} {a b c : Pt} (ht : Fin t) (ha : V2.Fin a) (hb : V2.Fin b) (hc : V2.Fin c) :
    Fin (magnitude (de_casteljau3 t a b c)) := (magnitude_fin _ (dc3_fin ht ha hb hc)).1

/-- `Coord2::distance_to` of two finite points (equal points included) is finite and non-negative -/
theorem distance_fin (p q : Pt) (hp : V2.Fin p) (hq : V2.Fin q) : Fin (coord2_distance_to p q) ∧ 0 ≤ val (coord2_distance_to p q) := by
  obtain ⟨hx, hy⟩ := hp
  obtain ⟨hqx, hqy⟩ := hq
  simp only [coord2_distance_to]
  have h1 : Fin (q.x - p.x) := by xq_fin
  have h2 : Fin (q.y - p.y) := by xq_fin
  exact ⟨fin_hypot h1 h2, val_hypot_nonneg h1 h2⟩


example : Fin (coord2_distance_to pt5 pt5) := (distance_fin _ _ pt5_fin pt5_fin).1

/-- `chord_length` and `control_polygon_length` of a finite curve (a point curve included) are finite -/
theorem chord_polygon_length_fin (w1 w2 w3 w4 : Pt) (hw : Ctl w1 w2 w3 w4) :
    Fin (chord_length coord2_distance_to w1 w2 w3 w4) ∧ Fin (control_polygon_length coord2_distance_to w1 w2 w3 w4) := by
  obtain ⟨h1, h2, h3, h4⟩ := hw
  simp only [chord_length, control_polygon_length]
  have ha := (distance_fin w1 w2 h1 h2).1
  have hb := (distance_fin w2 w3 h2 h3).1
  have hc := (distance_fin w3 w4 h3 h4).1
  exact ⟨(distance_fin w1 w4 h1 h4).1, by xq_fin⟩

example : Fin (control_polygon_length coord2_distance_to pt5 pt5 pt5 pt5) := (chord_polygon_length_fin _ _ _ _ ctl5).2

omit [SqrtFn] in
/-- `c` is `x < 1e-10` as a caller has it, bare or as `decide … = true` -/
theorem clamp_1e10_pos {x : XQ} (hx : Fin x) (c : Prop) [Decidable c] (hc : c ↔ x < (1e-10 : XQ)) :
    Fin (if c then (1e-10 : XQ) else x) ∧ 0 < val (if c then (1e-10 : XQ) else x) := by
  split_ifs with h
  · exact ⟨fin_ofScientific .., by rw [val_1e10]; norm_num⟩
  · rw [hc, lt_iff hx (fin_ofScientific ..), val_1e10, not_lt] at h
    exact ⟨hx, by linarith⟩

/-- `walk_curve_evenly` (the constructor, walk.rs:44-79) IS TOTAL: for every finite curve, distance and tolerance (zero and
    negative ones included: both are clamped to ≥ 1e-10) the iterator state is finite, with positive distance and
    tolerance.  The initial increment divides by the initial speed only when `|speed| ≥ 1e-8` (zero-speed guard
    walk.rs:60-66); `distance / |speed|` with zero speed is +∞ and only feeds a comparison. -/
theorem walk_curve_evenly_fin (w1 w2 w3 w4 : Pt) (distance max_error : XQ) (hw : Ctl w1 w2 w3 w4) (hdist : Fin distance) (herr : Fin max_error) :
    let st := walk_curve_evenly w1 w2 w3 w4 distance max_error
    V2.Fin st.derivative.t0 ∧ V2.Fin st.derivative.t1 ∧ V2.Fin st.derivative.t2 ∧ Fin st.last_t ∧ V2.Fin st.last_point ∧
    Fin st.last_increment ∧ Fin st.distance ∧ Fin st.max_error ∧ 0 < val st.distance ∧ 0 < val st.max_error := by
  intro st
  have hst : walk_curve_evenly w1 w2 w3 w4 distance max_error = st := rfl
  clear_value st
  unfold walk_curve_evenly at hst
  extract_lets II me dist tup1 cp1 cp2 tup2 wn1 wn2 wn3 sp0 sp inc0 inc at hst
  subst hst
  obtain ⟨hwn1, hwn2, hwn3⟩ : V2.Fin wn1 ∧ V2.Fin wn2 ∧ V2.Fin wn3 := (derivative_fin hw).1
  have hme : Fin me ∧ 0 < val me := clamp_1e10_pos herr _ decide_eq_true_iff
  have hdi : Fin dist ∧ 0 < val dist := clamp_1e10_pos hdist _ decide_eq_true_iff
  have hsp0 : Fin sp0 := speed_fin (fin_ofScientific ..) hwn1 hwn2 hwn3
  have hsp : Fin sp := ite_of_both Fin _ (speed_fin (fin_ofScientific ..) hwn1 hwn2 hwn3) hsp0
  have hinc0 : Fin inc0 := by
    simp only [inc0, decide_eq_true_eq]
    split_ifs with h
    · exact fin_ofScientific ..
    · exact fin_div hdi.1 hsp (ne_of_not_abs_lt hsp (fin_ofScientific ..) val_1e8_pos h)
  have hinc : Fin inc := ite_of_both Fin _ (fin_ofScientific ..) hinc0
  exact ⟨hwn1, hwn2, hwn3, fin_zero_lit, hw.1, hinc, hdi.1, hme.1, hdi.2, hme.2⟩

example : Fin (walk_curve_evenly pt5 pt5 pt5 pt5 (0.0 : XQ) (0.0 : XQ)).last_increment :=
  (walk_curve_evenly_fin _ _ _ _ _ _ ctl5 fin_zero_lit fin_zero_lit).2.2.2.2.2.1

theorem incUpdate_fin {inc dist nd speed : XQ} (hi : Fin inc) (hd : Fin dist) (hnd : Fin nd) (hs : Fin speed)
    (h : val nd ≠ 0 ∨ val dist ≠ 0) : Fin (Walk.incUpdate inc dist nd speed) := by
  unfold Walk.incUpdate
  split_ifs with hslow h1 h2
  · xq_fin
  · xq_fin
  · refine fin_mul hi (fin_div hd hnd fun h0 => ?_)
    rcases div_zero_inf hd hnd (h.resolve_left (not_not.2 h0)) h0 with e | e <;> rw [e] at h1 h2
    · exact h2 (by decide +kernel)
    · exact h1 (by decide +kernel)
  all_goals
    have := fin_div (fin_sub hnd hd) hs (ne_of_not_abs_lt hs (fin_ofScientific ..) val_1e8_pos hslow)
    xq_fin

def NextFin (r : T2 (Option (T2 XQ XQ)) (T3 XQ Pt XQ)) : Prop :=
  (∀ sec, r.t0 = some sec → Fin sec.t0 ∧ Fin sec.t1) ∧ Fin r.t1.t0 ∧ V2.Fin r.t1.t1 ∧ Fin r.t1.t2

section
variable {w1 w2 w3 w4 : Pt} {d : T3 Pt Pt Pt} {dist err lastT : XQ} {lastP : Pt} {lastInc : XQ}
  (hw : Ctl w1 w2 w3 w4) (hd : V2.Fin d.t0 ∧ V2.Fin d.t1 ∧ V2.Fin d.t2) (hdist : Fin dist) (herr : Fin err)
  (hT : Fin lastT) (hP : V2.Fin lastP) (hI : Fin lastInc) (hguard : 0 < val err ∨ val dist ≠ 0)
include hw hd hdist herr hT hP hI hguard

theorem evenLoop_fin (fuel : ℕ) :
    let u := Walk.evenLoop w1 w2 w3 w4 d dist err lastT lastP fuel lastInc
    V2.Fin u.t0 ∧ Fin u.t1 ∧ Fin u.t2 := by
  have hnp : ∀ st : T4 Pt XQ XQ ℕ, Fin st.t2 → V2.Fin (Walk.reached w1 w2 w3 w4 st) := fun st ht => (eval_fin ht hw).2.2.2
  refine Walk.evenLoop_inv w1 w2 w3 w4 d dist err lastT lastP (fun st => V2.Fin st.t0 ∧ Fin st.t1 ∧ Fin st.t2) fuel lastInc
    ⟨⟨rfl, rfl⟩, hI, fin_add hT hI⟩ (fun st hs => ⟨hnp st hs.2.2, hs.2⟩) fun st hs hacc => ?_
  have hnd := (distance_fin lastP _ hP (hnp st hs.2.2)).1
  have hti := incUpdate_fin hs.2.1 hdist hnd
    (speed_fin hs.2.2 hd.1 hd.2.1 hd.2.2) (by
      by_contra hcon
      simp only [not_or, not_not] at hcon
      apply hacc
      rw [lt_iff ((fin_abs_iff _).2 (fin_sub hdist hnd)) herr, val_abs, val_sub hdist hnd, hcon.1, hcon.2, sub_zero,
        abs_zero]
      exact hguard.resolve_right (not_not.2 hcon.2))
  exact ⟨hnp st hs.2.2, hti, fin_add hT hti⟩

theorem even_walk_next_fuel_fin (fuel : ℕ) :
    NextFin (even_walk_next_fuel fuel w1 w2 w3 w4 d dist err lastT lastP lastInc) := by
  have hu := evenLoop_fin hw hd hdist herr hT hP hI hguard fuel
  rw [Walk.even_walk_next_fuel_eq]
  exact ite_of_both NextFin _ ⟨fun _ h => (nomatch h), hT, hP, hI⟩ (ite_of_both NextFin _
    ⟨fun sec h => Option.some.inj h ▸ ⟨hT, fin_one_lit⟩, fin_one_lit, hP, hI⟩
    ⟨fun sec h => Option.some.inj h ▸ ⟨hT, hu.2.2⟩, hu.2.2, hu.1, hu.2.1⟩)

end

/-- `EvenWalkIterator::next` IS TOTAL on every state the constructor can produce (and on more): for a finite curve and a
    finite iterator state with `max_error > 0` OR `distance ≠ 0`, the returned section and the new state are finite.  In
    the loop: the adjustment divides by the speed only when `|speed| ≥ 1e-8` (walk.rs:209); at a stationary point the
    ratio `distance / next_distance` may be ±∞ (then one of the two comparisons catches it) and is NaN only if both
    vanish - but then `|error| = 0 < max_error` has already left the loop.  The hypothesis is necessary: see
    `even_walk_next_not_total`. -/
theorem even_walk_next_fin (w1 w2 w3 w4 : Pt) (d : T3 Pt Pt Pt) (dist err lastT : XQ) (lastP : Pt) (lastInc : XQ)
    (hw : Ctl w1 w2 w3 w4) (hd : V2.Fin d.t0 ∧ V2.Fin d.t1 ∧ V2.Fin d.t2) (hdist : Fin dist) (herr : Fin err)
    (hT : Fin lastT) (hP : V2.Fin lastP) (hI : Fin lastInc) (hguard : 0 < val err ∨ val dist ≠ 0) :
    let r := even_walk_next w1 w2 w3 w4 d dist err lastT lastP lastInc
    (∀ sec, r.t0 = some sec → Fin sec.t0 ∧ Fin sec.t1) ∧ Fin r.t1.t0 ∧ V2.Fin r.t1.t1 ∧ Fin r.t1.t2 :=
  even_walk_next_fuel_fin hw hd hdist herr hT hP hI hguard 64

example : Fin (even_walk_next pt5 pt5 pt5 pt5 ⟨pt5 - pt5, pt5 - pt5, pt5 - pt5⟩ (1.0 : XQ) (1.0 : XQ) (0.0 : XQ) pt5 (1.0 : XQ)).t1.t0 :=
  (even_walk_next_fin _ _ _ _ _ _ _ _ _ _ ctl5 ⟨pt5_sub_fin, pt5_sub_fin, pt5_sub_fin⟩ fin_one_lit fin_one_lit fin_zero_lit pt5_fin
    fin_one_lit (Or.inl (by rw [val_one_lit]; norm_num))).2.1

end

attribute [local instance] exSqrt in
/-- NOT TOTAL without that hypothesis: with `distance = 0` and `max_error = 0` (which `walk_curve_evenly` never produces, and which
    `vary_by` no longer produces either since it clamps the varied distance - it cannot set `max_error`) a point curve yields a NaN position: 0/0 at
    walk.rs:213.  [`exSqrt` is the concrete square-root function of the examples.] -/
theorem even_walk_next_not_total :
    (even_walk_next pt5 pt5 pt5 pt5 ⟨⟨fin 0, fin 0⟩, ⟨fin 0, fin 0⟩, ⟨fin 0, fin 0⟩⟩ (fin 0) (fin 0) (fin 0) pt5 (fin (1/100))).t1.t0 = nan := by
  decide +kernel

example : ¬ Fin nan := not_fin_nan

/-- `UnevenWalkIterator::next` IS TOTAL: `k/n` is only computed when `k < n`, hence `n > 0`; `walk_curve_unevenly(c, 0)`
    yields nothing (no 0/0) -/
theorem uneven_walk_next_fin (n k : Nat) : ∀ sec, (uneven_walk_next (K := XQ) n k).t0 = some sec → Fin sec.t0 ∧ Fin sec.t1 := by
  intro sec h
  simp only [uneven_walk_next] at h
  split_ifs at h with hk
  simp only [decide_eq_true_eq, not_le] at hk
  simp only [Option.some.injEq] at h
  subst h
  have hn : val (ofInt (n : Int) : XQ) ≠ 0 := by
    rw [val_ofInt]; have : 0 < n := by omega
    exact_mod_cast (Nat.pos_iff_ne_zero.1 this)
  exact ⟨fin_div (fin_ofInt _) (fin_ofInt _) hn, fin_div (fin_ofInt _) (fin_ofInt _) hn⟩


example : (uneven_walk_next (K := XQ) 0 0).t0 = none := by decide +kernel
example : ∀ sec, (uneven_walk_next (K := XQ) 1 0).t0 = some sec → Fin sec.t0 ∧ Fin sec.t1 := uneven_walk_next_fin 1 0

/-! ## 8. Fitting, nearest point -/

/-- `fit_line` (the two-point base case of `fit_curve_cubic`; identical points included) returns a finite curve -/
theorem fit_line_fin (p1 p2 : Pt) (h1 : V2.Fin p1) (h2 : V2.Fin p2) : ∀ c ∈ fit_line (K := XQ) p1 p2, CurveFin c := by
  intro c hc
  simp only [fit_line, List.mem_singleton] at hc
  subst hc
  simp only [CurveFin]
  xq_fin


example : ∀ c ∈ fit_line (K := XQ) pt5 pt5, CurveFin c := fit_line_fin _ _ pt5_fin pt5_fin

/-- `newton_raphson_root_find` (fit.rs:394-426, guard `denominator == 0.0` at :420 and the clamp of repair 2164b23) returns a
    finite parameter for a finite estimate, WHATEVER the curve and the point are (NaN coordinates included): either the
    estimate itself or a value clamped to [0,1] by `max(0.0).min(1.0)`, which maps NaN to 0 and ±∞ to 0 / 1 -/
theorem newton_raphson_root_find_fin (w1 w2 w3 w4 point : Pt) (t : XQ) (ht : Fin t) : Fin (newton_raphson_root_find w1 w2 w3 w4 point t) := by
  simp only [newton_raphson_root_find]
  exact ite_of_both Fin _ ht (fin_clamp _ fin_zero_lit fin_one_lit)


example : Fin (newton_raphson_root_find pt5 pt5 pt5 pt5 pt5 (0.0 : XQ)) := newton_raphson_root_find_fin _ _ _ _ _ _ fin_zero_lit

/-- `nearest_point_on_curve_bezier_root_finder` (`nearest_t`) RETURNS A FINITE PARAMETER FOR EVERY INPUT WHATSOEVER and
    whatever `find_bezier_roots` returns: the answer is 0.0, 1.0 or a root that passed `0 < t < 1` -/
theorem nearest_t_fin (dbf : Pt → Pt → Pt → Pt → Pt → List Pt) (roots : List Pt → List XQ) (w1 w2 w3 w4 point : Pt) :
    Fin (nearest_point_on_curve_bezier_root_finder dbf roots w1 w2 w3 w4 point) := by
  unfold nearest_point_on_curve_bezier_root_finder
  extract_lets tc pt mt off md upd mt' md'
  show Fin upd.t0
  refine foldl_inv (fun s : T2 XQ XQ => Fin s.t0) _ _ _ (fun s t ht hs => ?_) fin_zero_lit
  have htf : Fin t := by
    simp only [List.mem_append, List.mem_filter, List.mem_singleton, Bool.and_eq_true, decide_eq_true_eq] at ht
    rcases ht with ⟨_, h1, h2⟩ | rfl
    · exact fin_of_lt_of_lt fin_zero_lit fin_one_lit h1 h2
    · exact fin_one_lit
  exact ite_of_both (fun s : T2 XQ XQ => Fin s.t0) _ htf hs

example : Fin (nearest_point_on_curve_bezier_root_finder (fun _ _ _ _ _ => []) (fun _ => [nan, pinf, fin (1/2)]) pt5 pt5 pt5 pt5 pt5) :=
  nearest_t_fin _ _ _ _ _ _ _

section
variable [SqrtFn]

/-- the tail of `generate_bezier` (fit.rs:296-321, guards :302-303): the least-squares solution divides by the
    determinant only when `|det| ≥ 1e-4`; for finite sums `c`, `x`, finite end points and tangents (zero tangents of
    coincident points included) the fitted curve is finite -/
theorem generate_bezier_tail_fin (c00 c01 c10 c11 x0 x1 : XQ) (p0 pl st et : Pt)
    (h00 : Fin c00) (h01 : Fin c01) (h10 : Fin c10) (h11 : Fin c11) (hx0 : Fin x0) (hx1 : Fin x1)
    (hp0 : V2.Fin p0) (hpl : V2.Fin pl) (hst : V2.Fin st) (het : V2.Fin et) :
    CurveFin (generate_bezier_tail c00 c01 c10 c11 x0 x1 p0 pl st et) := by
  have hdet : Fin (c00 * c11 - c10 * c01) := by xq_fin
  have h4 : (0:ℚ) < val (1.0e-4 : XQ) := by rw [val_ofScientific]; norm_num
  have hq : ∀ n : XQ, Fin n → Fin (if decide (fabs (c00 * c11 - c10 * c01) < (1.0e-4 : XQ)) = true then (0.0 : XQ)
      else n / (c00 * c11 - c10 * c01)) := fun n hn => by
    split_ifs with h
    · exact fin_zero_lit
    · simp only [decide_eq_true_eq] at h
      exact fin_div hn hdet (ne_of_not_abs_lt hdet (fin_ofScientific ..) h4 h)
  have hal := hq (x0 * c11 - x1 * c01) (by xq_fin)
  have har := hq (c00 * x1 - c10 * x0) (by xq_fin)
  have hseg := (distance_fin p0 pl hp0 hpl).1
  have hd3 : Fin (coord2_distance_to p0 pl / (3.0 : XQ)) :=
    fin_div_lit hseg _ _ _ (by norm_num)
  simp only [generate_bezier_tail]
  refine ite_of_both CurveFin _ ?_ ?_ <;> simp only [CurveFin] <;> xq_fin


example : CurveFin (generate_bezier_tail (fin 0) (fin 0) (fin 0) (fin 0) (fin 0) (fin 0) pt5 pt5 (pt5 - pt5) (pt5 - pt5)) :=
  generate_bezier_tail_fin _ _ _ _ _ _ _ _ _ _ rfl rfl rfl rfl rfl rfl pt5_fin pt5_fin pt5_sub_fin pt5_sub_fin

/-- THE SPLIT POSITION OF `fit_curve_cubic` IS INTERIOR (consequence of repair 022a471, `max_error < 0 ⇒ 0`): the selection
    loop of `max_error_for_curve` (translated) returns, for finite squared errors whose first and last are 0 (the fitted
    curve starts and ends at the first and last sample, parameters 0 and 1), a finite error, and whenever that error is
    positive - which it is in the split branch, `error > max_error ≥ 0` - an index with `1 ≤ split_pos` and
    `split_pos + 1 < len`: the accesses `points[split_pos-1]` and `points[split_pos+1]` (fit.rs:212) are in range.
    (That the first and last error vanish is a property of generate_bezier / reparameterize, not modelled: hypothesis.) -/
theorem fit_split_pos (errors : List XQ) (hfin : ∀ e ∈ errors, Fin e)
    (h0 : ∀ e, errors.head? = some e → val e ≤ 0) (hl : ∀ e, errors.getLast? = some e → val e ≤ 0) :
    let r := max_error_pick errors
    Fin r.t0 ∧ (0 < val r.t0 → 1 ≤ r.t1 ∧ r.t1 + 1 < errors.length) := by
  intro r
  have hr : max_error_pick errors = r := rfl
  clear_value r
  unfold max_error_pick at hr
  extract_lets b0 o0 upd b o at hr
  subst hr
  have hinv : Fin upd.t0 ∧ 0 ≤ val upd.t0 ∧ (0 < val upd.t0 → 1 ≤ upd.t1 ∧ upd.t1 + 1 < errors.length) := by
    refine foldl_inv (fun st : T2 XQ Nat => Fin st.t0 ∧ 0 ≤ val st.t0 ∧ (0 < val st.t0 → 1 ≤ st.t1 ∧ st.t1 + 1 < errors.length)) _ _ _
      (fun st it hit hst => ?_) ⟨fin_zero_lit, val_zero_lit.ge, fun h => absurd (h.trans_eq val_zero_lit) (lt_irrefl _)⟩
    obtain ⟨hsf, hs0, hs1⟩ := hst
    simp only [List.mem_map] at hit
    obtain ⟨⟨e, i⟩, hmem, rfl⟩ := hit
    have hget : errors[i]? = some e := List.mem_zipIdx_iff_getElem?.1 hmem
    have hi : i < errors.length := by
      by_contra hcon; rw [List.getElem?_eq_none (by omega)] at hget; cases hget
    have hef : Fin e := hfin e (List.mem_of_getElem? hget)
    simp only [decide_eq_true_eq, gt_iff_lt]
    split_ifs with hgt
    · rw [lt_iff hsf hef] at hgt
      refine ⟨hef, by linarith, fun _ => ?_⟩
      show 1 ≤ i ∧ i + 1 < errors.length
      refine ⟨?_, ?_⟩
      · by_contra hcon
        have hi0 : i = 0 := by omega
        subst hi0
        have : errors.head? = some e := by rw [List.head?_eq_getElem?]; exact hget
        have := h0 e this
        linarith
      · by_contra hcon
        have hil : i = errors.length - 1 := by omega
        have : errors.getLast? = some e := by
          rw [List.getLast?_eq_getElem?, ← hil]; exact hget
        have := hl e this
        linarith
    · exact ⟨hsf, hs0, hs1⟩
  obtain ⟨hf, h0', h1⟩ := hinv
  refine ⟨fin_fsqrt hf h0', ?_⟩
  intro hpos
  apply h1
  rw [val_fsqrt hf h0'] at hpos
  rcases lt_or_eq_of_le h0' with h | h
  · exact h
  · rw [← h, sqrtFn_zero] at hpos; exact absurd hpos (lt_irrefl _)

example : Fin (max_error_pick [fin 0, fin 4, fin 0]).t0 := (fit_split_pos [fin 0, fin 4, fin 0] (by simp) (by simp) (by simp)).1

/-! ## 9. Unit vectors, tangents, normals, offsets -/

/-- `Coordinate::to_unit_vector` IS TOTAL: the zero vector gives the origin (guard `magnitude == 0.0`), otherwise the
    vector is multiplied by `1.0/magnitude` with a non-zero magnitude -/
theorem to_unit_vector_fin (p : Pt) (hp : V2.Fin p) : V2.Fin (to_unit_vector p) := by
  have hm := magnitude_fin p hp
  simp only [to_unit_vector]
  split_ifs with h
  · exact ⟨fin_zero_lit, fin_zero_lit⟩
  · have := fin_div fin_one_lit hm.1 (ne_of_not_beq_zero hm.1 h)
    xq_fin


example : V2.Fin (to_unit_vector (pt5 - pt5)) := to_unit_vector_fin _ pt5_sub_fin

/-- `tangent_at_pos` and `normal_at_pos` (normal.rs:84-126; t = 0 and t = 1 are moved by `f64::EPSILON`, :92-94) are finite
    for every finite curve and parameter; a point curve gives the zero vector -/
theorem tangent_normal_fin (w1 w2 w3 w4 : Pt) (t : XQ) (hw : Ctl w1 w2 w3 w4) (ht : Fin t) :
    V2.Fin (tangent_at_pos w1 w2 w3 w4 t) ∧ V2.Fin (normal_at_pos w1 w2 w3 w4 t) := by
  obtain ⟨h1, h2, h3, h4⟩ := hw
  have ht1 : Fin (if (t == (0.0 : XQ)) = true then (feps : XQ) else t) := ite_of_both Fin _ fin_feps ht
  generalize hta : (if (t == (0.0 : XQ)) = true then (feps : XQ) else t) = ta at ht1
  have ht2 : Fin (if (ta == (1.0 : XQ)) = true then (1.0 : XQ) - (feps : XQ) else ta) :=
    ite_of_both Fin _ (fin_sub fin_one_lit fin_feps) ht1
  generalize htb : (if (ta == (1.0 : XQ)) = true then (1.0 : XQ) - (feps : XQ) else ta) = tb at ht2
  have hder := (derivative_fin ⟨h1, h2, h3, h4⟩).1
  have htan : V2.Fin (de_casteljau3 tb (derivative4 w1 w2 w3 w4).t0 (derivative4 w1 w2 w3 w4).t1 (derivative4 w1 w2 w3 w4).t2) :=
    dc3_fin ht2 hder.1 hder.2.1 hder.2.2
  constructor
  · simp only [tangent_at_pos, hta, htb]; exact htan
  · simp only [normal_at_pos, hta, htb, to_normal, listGet]
    obtain ⟨hx, hy⟩ := htan
    refine ⟨?_, ?_⟩
    · show Fin (-_); exact (fin_neg_iff _).2 hy
    · exact hx

example : V2.Fin (normal_at_pos pt5 pt5 pt5 pt5 (0.0 : XQ)) := (tangent_normal_fin _ _ _ _ _ ctl5 fin_zero_lit).2

/-- `tot_offset_by_moving` (the fallback of `offset_scaling` when the end normals do not meet) is finite -/
theorem offset_by_moving_fin (w1 w2 w3 w4 : Pt) (o1 o2 : XQ) (n1 n2 : Pt) (hw : Ctl w1 w2 w3 w4) (ho1 : Fin o1) (ho2 : Fin o2)
    (hn1 : V2.Fin n1) (hn2 : V2.Fin n2) : CurveFin (tot_offset_by_moving w1 w2 w3 w4 o1 o2 n1 n2) := by
  obtain ⟨h1, h2, h3, h4⟩ := hw
  simp only [tot_offset_by_moving, CurveFin]
  xq_fin


example : CurveFin (tot_offset_by_moving pt5 pt5 pt5 pt5 (fin 2) (fin 2) (pt5 - pt5) (pt5 - pt5)) :=
  offset_by_moving_fin _ _ _ _ _ _ _ _ ctl5 rfl rfl pt5_sub_fin pt5_sub_fin

/-- the distance of two finite points vanishes only for equal points -/
theorem distance_eq_zero_iff (p q : Pt) (hp : V2.Fin p) (hq : V2.Fin q) :
    val (coord2_distance_to p q) = 0 ↔ val q.x = val p.x ∧ val q.y = val p.y := by
  obtain ⟨hx, hy⟩ := hp
  obtain ⟨hqx, hqy⟩ := hq
  simp only [coord2_distance_to]
  have h1 : Fin (q.x - p.x) := by xq_fin
  have h2 : Fin (q.y - p.y) := by xq_fin
  rw [val_hypot_eq_zero_iff h1 h2, val_sub hqx hx, val_sub hqy hy, sub_eq_zero, sub_eq_zero]


example : val (coord2_distance_to pt5 pt5) = 0 := (distance_eq_zero_iff _ _ pt5_fin pt5_fin).2 ⟨rfl, rfl⟩

/-- `tot_offset_by_scaling` divides by the distances from the intersection point of the end normals to the start and to the
    end point WITHOUT a guard; it is finite when the intersection point differs from both … -/
theorem offset_by_scaling_fin (w1 w2 w3 w4 : Pt) (o1 o2 : XQ) (ip n1 n2 : Pt) (hw : Ctl w1 w2 w3 w4) (ho1 : Fin o1) (ho2 : Fin o2)
    (hip : V2.Fin ip) (hn1 : V2.Fin n1) (hn2 : V2.Fin n2)
    (hs : ¬ (val w1.x = val ip.x ∧ val w1.y = val ip.y)) (he : ¬ (val w4.x = val ip.x ∧ val w4.y = val ip.y)) :
    CurveFin (tot_offset_by_scaling w1 w2 w3 w4 o1 o2 ip n1 n2) := by
  obtain ⟨h1, h2, h3, h4⟩ := hw
  have hns : V2.Fin (w1 + n1 * o1) := by xq_fin
  have hne : V2.Fin (w4 + n2 * o2) := by xq_fin
  have hss : Fin (coord2_distance_to ip (w1 + n1 * o1) / coord2_distance_to ip w1) :=
    fin_div (distance_fin _ _ hip hns).1 (distance_fin _ _ hip h1).1 (by rw [Ne, distance_eq_zero_iff _ _ hip h1]; exact hs)
  have hes : Fin (coord2_distance_to ip (w4 + n2 * o2) / coord2_distance_to ip w4) :=
    fin_div (distance_fin _ _ hip hne).1 (distance_fin _ _ hip h4).1 (by rw [Ne, distance_eq_zero_iff _ _ hip h4]; exact he)
  have h13 := third_fin
  have h23 := two_thirds_fin
  simp only [tot_offset_by_scaling, CurveFin]
  xq_fin


example : CurveFin (tot_offset_by_scaling pt5 pt5 pt5 pt5 (fin 2) (fin 2) ⟨fin 0, fin 0⟩ (pt5 - pt5) (pt5 - pt5)) :=
  offset_by_scaling_fin _ _ _ _ _ _ _ _ _ ctl5 rfl rfl ⟨rfl, rfl⟩ pt5_sub_fin pt5_sub_fin
    (by simp [pt5]) (by simp [pt5])

/-- … and NOT TOTAL otherwise (known finding `non_finite.offset_scaling.closed_start_equals_end.scale_1e-9`): when the
    normals meet AT the start point (e.g. a closed curve, start = end, whose end normals differ) the first control point of
    the result is not finite, for any offsets and normals -/
theorem offset_by_scaling_not_total (w2 w3 w4 : Pt) (o1 o2 : XQ) (ip n1 n2 : Pt) (hip : V2.Fin ip) :
    ¬ V2.Fin (tot_offset_by_scaling ip w2 w3 w4 o1 o2 ip n1 n2).t1 := by
  intro h
  simp only [tot_offset_by_scaling] at h
  have hz : val (coord2_distance_to ip ip) = 0 := (distance_eq_zero_iff ip ip hip hip).2 ⟨rfl, rfl⟩
  have hzf := (distance_fin ip ip hip hip).1
  have hnf := not_fin_div_zero (a := coord2_distance_to ip (ip + n1 * o1)) hz hzf
  generalize coord2_distance_to ip (ip + n1 * o1) / coord2_distance_to ip ip = ss at h hnf
  apply hnf
  have := h.1
  simp only [V2.add_x, V2.mul_x, V2.sub_x, fin_add_iff, fin_mul_iff, fin_sub_iff] at this
  exact this.1.2.2

example : ¬ V2.Fin (tot_offset_by_scaling pt5 pt5 pt5 pt5 (fin 2) (fin 2) pt5 pt5 pt5).t1 := offset_by_scaling_not_total _ _ _ _ _ _ _ _ pt5_fin

/-! ## 10. Clipping guard, curve length -/

/-- `tot_curve_hull_length_sq` (whose `== 0.0` test is the zero-length guard curve_curve_clip.rs:208-210) is finite for every
    finite curve and section (tiny and empty sections give 0) -/
theorem curve_hull_length_sq_fin (w1 w2 w3 w4 : Pt) (s : SectionT XQ) (hw : Ctl w1 w2 w3 w4) (hs : SecFin s) :
    Fin (tot_curve_hull_length_sq w1 w2 w3 w4 s) := by
  obtain ⟨hst, hc1, hc2, hen⟩ := section_ctl_fin hw hs
  have hsq : ∀ {p q : Pt}, V2.Fin p → V2.Fin q → Fin (dot (p - q) (p - q)) := fun hp hq =>
    V2.fin_dot ((V2.fin_sub_iff _ _).2 ⟨hp, hq⟩) ((V2.fin_sub_iff _ _).2 ⟨hp, hq⟩)
  exact ite_of_both Fin _ fin_zero_lit (fin_add (fin_add (hsq hc1 hst) (hsq hc2 hc1)) (hsq hc2 hen))

example : Fin (tot_curve_hull_length_sq pt5 pt5 pt5 pt5 sec11) := curve_hull_length_sq_fin _ _ _ _ _ ctl5 sec11_fin

/-- `tot_section_length` (the whole `while let Some(..) = waiting.pop()` loop of length.rs:32-66, translated) with the fuel of
    its loop as a parameter, regenerated from the same source: the translated function is the instance with fuel 10⁶ -/
theorem section_length_eq_fuel (w1 w2 w3 w4 : Pt) (s : SectionT XQ) (e : XQ) :
    tot_section_length w1 w2 w3 w4 s e = section_length_fuel 1000000 w1 w2 w3 w4 s e := rfl

example : tot_section_length pt5 pt5 pt5 pt5 sec11 (fin 1) = section_length_fuel 1000000 pt5 pt5 pt5 pt5 sec11 (fin 1) :=
  section_length_eq_fuel _ _ _ _ _ _

/-- `curve_length` / `tot_section_length` RETURNS A FINITE LENGTH for every finite curve, section and tolerance (zero and
    negative tolerances included), after any number of loop iterations: every piece's chord and control polygon are
    finite (sections incl. `t_c = 1` by `section_control_points_fin`), the estimate divides by the literal 4 and the
    tolerance by the literal 2 -/
theorem section_length_fuel_fin (fuel : Nat) (w1 w2 w3 w4 : Pt) (s : SectionT XQ) (e : XQ) (hw : Ctl w1 w2 w3 w4) (hs : SecFin s) (he : Fin e) :
    Fin (section_length_fuel fuel w1 w2 w3 w4 s e) := by
  unfold section_length_fuel
  extract_lets ME w0 tl0 upd tl w
  show Fin upd.t0
  refine iterFuel_inv (fun st : T2 XQ (List (T2 (SectionT XQ) XQ)) => Fin st.t0 ∧ ∀ x ∈ st.t1, SecFin x.t0 ∧ Fin x.t1)
    (fun st : T2 XQ (List (T2 (SectionT XQ) XQ)) => Fin st.t0) _ _ (fun st st' ⟨htl, hwait⟩ hst => ?_)
    (fun st r ⟨htl, _⟩ hst => ?_) (fun _ h => h.1) fuel (T2.mk tl0 w0) ⟨fin_zero_lit, fun x hx => List.mem_singleton.1 hx ▸ ⟨hs, he⟩⟩
  · extract_lets tl' wt at hst
    cases hlast : wt.getLast? with
    | none => simp only [hlast] at hst; cases hst
    | some top =>
      simp only [hlast] at hst
      have htop := hwait top (List.mem_of_getLast? hlast)
      have hlen := chord_polygon_length_fin _ _ _ _ (section_ctl_fin hw htop.1)
      have hrest : ∀ x ∈ wt.dropLast, SecFin x.t0 ∧ Fin x.t1 := fun x hx => hwait x (List.dropLast_subset _ hx)
      split_ifs at hst <;> obtain rfl := Sum.inl.inj hst
      · refine ⟨?_, hrest⟩
        have := hlen.1; have := hlen.2
        exact fin_add htl (fin_div_lit (by xq_fin) _ _ _ (by norm_num))
      · refine ⟨htl, ?_⟩
        have he2 : Fin (top.t1 / (2.0 : XQ)) := fin_div_lit htop.2 _ _ _ (by norm_num)
        have h5 : Fin (0.5 : XQ) := fin_ofScientific ..
        have hl := subsection_fin htop.1 fin_zero_lit h5
        have hr := subsection_fin htop.1 h5 fin_one_lit
        intro x hx
        simp only [List.mem_append, List.mem_singleton] at hx
        rcases hx with (hx | rfl) | rfl
        exacts [hrest x hx, ⟨hl, he2⟩, ⟨hr, he2⟩]
  · -- the loop is left with the state as it is, once the stack is empty
    extract_lets tl' wt at hst
    cases hlast : wt.getLast? with
    | none => simp only [hlast] at hst; obtain rfl := Sum.inr.inj hst; exact htl
    | some top => simp only [hlast] at hst; split_ifs at hst

example : Fin (tot_section_length pt5 pt5 pt5 pt5 (section_new (0.0 : XQ) (1.0 : XQ)) (0.0 : XQ)) := by
  rw [section_length_eq_fuel]
  exact section_length_fuel_fin _ _ _ _ _ _ _ ctl5 (section_new_fin fin_zero_lit fin_one_lit) fin_zero_lit

end

/-! ## 11. The repaired `vary_by` -/

/-- `VaryingWalkIterator::next` (repair b75d9d0) keeps the even iterator's state finite with a POSITIVE distance: the varied
    distance is clamped to ≥ 1e-10 before `ratio = distance / previous distance` is formed, so the previous distance is
    never 0 (by induction from the constructor, `walk_curve_evenly_fin`), and with it the hypothesis of
    `even_walk_next_fin` holds at every step of a varied walk - zero and negative varied distances included.
    (Before the repair a varied distance 0 made the next ratio infinite and the increment NaN.) -/
theorem varyUpdate_fin (next : Option XQ) (dist inc : XQ) (hn : ∀ d, next = some d → Fin d) (hd : Fin dist) (hpos : 0 < val dist) (hi : Fin inc) :
    let r := varyUpdate next dist inc
    Fin r.t0 ∧ 0 < val r.t0 ∧ Fin r.t1 := by
  cases next with
  | none => exact ⟨hd, hpos, hi⟩
  | some d =>
    have hdf := hn d rfl
    simp only [varyUpdate]
    have hc := clamp_1e10_pos hdf _ Iff.rfl
    generalize (if d < (1e-10 : XQ) then (1e-10 : XQ) else d) = d' at hc
    have := fin_div hc.1 hd (ne_of_gt hpos)
    exact ⟨hc.1, hc.2, by xq_fin⟩


example : Fin (varyUpdate (some (0.0 : XQ)) (1.0 : XQ) (1.0 : XQ)).t1 :=
  (varyUpdate_fin _ _ _ (fun d h => by cases h; exact fin_zero_lit) fin_one_lit (by rw [val_one_lit]; norm_num) fin_one_lit).2.2

/-! ## 12. Work bounds: the loops leave through their exit test, not through the fuel of the translation -/

section
variable [SqrtFn]

/-- `EvenWalkIterator::next` with the fuel of its loop as a parameter, regenerated from the same source; the translated
    function is the instance with fuel 64 -/
theorem even_walk_next_eq_fuel (w1 w2 w3 w4 : Pt) (d : T3 Pt Pt Pt) (dist err lastT : XQ) (lastP : Pt) (lastInc : XQ) :
    even_walk_next w1 w2 w3 w4 d dist err lastT lastP lastInc = even_walk_next_fuel 64 w1 w2 w3 w4 d dist err lastT lastP lastInc :=
  Walk.even_walk_next_eq ..

example : even_walk_next pt5 pt5 pt5 pt5 ⟨pt5, pt5, pt5⟩ (fin 1) (fin 1) (fin 0) pt5 (fin 1) =
    even_walk_next_fuel 64 pt5 pt5 pt5 pt5 ⟨pt5, pt5, pt5⟩ (fin 1) (fin 1) (fin 0) pt5 (fin 1) := even_walk_next_eq_fuel _ _ _ _ _ _ _ _ _ _

/-- THE STEP CONTROLLER OF THE EVEN WALK RUNS AT MOST 32 ITERATIONS (MAX_ITERATIONS, walk.rs:176), for EVERY input, finite
    or not: any fuel ≥ 32 gives the same result as fuel 32, so the fuel 64 of the translation is never exhausted and one
    call of `next` costs at most 32 curve evaluations -/
theorem even_walk_loop_bound (fuel : Nat) (hf : 32 ≤ fuel) (w1 w2 w3 w4 : Pt) (d : T3 Pt Pt Pt) (dist err lastT : XQ) (lastP : Pt) (lastInc : XQ) :
    even_walk_next_fuel fuel w1 w2 w3 w4 d dist err lastT lastP lastInc = even_walk_next_fuel 32 w1 w2 w3 w4 d dist err lastT lastP lastInc := by
  rw [Walk.even_walk_next_fuel_eq, Walk.even_walk_next_fuel_eq, Walk.evenLoop_fuel _ _ _ _ _ _ _ _ _ fuel hf]

example : even_walk_next_fuel 64 pt5 pt5 pt5 pt5 ⟨pt5, pt5, pt5⟩ (fin 1) (fin 1) (fin 0) pt5 (fin 1) =
    even_walk_next_fuel 32 pt5 pt5 pt5 pt5 ⟨pt5, pt5, pt5⟩ (fin 1) (fin 1) (fin 0) pt5 (fin 1) := even_walk_loop_bound 64 (by omega) _ _ _ _ _ _ _ _ _ _

/-- WORK BOUND OF `curve_length` / `tot_section_length`: for EVERY curve (finite or not) and every finite tolerance
    `max_error ≤ 2^k·1e-12` the loop has emptied its stack after fewer than `2^(k+1)` iterations: any two fuels
    `≥ 2^(k+1)` give the same result.  This is the only bound the code guarantees unconditionally - the `MIN_ERROR = 1e-12`
    floor (length.rs:43) under the halving tolerance - and it is proportional to `max_error / 1e-12`, NOT to the size of
    the input (k = 34, i.e. 3·10¹⁰ iterations, for `max_error = 0.01`); that the flatness test accepts long before is not
    a theorem.  (A NaN tolerance fails both exit tests for ever: out of scope.) -/
theorem section_length_work_bound (k : Nat) (w1 w2 w3 w4 : Pt) (s : SectionT XQ) (e : XQ) (he : Fin e)
    (hk : val e ≤ 2 ^ k / 10 ^ 12) (fuel fuel' : Nat) (hf : 2 ^ (k + 1) ≤ fuel) (hf' : 2 ^ (k + 1) ≤ fuel') :
    section_length_fuel fuel w1 w2 w3 w4 s e = section_length_fuel fuel' w1 w2 w3 w4 s e := by
  unfold section_length_fuel
  extract_lets ME w0 tl0 upd tl w upd' tl' w'
  have hupd : upd = upd' := by
    apply iterFuel_stable_inv (fun st : T2 XQ (List (T2 (SectionT XQ) XQ)) => ∀ x ∈ st.t1, Fin x.t1) (fun st => lenMeasure st.t1)
    · intro st st' hinv hstep
      extract_lets tl1 wt at hstep
      cases hl : wt.getLast? with
      | none => simp only [hl] at hstep; cases hstep
      | some top =>
        simp only [hl] at hstep
        have htop : Fin top.t1 := hinv top (List.mem_of_getLast? hl)
        split_ifs at hstep with hacc
        · obtain rfl := Sum.inl.inj hstep
          exact stack_pop (fun x : T2 (SectionT XQ) XQ => lenWeight x.t1) (fun x => Fin x.t1) (fun _ => treeSize_pos _) hl hinv
        · obtain rfl := Sum.inl.inj hstep
          simp only [Bool.or_eq_true, decide_eq_true_eq, not_or, ME] at hacc
          have he2 : Fin (top.t1 / (2.0 : XQ)) := fin_div_lit htop _ _ _ (by norm_num)
          have hh := lenWeight_half top.t1 htop hacc.2
          exact stack_split (fun x : T2 (SectionT XQ) XQ => lenWeight x.t1) (fun x => Fin x.t1) hl hinv he2 he2
            (show lenWeight (top.t1 / (2.0 : XQ)) + lenWeight (top.t1 / (2.0 : XQ)) + 1 ≤ lenWeight top.t1 by omega)
    · intro x hx
      simp only [w0, List.mem_singleton] at hx
      subst hx; exact he
    all_goals
      show lenMeasure w0 < _
      simp only [lenMeasure, w0, List.map_cons, List.map_nil, List.sum_cons, List.sum_nil, lenWeight, Nat.add_zero]
      have h1 := treeSize_mono (halvings_le e k hk)
      have h2 := treeSize_lt k
      omega
  simp only [tl, tl', hupd]

/-- with the fuel 10⁶ of the translation: never exhausted for tolerances up to 2¹⁸·1e-12 ≈ 2.6e-7 (e.g. the 1e-8 of the
    catalogue), for every curve -/
theorem section_length_fuel_sufficient (w1 w2 w3 w4 : Pt) (s : SectionT XQ) (e : XQ) (he : Fin e)
    (hk : val e ≤ 2 ^ 18 / 10 ^ 12) (fuel : Nat) (hf : 2 ^ 19 ≤ fuel) :
    tot_section_length w1 w2 w3 w4 s e = section_length_fuel fuel w1 w2 w3 w4 s e := by
  rw [section_length_eq_fuel]
  exact section_length_work_bound 18 w1 w2 w3 w4 s e he hk _ _ (by norm_num) hf

example : tot_section_length pt5 pt5 pt5 pt5 sec11 (fin (1/100000000)) = section_length_fuel (2 ^ 19) pt5 pt5 pt5 pt5 sec11 (fin (1/100000000)) :=
  section_length_fuel_sufficient pt5 pt5 pt5 pt5 sec11 (fin (1/100000000)) rfl (by simp only [val_fin]; norm_num) _ (le_refl _)

end

/-! ## 13. Witnesses and concrete evaluations (kernel-evaluated at `XQ`) -/

/-- `FatLine::solve_line_y` is NOT total: for a vertical hull edge through `x1` it returns `Some(NaN)` (∞ − ∞ after the
    unguarded division by `p2.x − p1.x = 0`); `clip_t` discards it by its range test (`clip_t_fin`) -/
theorem solve_line_y_not_total :
    solve_line_y (K := XQ) ⟨fin 1, fin 2⟩ ⟨⟨fin 1, fin 0⟩, ⟨fin 1, fin 1⟩⟩ = ⟨some nan, none⟩ := by decide +kernel

example : ¬ Fin nan := not_fin_nan

/-- two crossing lines, for the non-vacuity of the intersection theorems (`some` is returned and is finite) -/
def lineA : T2 Pt Pt := ⟨⟨fin 0, fin 0⟩, ⟨fin 2, fin 2⟩⟩
def lineB : T2 Pt Pt := ⟨⟨fin 0, fin 2⟩, ⟨fin 2, fin 0⟩⟩
example : line_intersects_line lineA lineB = some ⟨fin 1, fin 1⟩ := by decide +kernel
example : ray_intersects_ray lineA lineB = some ⟨fin 1, fin 1⟩ := by decide +kernel
example : line_intersects_line lineA lineA = none := by decide +kernel   -- 0/0 inside, `None` outside

section
attribute [local instance] exSqrt

/-- a straight curve: the quadratic formula divides by `a·2 = 0`; only the end parameter is returned -/
example : find_extremities (fin 0) (fin 1) (fin 2) (fin 3) = [fin 1] := by decide +kernel

/-- `clip_t` does return ranges (the theorem `clip_t_fin` is not vacuous) -/
example : (clip_t (fat_from_curve (⟨fin 0, fin 0⟩ : Pt) ⟨fin 1, fin 1⟩ ⟨fin 2, fin 1⟩ ⟨fin 3, fin 0⟩)
    (⟨fin 1, fin (-1)⟩ : Pt) ⟨fin 1, fin 0⟩ ⟨fin 2, fin 1⟩ ⟨fin 2, fin 2⟩).isSome = true := by decide +kernel

/-- the worst sample of (0, 4, 0) is the interior one (`fit_split_pos` is not vacuous) -/
example : (max_error_pick [fin 0, fin 4, fin 0]).t1 = 1 := by decide +kernel

/-- `curve_intersects_ray` does return hits (the theorem `curve_intersects_ray_fin` is not vacuous) -/
example : (curve_intersects_ray (fun _ => [fin (1/2)]) (⟨fin 0, fin 0⟩ : Pt) ⟨fin 0, fin 4⟩ ⟨fin 4, fin 4⟩ ⟨fin 4, fin 0⟩
    ⟨⟨fin 2, fin (-1)⟩, ⟨fin 2, fin 5⟩⟩).length = 1 := by decide +kernel

end

end C20
