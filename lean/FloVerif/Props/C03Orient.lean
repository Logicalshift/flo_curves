/-
C03 / C01 / C12 (orientation)  `points_are_clockwise`, generated from is_clockwise.rs.

`GraphPath::from_path` (graph_path/mod.rs:159) reverses a path for which `points_are_clockwise` answers `false`
(for a closed path that makes it clockwise; the test reads the end points of the curves, without the start point).  Everything downstream (ray-cast classification, the non-zero rule of
`path_remove_overlapped_points`, C12's oracle "winding relative to the sub-path's own direction") relies on that normalisation
meaning something.  Here: the generated function is the sign test `0 ≤ Σ (x_{i+1} − x_i)(y_{i+1} + y_i)` over the closed polygon of
the points; that sum is minus twice the signed area (shoelace); it changes sign under reversal and does not depend on the start
vertex - so, unless the area is exactly zero, exactly one of a point sequence and its reversal is clockwise, whichever vertex the
path starts at.
-/
import FloVerif.Gen.Clockwise
import Mathlib.Tactic.Ring
import FloVerif.Lemmas.Lit
import Mathlib.Tactic.Linarith
import Mathlib.Algebra.Order.Field.Basic

set_option linter.unusedSectionVars false
namespace C03Orient
open Prelude Gen

variable {K : Type} [Field K] [LinearOrder K] [IsStrictOrderedRing K] [Inhabited K]

/-- one term of the sum -/
def term (a b : V2 K) : K := (b.x - a.x) * (b.y + a.y)

/-- the sum over consecutive pairs of a point list -/
def edgeSum : List (V2 K) → K
  | a :: b :: rest => term a b + edgeSum (b :: rest)
  | _ => 0

/-- the shoelace sum `Σ (x_{i+1} y_i − x_i y_{i+1})` over consecutive pairs -/
def crossSum : List (V2 K) → K
  | a :: b :: rest => (b.x * a.y - a.x * b.y) + crossSum (b :: rest)
  | _ => 0

theorem term_swap (a b : V2 K) : term b a = - term a b := by unfold term; ring

theorem fold_eq_edgeSum (l : List (V2 K)) (acc : K) :
    foldlT (List.zipWith (fun a_ b_ => T2.mk a_ b_) l (List.tail l)) acc
      (fun st_1 it_1 => st_1 + ((it_1.t1.x - it_1.t0.x) * (it_1.t1.y + it_1.t0.y))) = acc + edgeSum l := by
  unfold foldlT
  induction l generalizing acc with
  | nil => simp [edgeSum]
  | cons a l ih =>
    cases l with
    | nil => simp [edgeSum]
    | cons b rest =>
      simp only [List.tail_cons, List.zipWith_cons_cons, List.foldl_cons]
      have := ih (acc + (b.x - a.x) * (b.y + a.y))
      simp only [List.tail_cons] at this
      rw [this]
      simp only [edgeSum, term]; ring

/-- the generated function is the sign test of the closed edge sum (an empty sequence counts as clockwise) -/
theorem points_are_clockwise_eq (p : V2 K) (ps : List (V2 K)) :
    points_are_clockwise (p :: ps) = decide (0 ≤ edgeSum (p :: ps ++ [p])) := by
  unfold points_are_clockwise
  simp only [List.head?_cons, List.tail_cons]
  have := fold_eq_edgeSum ([p] ++ ps ++ [p]) (0.0 : K)
  simp only [List.cons_append, List.nil_append, List.tail_cons] at this ⊢
  rw [lit0] at this
  simp only [lit0, this, zero_add, ge_iff_le]

theorem points_are_clockwise_nil : points_are_clockwise ([] : List (V2 K)) = true := by
  unfold points_are_clockwise
  simp

theorem edgeSum_snoc (l : List (V2 K)) (c d : V2 K) : edgeSum (l ++ [c, d]) = edgeSum (l ++ [c]) + term c d := by
  induction l with
  | nil => simp [edgeSum]
  | cons a l ih =>
    cases l with
    | nil => simp [edgeSum]
    | cons b rest =>
      simp only [List.cons_append, edgeSum] at ih ⊢
      rw [ih]; ring

/-- reversal changes the sign of the edge sum of any point list -/
theorem edgeSum_reverse (l : List (V2 K)) : edgeSum l.reverse = - edgeSum l := by
  induction l with
  | nil => simp [edgeSum]
  | cons a l ih =>
    cases l with
    | nil => simp [edgeSum]
    | cons b rest =>
      have h1 : (a :: b :: rest).reverse = rest.reverse ++ [b, a] := by simp
      have h2 : (b :: rest).reverse = rest.reverse ++ [b] := by simp
      rw [h1, edgeSum_snoc, ← h2, ih, term_swap]
      simp only [edgeSum]; ring

/-- shoelace: the edge sum is the cross sum plus a boundary term that vanishes for a closed polygon -/
theorem edgeSum_eq_crossSum (a : V2 K) (l : List (V2 K)) :
    edgeSum (a :: l) = crossSum (a :: l) + (((a :: l).getLast (by simp)).x * ((a :: l).getLast (by simp)).y - a.x * a.y) := by
  induction l generalizing a with
  | nil => simp [edgeSum, crossSum]
  | cons b rest ih =>
    have := ih b
    simp only [edgeSum, crossSum, term, List.getLast_cons_cons] at this ⊢
    rw [this]; ring

/-- for a closed polygon `p, …, p` the sign test is a test of the shoelace sum: `0 ≤ Σ (x_{i+1} y_i − x_i y_{i+1})` = minus twice the
    signed area, i.e. clockwise with y pointing up -/
theorem closed_edgeSum_eq_crossSum (p : V2 K) (ps : List (V2 K)) :
    edgeSum (p :: ps ++ [p]) = crossSum (p :: ps ++ [p]) := by
  have h := edgeSum_eq_crossSum p (ps ++ [p])
  simp only [List.cons_append] at h ⊢
  rw [h]
  have : (p :: (ps ++ [p])).getLast (by simp) = p := by
    rw [List.getLast_cons (by simp)]; simp
  rw [this]; ring

/-- the reversed sequence (same start vertex, the other way round) has the opposite sum -/
theorem closed_reverse (p : V2 K) (ps : List (V2 K)) :
    edgeSum (p :: ps.reverse ++ [p]) = - edgeSum (p :: ps ++ [p]) := by
  have h := edgeSum_reverse (p :: ps ++ [p])
  have hr : (p :: ps ++ [p]).reverse = p :: ps.reverse ++ [p] := by simp
  rw [hr] at h
  exact h

/-- the start vertex does not matter: starting the same closed polygon one vertex later gives the same sum (hence, by induction, any
    start vertex) -/
theorem closed_rotate (a b : V2 K) (rest : List (V2 K)) :
    edgeSum (b :: (rest ++ [a]) ++ [b]) = edgeSum (a :: (b :: rest) ++ [a]) := by
  have h := edgeSum_snoc (b :: rest) a b
  have e1 : b :: (rest ++ [a]) ++ [b] = (b :: rest) ++ [a, b] := by simp
  have e2 : a :: (b :: rest) ++ [a] = a :: ((b :: rest) ++ [a]) := by simp
  rw [e1, h, e2]
  simp only [List.cons_append, edgeSum]; ring

theorem clockwise_rotate (a b : V2 K) (rest : List (V2 K)) :
    points_are_clockwise (b :: (rest ++ [a])) = points_are_clockwise (a :: b :: rest) := by
  rw [points_are_clockwise_eq, points_are_clockwise_eq, closed_rotate]

/-- EXACTLY ONE DIRECTION IS CLOCKWISE unless the area is zero: what `from_path` relies on when it reverses a path for which the
    test fails -/
theorem one_direction_clockwise (p : V2 K) (ps : List (V2 K)) (harea : edgeSum (p :: ps ++ [p]) ≠ 0) :
    points_are_clockwise (p :: ps.reverse) = !points_are_clockwise (p :: ps) := by
  rw [points_are_clockwise_eq, points_are_clockwise_eq, closed_reverse]
  generalize edgeSum (p :: ps ++ [p]) = e at harea
  rcases lt_or_gt_of_ne harea with h | h
  · rw [decide_eq_true (neg_nonneg.2 h.le), decide_eq_false (not_le.2 h)]; rfl
  · rw [decide_eq_true h.le, decide_eq_false (not_le.2 (neg_neg_of_pos h))]; rfl

/-- non-vacuity: the unit square walked (0,0),(0,1),(1,1),(1,0) - up, right, down with y pointing up - is clockwise, its reversal
    is not -/
example : points_are_clockwise ([⟨0, 0⟩, ⟨0, 1⟩, ⟨1, 1⟩, ⟨1, 0⟩] : List (V2 ℚ)) = true ∧
    points_are_clockwise ([⟨0, 0⟩, ⟨1, 0⟩, ⟨1, 1⟩, ⟨0, 1⟩] : List (V2 ℚ)) = false := by
  decide +kernel

end C03Orient
