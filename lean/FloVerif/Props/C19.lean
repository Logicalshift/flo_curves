/-
C19  Arc length is bracketed by chord and control polygon.

Everything here is about definitions REGENERATED from the Rust source on every run: `Gen.section_length` /
`Gen.curve_length` (length.rs, the whole `while let Some((section, max_error)) = waiting.pop()` stack loop),
`Gen.section_new / section_subsection / section_start_point / section_control_points / section_end_point` (section.rs),
`Gen.chord_length`, `Gen.control_polygon_length`, `Gen.subdivide4`, `Gen.curve_reverse`.  No hand model.
The loop is an `iterFuel` over the state `(total_length, waiting)`; `LengthL.lengthStep` is its body and
`LengthL.section_length_eq` (proved by unfolding both sides against the generated text) says that `section_length` is
the total of that loop.  The invariant, the upper bound and the stack bounds hold FOR EVERY FUEL; the lower bound, the
recursion and reversal name the fuel they need.  Every tolerance, points of any real normed space (1-D, 2-D, 3-D alike),
exact real arithmetic.
-/
import FloVerif.Lemmas.Length
import Mathlib.Tactic.LinearCombination

set_option linter.unusedSectionVars false
namespace C19
open Prelude Gen LengthL

variable {E : Type} [NormedAddCommGroup E] [NormedSpace ℝ E]

theorem chord_le_polygon (c : T4 (Pt E) (Pt E) (Pt E) (Pt E)) :
    chord_length pdist c.t0 c.t1 c.t2 c.t3 ≤ control_polygon_length pdist c.t0 c.t1 c.t2 c.t3 := by
  exact (norm_sub_le_norm_sub_add_norm_sub c.t0.v c.t2.v c.t3.v).trans
    (add_le_add_left (norm_sub_le_norm_sub_add_norm_sub c.t0.v c.t1.v c.t2.v) _)

/-- ACCEPTED PIECE: the value `(2·chord + 2·polygon)/4` that the generated loop adds for an accepted section
    (`step_concat`) lies between the chord and the control polygon of that section - for EVERY section, valid or not -/
theorem piece_bracket (w1 w2 w3 w4 : Pt E) (s : SectionT ℝ) :
    chordOf pdist w1 w2 w3 w4 s ≤ estimateOf pdist w1 w2 w3 w4 s ∧
    estimateOf pdist w1 w2 w3 w4 s ≤ polyOf pdist w1 w2 w3 w4 s := by
  have h : chordOf pdist w1 w2 w3 w4 s ≤ polyOf pdist w1 w2 w3 w4 s := chord_le_polygon (secPts w1 w2 w3 w4 s)
  rw [estimateOf, lit2, lit4]
  exact ⟨by linear_combination h / 2, by linear_combination h / 2⟩

/-- non-vacuity: for the 1-D cubic 0, 3, −3, 0 the bracket is `[0, 12]`, the accepted estimate is 6 -/
example : chordOf pdist (⟨0⟩ : Pt ℝ) ⟨3⟩ ⟨-3⟩ ⟨0⟩ (section_new (0.0 : ℝ) (1.0 : ℝ)) = 0 ∧
    estimateOf pdist (⟨0⟩ : Pt ℝ) ⟨3⟩ ⟨-3⟩ ⟨0⟩ (section_new (0.0 : ℝ) (1.0 : ℝ)) = 6 ∧
    polyOf pdist (⟨0⟩ : Pt ℝ) ⟨3⟩ ⟨-3⟩ ⟨0⟩ (section_new (0.0 : ℝ) (1.0 : ℝ)) = 12 := by
  simp only [estimateOf, polyOf_whole, chordOf_whole, ex_poly, ex_chord]; norm_num

theorem lerp_dist {t : ℝ} (h0 : 0 ≤ t) (h1 : t ≤ 1) {p m q : Pt E} (hm : m = de_casteljau2 t p q) :
    pdist p m = t * pdist p q ∧ pdist m q = (1 - t) * pdist p q := by
  subst hm
  have e1 : p.v - ((1 - t) • p.v + t • q.v) = t • (p.v - q.v) := by module
  have e2 : (1 - t) • p.v + t • q.v - q.v = (1 - t) • (p.v - q.v) := by module
  simp only [pdist, de_casteljau2, add_v, mul_v, lit1, e1, e2, norm_smul, Real.norm_of_nonneg h0,
    Real.norm_of_nonneg (sub_nonneg.2 h1), and_self]

theorem lerp_lerp_dist {t : ℝ} (h0 : 0 ≤ t) (h1 : t ≤ 1) {p q r m n : Pt E} (hm : m = de_casteljau2 t p q)
    (hn : n = de_casteljau2 t q r) : pdist m n ≤ (1 - t) * pdist p q + t * pdist q r := by
  subst hm hn
  simp only [pdist, de_casteljau2, add_v, mul_v, lit1]
  rw [add_sub_add_comm, ← smul_sub, ← smul_sub]
  refine (norm_add_le _ _).trans_eq ?_
  rw [norm_smul, norm_smul, Real.norm_of_nonneg h0, Real.norm_of_nonneg (sub_nonneg.2 h1)]

/-- SUBDIVISION AT ANY `t ∈ [0, 1]` never lengthens the control polygon and never shortens the sum of the chords. In the
    de Casteljau triangle `m1 m2 m3 / n1 n2 / p` of `w1 … w4` every edge of the two new polygons is the `t`- or
    `(1 - t)`-fold of an edge, or at most a convex combination of two edges, of the level above; adding these up gives the
    polygon bound -/
theorem subdivide_shrink {t : ℝ} (h0 : 0 ≤ t) (h1 : t ≤ 1) {w1 w2 w3 w4 m1 m2 m3 n1 n2 p : Pt E}
    (hm1 : m1 = de_casteljau2 t w1 w2) (hm2 : m2 = de_casteljau2 t w2 w3)
    (hm3 : m3 = de_casteljau2 t w3 w4) (hn1 : n1 = de_casteljau2 t m1 m2)
    (hn2 : n2 = de_casteljau2 t m2 m3) (hp : p = de_casteljau2 t n1 n2) :
    control_polygon_length pdist w1 m1 n1 p + control_polygon_length pdist p n2 m3 w4
      ≤ control_polygon_length pdist w1 w2 w3 w4 ∧
    chord_length pdist w1 w2 w3 w4 ≤ chord_length pdist w1 m1 n1 p + chord_length pdist p n2 m3 w4 := by
  simp only [control_polygon_length, chord_length]
  exact ⟨by linear_combination (lerp_dist h0 h1 hm1).1 + (lerp_dist h0 h1 hm3).2 + lerp_lerp_dist h0 h1 hm1 hm2 +
      lerp_lerp_dist h0 h1 hm2 hm3 + (lerp_dist h0 h1 hn1).1 + (lerp_dist h0 h1 hn2).2 + lerp_lerp_dist h0 h1 hn1 hn2 +
      (lerp_dist h0 h1 hp).1 + (lerp_dist h0 h1 hp).2,
    norm_sub_le_norm_sub_add_norm_sub _ _ _⟩

/-- splitting four points at 1/2 with the generated `subdivide4` never lengthens the control polygon and never
    shortens the sum of the chords -/
theorem halves_shrink (c : T4 (Pt E) (Pt E) (Pt E) (Pt E)) :
    let h := subdivide4 (0.5 : ℝ) c.t0 c.t1 c.t2 c.t3
    control_polygon_length pdist h.t0.t0 h.t0.t1 h.t0.t2 h.t0.t3 + control_polygon_length pdist h.t1.t0 h.t1.t1 h.t1.t2 h.t1.t3
      ≤ control_polygon_length pdist c.t0 c.t1 c.t2 c.t3 ∧
    chord_length pdist c.t0 c.t1 c.t2 c.t3
      ≤ chord_length pdist h.t0.t0 h.t0.t1 h.t0.t2 h.t0.t3 + chord_length pdist h.t1.t0 h.t1.t1 h.t1.t2 h.t1.t3 :=
  subdivide_shrink (by norm_num) (by norm_num) rfl rfl rfl rfl rfl rfl

/-- SPLIT PIECE, as the loop does it: the points of the two sections pushed for a valid section are the de Casteljau
    halves of the section's points (`secPts_halves`); then `halves_shrink` -/
theorem section_halves_shrink (w1 w2 w3 w4 : Pt E) (s : SectionT ℝ) (h : Valid s) :
    polyOf pdist w1 w2 w3 w4 (section_subsection s (0.0 : ℝ) (0.5 : ℝ)) +
      polyOf pdist w1 w2 w3 w4 (section_subsection s (0.5 : ℝ) (1.0 : ℝ)) ≤ polyOf pdist w1 w2 w3 w4 s ∧
    chordOf pdist w1 w2 w3 w4 s ≤ chordOf pdist w1 w2 w3 w4 (section_subsection s (0.0 : ℝ) (0.5 : ℝ)) +
      chordOf pdist w1 w2 w3 w4 (section_subsection s (0.5 : ℝ) (1.0 : ℝ)) := by
  have hs := halves_shrink (secPts w1 w2 w3 w4 s)
  obtain ⟨hl, hr⟩ := secPts_halves w1 w2 w3 w4 s h
  simp only at hs hl hr
  rw [← hl, ← hr] at hs
  exact hs

/-- non-vacuity: the section `[0,1]` that `curve_length` starts with is valid, and so are its halves, and the loop does
    split it for the curve 0, 3, −3, 0 at tolerance 1 (`(12 − 0)² = 144 ≥ 1`) -/
example : Valid (section_new (0.0 : ℝ) (1.0 : ℝ)) ∧
    Valid (section_subsection (section_new (0.0 : ℝ) (1.0 : ℝ)) (0.5 : ℝ) (1.0 : ℝ)) ∧
    ¬ Accept pdist (⟨0⟩ : Pt ℝ) ⟨3⟩ ⟨-3⟩ ⟨0⟩ (section_new (0.0 : ℝ) (1.0 : ℝ)) 1 := by
  refine ⟨valid_whole, valid_right valid_whole, ?_⟩
  simp only [Accept, polyOf_whole, chordOf_whole, ex_poly, ex_chord]; norm_num

/-- LOOP INVARIANT of the generated loop: for every valid start section, every tolerance and EVERY FUEL, the state
    in which the loop ends - whichever way it ends - satisfies `LoopInv` -/
theorem loop_invariant (fuel : Nat) (w1 w2 w3 w4 : Pt E) (s0 : SectionT ℝ) (e : ℝ) (h : Valid s0) :
    LoopInv w1 w2 w3 w4 s0 (lengthLoop fuel pdist w1 w2 w3 w4 s0 e) := by
  refine lengthLoop_induction fuel pdist w1 w2 w3 w4 s0 e (LoopInv w1 w2 w3 w4 s0) ?_ ?_ ?_
  · exact ⟨fun x hx => List.mem_singleton.1 hx ▸ h, by simp [sumOn, lit0], by simp [sumOn, lit0], by simp [lit0]⟩
  all_goals
    intro total rest s e ⟨hv, hU, hL, h0⟩ hacc
    simp only [LoopInv, sumOn_concat] at hU hL ⊢
    have hvr : ∀ x ∈ rest, Valid x.t0 := fun x hx => hv x (List.mem_append_left _ hx)
    have hvs : Valid s := hv ⟨s, e⟩ (List.mem_append_right _ (List.mem_singleton_self _))
  · obtain ⟨hb1, hb2⟩ := piece_bracket w1 w2 w3 w4 s
    exact ⟨hvr, by linear_combination hU + hb2, by linear_combination hL + hb1,
      add_nonneg h0 ((chordOf_nonneg w1 w2 w3 w4 s).trans hb1)⟩
  · obtain ⟨hs1, hs2⟩ := section_halves_shrink w1 w2 w3 w4 s hvs
    refine ⟨fun x hx => ?_, by linear_combination hU + hs1, by linear_combination hL + hs2, h0⟩
    simp only [List.mem_append, List.mem_singleton] at hx
    rcases hx with (hx | rfl) | rfl
    exacts [hvr x hx, valid_left hvs, valid_right hvs]

/-- UPPER BOUND, EVEN OUT OF FUEL: for every valid section, tolerance and fuel,
    `0 ≤ section_length ≤ control polygon of the section` -/
theorem section_length_le_polygon (fuel : Nat) (w1 w2 w3 w4 : Pt E) (s : SectionT ℝ) (e : ℝ) (h : Valid s) :
    0 ≤ section_length fuel pdist w1 w2 w3 w4 s e ∧
    section_length fuel pdist w1 w2 w3 w4 s e ≤ polyOf pdist w1 w2 w3 w4 s := by
  rw [section_length_eq]
  obtain ⟨_, hU, _, h0⟩ := loop_invariant fuel w1 w2 w3 w4 s e h
  exact ⟨h0, (le_add_of_nonneg_right (sumOn_nonneg (polyOf_nonneg w1 w2 w3 w4) _)).trans hU⟩

/-- BRACKET WHEN THE STACK WAS EMPTIED: if the loop ended with an empty stack (i.e. not because the fuel ran out)
    then `chord ≤ section_length ≤ polygon` -/
theorem section_length_bracket (fuel : Nat) (w1 w2 w3 w4 : Pt E) (s : SectionT ℝ) (e : ℝ) (h : Valid s)
    (hdone : (lengthLoop fuel pdist w1 w2 w3 w4 s e).t1 = []) :
    chordOf pdist w1 w2 w3 w4 s ≤ section_length fuel pdist w1 w2 w3 w4 s e ∧
    section_length fuel pdist w1 w2 w3 w4 s e ≤ polyOf pdist w1 w2 w3 w4 s := by
  refine ⟨?_, (section_length_le_polygon fuel w1 w2 w3 w4 s e h).2⟩
  rw [section_length_eq]
  obtain ⟨_, _, hL, _⟩ := loop_invariant fuel w1 w2 w3 w4 s e h
  rw [hdone] at hL
  simpa [sumOn] using hL

/-- `curve_length` NEVER EXCEEDS THE CONTROL POLYGON: for every curve, every tolerance and every fuel (also when the
    fuel ran out) `0 ≤ curve_length ≤ control_polygon_length` -/
theorem curve_length_le_polygon (fuel : Nat) (w1 w2 w3 w4 : Pt E) (e : ℝ) :
    0 ≤ curve_length fuel pdist w1 w2 w3 w4 e ∧
    curve_length fuel pdist w1 w2 w3 w4 e ≤ control_polygon_length pdist w1 w2 w3 w4 := by
  have h := section_length_le_polygon fuel w1 w2 w3 w4 _ e valid_whole
  rw [polyOf_whole] at h
  exact h

/-- LENGTH BRACKET: if the loop of `curve_length` ended because its stack was empty then
    `chord_length ≤ curve_length ≤ control_polygon_length` -/
theorem curve_length_bracket (fuel : Nat) (w1 w2 w3 w4 : Pt E) (e : ℝ)
    (hdone : (lengthLoop fuel pdist w1 w2 w3 w4 (section_new (0.0 : ℝ) (1.0 : ℝ)) e).t1 = []) :
    chord_length pdist w1 w2 w3 w4 ≤ curve_length fuel pdist w1 w2 w3 w4 e ∧
    curve_length fuel pdist w1 w2 w3 w4 e ≤ control_polygon_length pdist w1 w2 w3 w4 := by
  have h := section_length_bracket fuel w1 w2 w3 w4 _ e valid_whole hdone
  rw [polyOf_whole, chordOf_whole] at h
  exact h

/-- non-vacuity of `hdone`, and the value: at tolerance 1000 the curve 0, 3, −3, 0 is accepted at once; the loop ends
    with an empty stack and `curve_length = 6 ∈ [0, 12]` -/
example : curve_length 5 pdist (⟨0⟩ : Pt ℝ) ⟨3⟩ ⟨-3⟩ ⟨0⟩ 1000 = 6 ∧
    (lengthLoop 5 pdist (⟨0⟩ : Pt ℝ) ⟨3⟩ ⟨-3⟩ ⟨0⟩ (section_new (0.0 : ℝ) (1.0 : ℝ)) 1000).t1 = [] := by
  have hacc : Accept pdist (⟨0⟩ : Pt ℝ) ⟨3⟩ ⟨-3⟩ ⟨0⟩ (section_new (0.0 : ℝ) (1.0 : ℝ)) 1000 := by
    left; simp only [polyOf_whole, chordOf_whole, ex_poly, ex_chord]; norm_num
  have hrun : lengthLoop 5 pdist (⟨0⟩ : Pt ℝ) ⟨3⟩ ⟨-3⟩ ⟨0⟩ (section_new (0.0 : ℝ) (1.0 : ℝ)) 1000 = T2.mk 6 [] := by
    refine (consumes_accept pdist _ _ _ _ hacc (0.0 : ℝ) [] 4).trans ?_
    rw [run_nil]
    simp only [estimateOf, polyOf_whole, chordOf_whole, ex_poly, ex_chord]
    norm_num
  constructor
  · show section_length 5 _ _ _ _ _ _ _ = 6
    rw [section_length_eq, hrun]
  · rw [hrun]

/-- the hypothesis `hdone` of the lower bound cannot be dropped: with fuel 0 the loop returns 0, below the chord 3 of
    the straight curve 0, 1, 2, 3 (the upper bound `curve_length_le_polygon` still holds) -/
example (e : ℝ) : curve_length 0 pdist (⟨0⟩ : Pt ℝ) ⟨1⟩ ⟨2⟩ ⟨3⟩ e = 0 ∧
    chord_length pdist (⟨0⟩ : Pt ℝ) ⟨1⟩ ⟨2⟩ ⟨3⟩ = 3 := by
  constructor
  · show section_length 0 _ _ _ _ _ _ _ = 0
    rw [section_length_eq]; simp [lengthLoop, iterFuel, lit0]
  · simp only [chord_length, pdist, Real.norm_eq_abs]; norm_num

section work
variable {P : Type} [Add P] [Sub P] [HMul P ℝ P]

/-- A STATED FUEL SUFFICES: if `max_error ≤ MIN_ERROR · 2^D` (i.e. `D ≥ log2(max_error / 1e-12)`) then `2^(D+1) − 1`
    iterations empty the stack: with at least that much fuel the generated loop ends because `waiting.pop()` returned
    `None`, never because the fuel ran out. For a non-positive tolerance `D = 0`: one iteration. (`LengthL.step_work`:
    a potential that starts at `2^(lvl e + 1) − 1` and falls in every iteration gives the same bound.) -/
theorem fuel_suffices (fuel D : Nat) (dist : P → P → ℝ) (w1 w2 w3 w4 : P) (s : SectionT ℝ) (e : ℝ)
    (hD : e ≤ (1e-12 : ℝ) * 2 ^ D) (hf : 2 ^ (D + 1) - 1 ≤ fuel) :
    (lengthLoop fuel dist w1 w2 w3 w4 s e).t1 = [] := by
  rw [lengthLoop_eq_rec fuel D dist w1 w2 w3 w4 s e hD hf]

/-- FUEL INDEPENDENCE: any fuel `≥ 2^(D+1) − 1` gives the very same final state (total and empty stack), so the
    result of `section_length` does not depend on the fuel beyond that number -/
theorem fuel_independent (fuel D : Nat) (dist : P → P → ℝ) (w1 w2 w3 w4 : P) (s : SectionT ℝ) (e : ℝ)
    (hD : e ≤ (1e-12 : ℝ) * 2 ^ D) (hf : 2 ^ (D + 1) - 1 ≤ fuel) :
    lengthLoop fuel dist w1 w2 w3 w4 s e = lengthLoop (2 ^ (D + 1) - 1) dist w1 w2 w3 w4 s e ∧
    section_length fuel dist w1 w2 w3 w4 s e = section_length (2 ^ (D + 1) - 1) dist w1 w2 w3 w4 s e := by
  have h := lengthLoop_eq_rec (dist := dist) (w1 := w1) (w2 := w2) (w3 := w3) (w4 := w4) (s := s) (hD := hD)
  exact ⟨by rw [h fuel hf, h _ le_rfl], by rw [section_length_eq, section_length_eq, h fuel hf, h _ le_rfl]⟩

/-- STACK SHAPE: at every moment (= for every fuel) the piece at height `i` of the stack sits at some depth `d` with
    `i ≤ d ≤ D` (`e ≤ 1e-12 · 2^D`): its tolerance is exactly `max_error / 2^d` and its parameter width exactly
    `t_m / 2^d`. A split replaces the top piece, at height `k` and depth `d < D`, by its halves at heights `k`, `k + 1` and
    depth `d + 1`. -/
theorem stack_shape (fuel D : Nat) (dist : P → P → ℝ) (w1 w2 w3 w4 : P) (s : SectionT ℝ) (e : ℝ)
    (hD : e ≤ (1e-12 : ℝ) * 2 ^ D) :
    ∀ p ∈ (lengthLoop fuel dist w1 w2 w3 w4 s e).t1.zipIdx,
      ∃ d : Nat, p.2 ≤ d ∧ d ≤ D ∧ p.1.t1 = e / 2 ^ d ∧ p.1.t0.t_m = s.t_m / 2 ^ d := by
  refine lengthLoop_induction fuel dist w1 w2 w3 w4 s e (fun st => ∀ p ∈ st.t1.zipIdx,
    ∃ d : Nat, p.2 ≤ d ∧ d ≤ D ∧ p.1.t1 = e / 2 ^ d ∧ p.1.t0.t_m = s.t_m / 2 ^ d) ?_ ?_ ?_
  · intro p hp
    rw [List.mem_singleton.1 hp]
    exact ⟨0, le_rfl, Nat.zero_le _, by simp, by simp⟩
  · exact fun total rest s1 e1 hI _ p hp => hI p (by rw [List.zipIdx_append]; exact List.mem_append_left _ hp)
  · intro total rest s1 e1 hI hacc
    obtain ⟨d, hid, hd, he1, hm1⟩ := hI (⟨s1, e1⟩, rest.length) (by simp [List.zipIdx_append])
    simp only at hid he1 hm1
    -- a piece at depth `D` has tolerance `≤ 1e-12` and is accepted, so the split piece is above depth `D`
    have hdD : d < D := by
      refine lt_of_le_of_ne hd fun hdd => hacc (Or.inr ?_)
      rw [he1, hdd, div_le_iff₀ (by positivity)]
      exact hD
    have hchild : ∀ (t : SectionT ℝ) (i : Nat), i ≤ rest.length + 1 → t.t_m = s1.t_m / 2 →
        ∃ d' : Nat, i ≤ d' ∧ d' ≤ D ∧ e1 / (2.0 : ℝ) = e / 2 ^ d' ∧ t.t_m = s.t_m / 2 ^ d' := fun t i hi ht =>
      ⟨d + 1, by omega, hdD, by rw [he1, lit2, pow_succ, div_div], by rw [ht, hm1, pow_succ, div_div]⟩
    intro p hp
    simp only [List.zipIdx_append, List.mem_append, List.zipIdx_cons, List.zipIdx_nil, List.mem_singleton,
      List.length_append, List.length_cons, List.length_nil, Nat.zero_add] at hp
    rcases hp with (hp | rfl) | rfl
    · exact hI p (by rw [List.zipIdx_append]; exact List.mem_append_left _ hp)
    · exact hchild _ _ (Nat.le_succ _) (by rw [sub_left_eq])
    · exact hchild _ _ le_rfl (by rw [sub_right_eq])

/-- DEPTH BOUND: at every moment (= for every fuel) every piece on the stack is at some depth `d ≤ D`: its tolerance
    is exactly `max_error / 2^d` and its parameter width exactly `t_m / 2^d`. So the recursion never goes deeper than
    `D = ⌈log2(max_error / 1e-12)⌉` levels, whatever the curve and the distance function do. -/
theorem depth_bound (fuel D : Nat) (dist : P → P → ℝ) (w1 w2 w3 w4 : P) (s : SectionT ℝ) (e : ℝ)
    (hD : e ≤ (1e-12 : ℝ) * 2 ^ D) :
    ∀ x ∈ (lengthLoop fuel dist w1 w2 w3 w4 s e).t1,
      ∃ d : Nat, d ≤ D ∧ x.t1 = e / 2 ^ d ∧ x.t0.t_m = s.t_m / 2 ^ d := by
  intro x hx
  obtain ⟨i, hi, rfl⟩ := List.getElem_of_mem hx
  obtain ⟨d, _, h⟩ := stack_shape fuel D dist w1 w2 w3 w4 s e hD (_, i)
    (List.mem_zipIdx_iff_getElem?.2 (List.getElem?_eq_getElem hi))
  exact ⟨d, h⟩

/-- STACK BOUND: at every moment (= for every fuel) the stack holds at most `D + 1` pieces (`e ≤ 1e-12 · 2^D`): the
    top piece, at height `length − 1`, is at a depth between its height and `D` (`stack_shape`). So the `Vec` never
    grows beyond 35 / 28 / 15 entries for `e = 1e-2 / 1e-4 / 1e-8`, whatever the curve. -/
theorem stack_bound (fuel D : Nat) (dist : P → P → ℝ) (w1 w2 w3 w4 : P) (s : SectionT ℝ) (e : ℝ)
    (hD : e ≤ (1e-12 : ℝ) * 2 ^ D) :
    (lengthLoop fuel dist w1 w2 w3 w4 s e).t1.length ≤ D + 1 := by
  have h := stack_shape fuel D dist w1 w2 w3 w4 s e hD
  rcases List.eq_nil_or_concat (lengthLoop fuel dist w1 w2 w3 w4 s e).t1 with h0 | ⟨rest, x, h1⟩
  · rw [h0]; exact Nat.zero_le _
  · rw [h1, List.concat_eq_append] at h ⊢
    obtain ⟨d, hid, hd, _⟩ := h (x, rest.length) (by simp [List.zipIdx_append])
    rw [List.length_append, List.length_singleton]
    exact Nat.succ_le_succ (hid.trans hd)

/-- THE STACK LOOP IS THE RECURSION (any point type, any distance function): with `e ≤ 1e-12 · 2^D` and fuel
    `≥ 2^(D+1) − 1` the generated `section_length` returns exactly the recursive sum `recLen D s e` - accept the piece
    and take `(2·chord + 2·polygon)/4`, or add the two halves at half the tolerance (Graphics Gems V IV.7);
    `loop_runs_rec`: a piece on top of the stack is consumed in at most `2^(n+1) − 1` iterations, leaves the rest of the
    stack untouched and adds exactly its recursive sum. -/
theorem loop_is_recursion (fuel D : Nat) (dist : P → P → ℝ) (w1 w2 w3 w4 : P) (s : SectionT ℝ) (e : ℝ)
    (hD : e ≤ (1e-12 : ℝ) * 2 ^ D) (hf : 2 ^ (D + 1) - 1 ≤ fuel) :
    section_length fuel dist w1 w2 w3 w4 s e = recLen dist w1 w2 w3 w4 D s e := by
  rw [section_length_eq, lengthLoop_eq_rec fuel D dist w1 w2 w3 w4 s e hD hf]

end work

/-- BRACKET WITH A STATED FUEL: for every curve and every tolerance `e ≤ 1e-12 · 2^D`, any fuel `≥ 2^(D+1) − 1` gives
    `chord_length ≤ curve_length ≤ control_polygon_length` (and the same value as any other such fuel) -/
theorem curve_length_bracket_of_fuel (fuel D : Nat) (w1 w2 w3 w4 : Pt E) (e : ℝ)
    (hD : e ≤ (1e-12 : ℝ) * 2 ^ D) (hf : 2 ^ (D + 1) - 1 ≤ fuel) :
    chord_length pdist w1 w2 w3 w4 ≤ curve_length fuel pdist w1 w2 w3 w4 e ∧
    curve_length fuel pdist w1 w2 w3 w4 e ≤ control_polygon_length pdist w1 w2 w3 w4 :=
  curve_length_bracket fuel w1 w2 w3 w4 e (fuel_suffices fuel D pdist w1 w2 w3 w4 _ e hD hf)

/-- the tolerances of the property: `1e-2`, `1e-4`, `1e-8` are below `1e-12 · 2^34`, `2^27`, `2^14`: depth at most
    34 / 27 / 14, at most 35 / 28 / 15 stack entries and at most `2^35 − 1` / `2^28 − 1` / `2^15 − 1` iterations -/
example : (1e-2 : ℝ) ≤ 1e-12 * 2 ^ 34 ∧ (1e-4 : ℝ) ≤ 1e-12 * 2 ^ 27 ∧ (1e-8 : ℝ) ≤ 1e-12 * 2 ^ 14 := by
  norm_num

/-- reversing a curve leaves its chord and its control polygon unchanged -/
theorem reverse_invariants (c : T4 (Pt E) (Pt E) (Pt E) (Pt E)) :
    let r := curve_reverse c.t0 c.t1 c.t2 c.t3
    chord_length pdist r.t0 r.t1 r.t2 r.t3 = chord_length pdist c.t0 c.t1 c.t2 c.t3 ∧
    control_polygon_length pdist r.t0 r.t1 r.t2 r.t3 = control_polygon_length pdist c.t0 c.t1 c.t2 c.t3 :=
  ⟨chord_rev _ _ _ _, polygon_rev _ _ _ _⟩

/-- every section of the reversed curve has the length of the mirrored section of the curve: same chord and polygon,
    so the same pieces are accepted and the two halves just swap -/
theorem section_length_reverse (fuel D : Nat) (w1 w2 w3 w4 : Pt E) (s : SectionT ℝ) (e : ℝ) (hs : Inner s)
    (hD : e ≤ (1e-12 : ℝ) * 2 ^ D) (hf : 2 ^ (D + 1) - 1 ≤ fuel) :
    section_length fuel pdist w4 w3 w2 w1 s e = section_length fuel pdist w1 w2 w3 w4 (mirror s) e := by
  rw [loop_is_recursion fuel D pdist w4 w3 w2 w1 s e hD hf, loop_is_recursion fuel D pdist w1 w2 w3 w4 _ e hD hf,
    recLen_reverse w1 w2 w3 w4 D s e hs]

/-- REVERSAL INVARIANCE OF THE LENGTH (exact arithmetic): with fuel `≥ 2^(D+1) − 1` (`e ≤ 1e-12 · 2^D`)
    `curve_length` of the reversed curve equals `curve_length` of the curve. The fuel bound is needed: the two runs empty
    their stacks in mirrored order, so a run cut short has added up different pieces. -/
theorem curve_length_reverse (fuel D : Nat) (w1 w2 w3 w4 : Pt E) (e : ℝ)
    (hD : e ≤ (1e-12 : ℝ) * 2 ^ D) (hf : 2 ^ (D + 1) - 1 ≤ fuel) :
    let r := curve_reverse w1 w2 w3 w4
    curve_length fuel pdist r.t0 r.t1 r.t2 r.t3 e = curve_length fuel pdist w1 w2 w3 w4 e := by
  simp only [curve_reverse, curve_length]
  rw [section_length_reverse fuel D w1 w2 w3 w4 _ e inner_whole hD hf, mirror_whole]

end C19
