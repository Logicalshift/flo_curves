/-
C17 (rounding part)  `SampledContour::rounded_intercepts_on_line` turns the fractional intercepts of a scanline into
exactly the maximal runs of inside samples - the fourth mechanism of the property (sampled_contour.rs:81-101
`rounded_intercepts_on_line`, :117-131 `merge_overlapping_intercepts`) - and with it the scan and trace theorems hold for
ANY contour given by intercepts (`ScaledContour`, path contours, user implementations of the public trait), not only
for bitmaps.  Also: the index `point_is_inside` computes for the two bitmap types is the row-major index.

  `roundFrac`, `ceilRuns`, `ceilUsize`, `mergeRuns`  literal hand models (`Model/Contour.lean`), compared with the real
      `rounded_intercepts_on_line` on fractional inputs (touching, empty, negative, outside the contract) by the driver
  `covers l x`      sample `x` is inside: `start ≤ x < end` for one of the ranges (`contour_point_is_inside`)
  `sampleRow w l`   the row of `w` samples the intercepts stand for
  `Ascending l`     the documented contract of `intercepts_on_line`: s₀ ≤ e₀ ≤ s₁ ≤ e₁ ≤ …  (any length)
  `inR runs x`      sample `x` lies in one of the integer runs `[start, end)`
  `Good w 0 runs`   runs non-empty, inside `[0, w]`, each starting strictly after the end of the one before
  `Gen.u8_point_index`, `Gen.bool_point_index`  regenerated from `point_is_inside` on every check
Intercepts are exact rationals (every finite binary64 number is one; `ceil` and `as usize` are exact below 2^64).
-/
import FloVerif.Lemmas.Round
import FloVerif.Props.C17
import FloVerif.Props.C17All

namespace C17Round
open Prelude Gen Model.Contour ScanLemmas RoundLemmas

/-- ROUNDING IS SAMPLING: an integer sample position lies in the rounded range `[⌈s⌉, ⌈e⌉)` exactly when it lies
    in the real range `[s, e)`.  Holds for negative bounds too, because `as usize` saturates at 0 and sample positions
    are never negative. -/
theorem ceil_is_sampling (s e : Rat) (x : Nat) :
    (ceilUsize s ≤ x ∧ x < ceilUsize e) ↔ (s ≤ (x : Rat) ∧ (x : Rat) < e) := by
  rw [ceilUsize_le, lt_ceilUsize]

example : ceilUsize (17 / 10) = 2 ∧ ceilUsize (26 / 10) = 3 ∧ ceilUsize (-1 / 2) = 0 ∧ ceilUsize 4 = 4 := by decide +kernel

/-- ROUNDING KEEPS THE ORDER: for intercepts that respect the contract, the rounded ranges (empty ones dropped) are
    non-empty and still ascending with `eᵢ ≤ sᵢ₊₁`; in particular a later range never starts or ends before the end of
    an earlier one - the fact that makes the assignment `intercepts[idx].end = intercepts[idx+1].end` in
    `merge_overlapping_intercepts` correct. They may now TOUCH (`eᵢ = sᵢ₊₁`), which is why merging is needed. -/
theorem ceilRuns_ascending (l : List FRange) (h : Ascending l) :
    AscN (ceilRuns l) ∧ (∀ r ∈ ceilRuns l, r.1 < r.2) ∧ (ceilRuns l).Pairwise (fun a b => a.2 ≤ b.1 ∧ a.2 ≤ b.2) := by
  have h1 := ceilRuns_ascN h
  exact ⟨h1, ceilRuns_lt h, h1.pairwise⟩

/-- non-vacuity: two ranges inside neighbouring pixel gaps round to touching runs; a range inside one gap disappears -/
example : Ascending [(0, 3/2), (17/10, 26/10), (27/10, 29/10), (4, 5)] ∧
    ceilRuns [(0, 3/2), (17/10, 26/10), (27/10, 29/10), (4, 5)] = [(0, 2), (2, 3), (4, 5)] := by decide +kernel

/-- THE CONTRACT IS NEEDED (documented-precondition finding): on nested ranges - sorted by start, none empty, but
    the second ends before the first - `merge_overlapping_intercepts` overwrites the longer end with the shorter one and
    samples are LOST: `[0,10)` and `[2,3)` become `[0,3)`, so sample 5 is inside the contour according to
    `contour_point_is_inside` but outside according to the scan. -/
theorem mergeRuns_nested_loses_coverage :
    ∃ (l : List Run) (x : Nat), l.Pairwise (fun a b => a.1 ≤ b.1) ∧ (∀ r ∈ l, r.1 < r.2) ∧
      inR l x = true ∧ inR (mergeRuns l) x = false :=
  ⟨[(0, 10), (2, 3)], 5, by decide, by decide, by decide, by decide +kernel⟩

/-- the same at the level of the intercepts handed to `rounded_intercepts_on_line` -/
theorem roundFrac_nested_loses_coverage :
    ∃ (l : List FRange) (x : Nat), covers l x = true ∧ inR (roundFrac l) x = false :=
  ⟨[(0, 10), (2, 3)], 5, by decide +kernel, by decide +kernel⟩

/-- MERGING PRESERVES THE SAMPLE SET: a sample is covered by `merge_overlapping_intercepts(l)` iff it is covered by
    `l`, for every list whose starts and ends are both non-decreasing and whose runs are not inverted (`Stair`: touching
    and even overlapping runs are fine, nested ones are not, see `mergeRuns_nested_loses_coverage`). -/
theorem mergeRuns_preserves_samples (l : List Run) (h : Stair l) (x : Nat) : inR (mergeRuns l) x = inR l x :=
  mergeRuns_inR l h x

example : Stair [(0, 2), (2, 3), (3, 6), (5, 8), (9, 9)] ∧
    mergeRuns [(0, 2), (2, 3), (3, 6), (5, 8), (9, 9)] = [(0, 8), (9, 9)] := by decide +kernel

/-- the whole rounding stage preserves the sample set: for intercepts that respect the contract, sample `x` lies in
    one of the runs returned by `rounded_intercepts_on_line` iff it lies in one of the real ranges -/
theorem roundFrac_samples (l : List FRange) (h : Ascending l) (x : Nat) : inR (roundFrac l) x = covers l x :=
  inR_roundFrac h x

/-- the result is well formed for the scan: non-empty runs inside `[0, w]` (when no intercept ends beyond the
    contour's width), each starting STRICTLY after the end of the one before (no touching pair is left) -/
theorem roundFrac_good (l : List FRange) (h : Ascending l) (w : Nat) (hw : ∀ q ∈ l, q.2 ≤ (w : Rat)) :
    Good w 0 (roundFrac l) ∧ C17.Separated (roundFrac l) := by
  refine ⟨RoundLemmas.roundFrac_good h hw, ?_⟩
  rw [roundFrac_eq_merge]
  refine (C17.mergeRuns_separated _ ?_).1
  exact (ceilRuns_ascending l h).2.2.imp_of_mem (fun {a b} _ hb hab => by
    have := (ceilRuns_ascending l h).2.1 b hb
    have := (ceilRuns_ascending l h).2.1 a ‹_›
    omega)

/-- hence `rounded_intercepts_on_line` returns exactly the maximal runs of inside samples of the line: it equals
    the run-length encoding (`rowRuns`, the model of `BoolSampledContour::intercepts_on_line`) of the sampled row, and
    what the bitmap contour would have been rounded to -/
theorem roundFrac_eq_rle (l : List FRange) (h : Ascending l) (w : Nat) (hw : ∀ q ∈ l, q.2 ≤ (w : Rat)) :
    roundFrac l = rowRuns (sampleRow w l) ∧ roundFrac l = roundedRuns (sampleRow w l) := by
  have := roundFrac_eq_roundedRuns h hw
  exact ⟨by rw [this, roundedRuns_eq], this⟩

/-- non-vacuity: the row of the seeded-change demonstration, `###.#..#.` -/
example : roundFrac [(0, 3/2), (17/10, 26/10), (4, 5), (7, 8)] = [(0, 3), (4, 5), (7, 8)] ∧
    sampleRow 9 [(0, 3/2), (17/10, 26/10), (4, 5), (7, 8)] = [true, true, true, false, true, false, false, true, false] ∧
    rowRuns [true, true, true, false, true, false, false, true, false] = [(0, 3), (4, 5), (7, 8)] := by decide +kernel

/-- THE SCAN THEOREM FOR ANY CONTOUR GIVEN BY INTERCEPTS: if every line's intercepts respect the contract and end
    inside the contour's width, the iterator model run on the rounded intercepts yields exactly the mixed 2×2 cells of
    the SAMPLED bitmap (sample (x, y) inside iff `start ≤ x < end` for a range of line y), with the correct corner bits,
    in scanline order.  By `roundFrac_samples` and `roundFrac_good` the rounded intercepts are well-formed run lists that
    encode the sampled rows, so this is an instance of `C17Scan.scan_encoded_spec`. -/
theorem frac_scan_spec (w : Nat) (lines : List (List FRange)) (hasc : ∀ l ∈ lines, Ascending l)
    (hw : ∀ l ∈ lines, ∀ q ∈ l, q.2 ≤ (w : Rat)) :
    edgeCellsFrac w lines = mixedCells w (lines.map (sampleRow w)) := by
  refine C17Scan.scan_encoded_spec w _ _ (fun r hr => ?_) (List.forall₂_map_left_iff.2 (List.forall₂_map_right_iff.2
    (List.forall₂_same.2 fun l hl => encodes_roundFrac (hasc l hl) (hw l hl))))
  obtain ⟨l, hl, rfl⟩ := List.mem_map.1 hr
  exact RoundLemmas.roundFrac_good (hasc l hl) (hw l hl)

/-- END TO END for any contour given by intercepts: the model of `trace_contours_from_samples` does not panic and
    returns closed loops (first element repeated last) of edges joined inside one mixed cell that together use every
    edge between an inside and an outside sample of the sampled bitmap exactly once -/
theorem frac_trace_contours_spec (w : Nat) (lines : List (List FRange)) (hasc : ∀ l ∈ lines, Ascending l)
    (hw : ∀ l ∈ lines, ∀ q ∈ l, q.2 ≤ (w : Rat)) :
    ∃ loops, traceContoursFrac w lines = some loops ∧
      (∀ l ∈ loops, 2 ≤ l.length ∧ l.head? = l.getLast? ∧
        l.IsChain (C17Trace.Joined w (mixedCells w (lines.map (sampleRow w))))) ∧
      (loops.flatMap (·.dropLast)).Perm (boundaryEdges w (lines.map (sampleRow w))) := by
  simp only [traceContoursFrac]
  rw [frac_scan_spec w lines hasc hw]
  exact C17Trace.trace_loops w _ (length_of_mem_rows covers)

/-- non-vacuity: the striped bitmap scaled by one half (`ScaledContour`): four touching half-pixel ranges are one block -/
example : edgeCellsFrac 4 [[(0, 1/2), (1, 3/2), (2, 5/2), (3, 7/2)]] = mixedCells 4 [[true, true, true, true]] ∧
    traceContoursFrac 4 [[(0, 1/2), (1, 3/2), (2, 5/2), (3, 7/2)]] = some [[11, 2, 4, 6, 8, 19, 18, 16, 14, 12, 11]] := by
  decide +kernel

/-- the index that `U8SampledContour::point_is_inside` and `BoolSampledContour::point_is_inside` compute (regenerated
    from the source on every check) is the row-major index `x + y * width`; for a position inside the contour it is a
    valid index of a vector of `width * height` samples, and distinct positions have distinct indices -/
theorem u8_index_row_major (w h x y : Nat) :
    u8_point_index w h x y = x + y * w ∧ bool_point_index w h x y = x + y * w ∧
    (x < w → y < h → u8_point_index w h x y < w * h) ∧
    (∀ x' y', x < w → x' < w → u8_point_index w h x y = u8_point_index w h x' y' → x = x' ∧ y = y') := by
  refine ⟨rfl, rfl, ?_, ?_⟩
  · intro hx hy
    show x + y * w < w * h
    calc x + y * w < w + y * w := by omega
      _ = (y + 1) * w := by ring
      _ ≤ h * w := Nat.mul_le_mul_right _ hy
      _ = w * h := Nat.mul_comm _ _
  · intro x' y' hx hx' he
    change x + y * w = x' + y' * w at he
    rw [Nat.add_comm, Nat.mul_comm, Nat.add_comm x', Nat.mul_comm y'] at he
    exact C17.row_index_inj hx hx' he

example : u8_point_index 5 3 4 2 = 14 ∧ u8_point_index 5 3 0 1 = 5 := by decide

/-- so the rows that `intercepts_on_line` reads out of the sample vector of a u8 / bool contour are the rows of the
    row-major bitmap (`h` rows of `w` samples, sample (x, y) = `v[x + y*w] != 0` resp. `v[x + y*w]`), and `scan_spec`
    holds for them: the cells reported for a `U8SampledContour` / `BoolSampledContour` of ANY size, square or
    not, are the mixed cells of that bitmap -/
theorem bitmap_rows_spec (w h : Nat) (v : List Nat) (b : List Bool) :
    (u8Rows w h v).length = h ∧ (boolRows w h b).length = h ∧
    (∀ x y, x < w → y < h → ((u8Rows w h v).getD y []).getD x false = (v.getD (x + y * w) 0 != 0) ∧
                            ((boolRows w h b).getD y []).getD x false = b.getD (x + y * w) false) ∧
    edgeCells w (u8Rows w h v) = mixedCells w (u8Rows w h v) ∧
    edgeCells w (boolRows w h b) = mixedCells w (boolRows w h b) := by
  refine ⟨by simp [u8Rows], by simp [boolRows], ?_, ?_, ?_⟩
  · intro x y hx hy
    unfold u8Rows boolRows
    rw [getD_range_map _ _ _ hy, getD_range_map _ _ _ hy, getD_range_map _ _ _ hx, getD_range_map _ _ _ hx]
    exact ⟨rfl, rfl⟩
  · exact C17Scan.scan_spec w _ (length_of_mem_rows _)
  · exact C17Scan.scan_spec w _ (length_of_mem_rows _)

/-- non-vacuity: the 5×3 bitmap of the seeded-change demonstration (a bar at the top left, one pixel at the bottom right) -/
example : u8Rows 5 3 [1, 1, 0, 0, 0, 0, 0, 0, 0, 0, 0, 0, 0, 0, 255] =
    [[true, true, false, false, false], [false, false, false, false, false], [false, false, false, false, true]] := by
  decide

end C17Round
