/-
C11  Derived two-operand path operations agree with the basic ones — the decision logic.

`path_cut` / `path_full_intersect` run the classification machine of C01 with the intersect and the subtract
predicate (after `reset_edge_kinds`); `path_add_chain` runs it with the chain predicate; `path_combine` is a
recursion over the expression tree.  The predicates are the generated `Gen.pred_*` (theorems in Props/C01.lean);
the machine and `path_combine` are hand models (`Model.RayCast`), the machine tied to the code by the H2 traces of
both classification passes.
-/
import FloVerif.Props.C01

namespace C11
open Prelude Gen Model.RayCast

variable {PathT : Type}

mutual
/-- denotation of an expression tree at one probe point, given membership `mem` of the leaves and `nz` of the leaves under the
    non-zero rule (what `removeInterior` leaves): Add = ⋃, Subtract [a, b, …] = a ∖ b ∖ …, Intersect = ⋂, empty operand lists = ∅ -/
def denote (mem nz : List PathT → Bool) : Combine PathT → Bool
  | .path p => mem p
  | .removeInterior p => nz p
  | .add ops => (denoteList mem nz ops).any id
  | .subtract ops => match denoteList mem nz ops with
    | [] => false
    | a :: rest => a && rest.all (fun b => !b)
  | .intersect ops => match denoteList mem nz ops with
    | [] => false
    | a :: rest => a && rest.all id
def denoteList (mem nz : List PathT → Bool) : List (Combine PathT) → List Bool
  | [] => []
  | c :: cs => denote mem nz c :: denoteList mem nz cs
end

/-- the membership contract of the operations `path_combine` is built from (C01, C12 for one probe point) -/
structure Contract (o : Ops PathT) (mem nz : List PathT → Bool) : Prop where
  empty : mem [] = false
  removeInterior : ∀ p, mem (o.removeInterior p) = nz p
  addChain : ∀ ls, mem (o.addChain ls) = ls.any mem
  sub : ∀ a b, mem (o.sub a b) = (mem a && !mem b)
  intersect : ∀ a b, mem (o.intersect a b) = (mem a && mem b)

private theorem foldl_op (mem : List PathT → Bool) (op : List PathT → List PathT → List PathT) (g : Bool → Bool)
    (hop : ∀ a b, mem (op a b) = (mem a && g (mem b))) (r : List PathT) (rest : List (List PathT)) :
    mem (rest.foldl op r) = (mem r && (rest.map mem).all g) := by
  induction rest generalizing r with
  | nil => simp
  | cons x xs ih => simp only [List.foldl_cons, ih, hop, List.map_cons, List.all_cons, Bool.and_assoc]

mutual
/-- COMBINE DENOTES: for every expression tree, membership in `path_combine e` is the denotation of `e` -/
theorem combine_denotes (o : Ops PathT) (mem nz : List PathT → Bool) (h : Contract o mem nz) :
    ∀ e : Combine PathT, mem (combine o e) = denote mem nz e
  | .path p => by simp [combine, denote]
  | .removeInterior p => by simp [combine, denote, h.removeInterior]
  | .add ops => by
    simp only [combine, denote, h.addChain]
    rw [← combineList_denotes o mem nz h ops]
    simp [List.any_map]
  | .subtract ops => by
    simp only [combine, denote]
    rw [← combineList_denotes o mem nz h ops]
    cases hc : combineList o ops with
    | nil => simp [h.empty]
    | cons r rest => simp [foldl_op mem o.sub (fun b => !b) h.sub]
  | .intersect ops => by
    simp only [combine, denote]
    rw [← combineList_denotes o mem nz h ops]
    cases hc : combineList o ops with
    | nil => simp [h.empty]
    | cons r rest => simp [foldl_op mem o.intersect id h.intersect]
theorem combineList_denotes (o : Ops PathT) (mem nz : List PathT → Bool) (h : Contract o mem nz) :
    ∀ es : List (Combine PathT), (combineList o es).map mem = denoteList mem nz es
  | [] => by simp [combineList, denoteList]
  | c :: cs => by simp [combineList, denoteList, combine_denotes o mem nz h c, combineList_denotes o mem nz h cs]
end

/-- cut and full-intersect: the two classification passes use the intersect and the subtract predicate, so by
    `C01.pred_spec` the interior piece is A ∩ B and the exterior piece A ∖ B (B ∖ A on the swapped graph) -/
theorem cut_predicates (a b : Int) :
    pred_intersect [a, b] = (decide (a % 2 = 1) && decide (b % 2 = 1)) ∧
    pred_sub [a, b] = (decide (a % 2 = 1) && !decide (b % 2 = 1)) ∧
    pred_sub [b, a] = (decide (b % 2 = 1) && !decide (a % 2 = 1)) :=
  ⟨(C01.pred_spec a b).2.2.1, (C01.pred_spec a b).2.1, (C01.pred_spec b a).2.1⟩

/-- chain: with one label per operand the any-odd predicate is the union -/
theorem chain_spec (cs : List Int) : pred_chain cs = cs.any (fun c => decide (c % 2 = 1)) := C01.pred_chain_spec cs

/-! Non-vacuity: (A + B) − C at a probe inside A only is inside. -/
example : denote (PathT := Nat) (fun p => p == [1]) (fun _ => false)
    (.subtract [.add [.path [1], .path [2]], .path [3]]) = true := by decide

end C11
