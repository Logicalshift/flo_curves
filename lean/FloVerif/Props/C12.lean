/-
C12  Self-overlap clean-up implements the non-zero and even-odd fill rules — the decision logic.

`path_remove_interior_points` runs the classification machine of C01 with the non-zero predicate,
`path_remove_overlapped_points` with the add (odd) predicate; every sub-path carries label 0, so the single
counter is the signed crossing number of the ray, the winding number contribution.
-/
import FloVerif.Props.C01

namespace C12
open Prelude Gen Model.RayCast

/-- with the second counter 0 the non-zero predicate says "winding count ≠ 0" and the add predicate says "count odd" -/
theorem single_label_predicates (c : Int) :
    pred_remove_interior [c, 0] = decide (c ≠ 0) ∧ pred_add [c, 0] = decide (c % 2 = 1) := by
  obtain ⟨h1, _, _, h4⟩ := C01.pred_spec c 0
  rw [h1, h4]
  simp

/-- the sign a crossing contributes -/
def sgn (h : Hit) : Int := if h.side < 0 then -1 else if h.side > 0 then 1 else 0

/-- the counter of label `l` after a list of crossings is the initial value plus the signed number of crossings
    of edges with that label: the winding-number contribution of the ray -/
theorem counter_is_signed_sum (hits : List Hit) (cs : List Int) (l : Nat) :
    (hits.foldl bump cs).getD l 0 = cs.getD l 0 + ((hits.filter (fun h => h.label == l)).map sgn).sum := by
  induction hits generalizing cs with
  | nil => simp
  | cons h hs ih =>
    rw [List.foldl_cons, ih, C01.bump_spec]
    by_cases hl : l = h.label
    · subst hl
      simp only [List.filter_cons, beq_self_eq_true, if_true, List.map_cons, List.sum_cons, sgn]
      ring
    · have : (h.label == l) = false := by simp [Ne.symm hl]
      simp only [List.filter_cons, this, if_neg hl]
      simp

/-- non-zero rule: starting outside (count 0), the predicate flips across an odd number of groups of crossings along
    a ray iff the winding count at the end of the ray is non-zero -/
theorem remove_interior_rule (groups : List (List Hit)) :
    C01.parity (C01.flips pred_remove_interior [0, 0] groups) =
      pred_remove_interior (C01.countsAfter pred_remove_interior [0, 0] groups) :=
  C01.inside_iff_odd_flips pred_remove_interior groups (C01.pred_zero.2.2.2.1)

/-- even-odd rule: the same with the odd predicate -/
theorem remove_overlapped_rule (groups : List (List Hit)) :
    C01.parity (C01.flips pred_add [0, 0] groups) = pred_add (C01.countsAfter pred_add [0, 0] groups) :=
  C01.inside_iff_odd_flips pred_add groups (C01.pred_zero.1)

/-! A ray crossing a doubly-wound region: counts 1, 2, 1, 0; non-zero rule marks only the outer two
    crossings exterior, the odd rule all four. -/
example :
    (castRay pred_remove_interior [[⟨0, 0, 0, 1, false, false⟩], [⟨1, 0, 0, 1, false, false⟩], [⟨2, 0, 0, -1, false, false⟩], [⟨3, 0, 0, -1, false, false⟩]]).2 =
      [(0, 0, true), (1, 0, false), (2, 0, false), (3, 0, true)] ∧
    (castRay pred_add [[⟨0, 0, 0, 1, false, false⟩], [⟨1, 0, 0, 1, false, false⟩], [⟨2, 0, 0, -1, false, false⟩], [⟨3, 0, 0, -1, false, false⟩]]).2 =
      [(0, 0, true), (1, 0, true), (2, 0, true), (3, 0, true)] := by decide

end C12
