/-
C08 (termination and the chain, for the generated body)  `fit_curve_cubic` terminates and returns a connected chain.

`Gen.fit_curve_cubic_body` is the whole body of `fit_curve_cubic`, regenerated from fit.rs on every check, with its two calls to
itself as the parameter `recurse`.  `cubicKnot` ties that knot with a depth: depth 0 returns nothing, depth `n+1` is the body
whose self-calls have depth `n`.  The theorems show that depth `points.length` is never used up - every self-call is on a strictly
shorter slice with at least two points - so the Rust recursion terminates, never indexes `points[split_pos-1]` /
`points[split_pos+1]` out of range, and what it returns is a connected chain from the first to the last point.

`generated_split_interior` gives the hypothesis "a rejected candidate is split at an interior sample" for the generated
`max_error_for_curve` whenever the candidate passes through the first and the last sample at their parameters.
-/
import FloVerif.Props.C08Cubic
import FloVerif.Props.C08

set_option linter.unusedSectionVars false
namespace C08Term
open Prelude Gen C08 C08Cubic

variable {K P C : Type} [Field K] [LinearOrder K] [IsStrictOrderedRing K] [Inhabited K]
  [Inhabited P] [Add P] [Sub P] [HMul P K P] [Dot P K] [FSqrt K]

/-- `fit_curve_cubic` = its generated body, the two self-calls tied with a depth -/
def cubicKnot (cfp : List P → List K) (gb : List P → List K → P → P → C)
    (rp : List P → List K → C → List K) (mefc : List P → List K → C → T2 K Nat) (tb : P → P → P → P) (neg : P → P)
    (fl : P → P → List C) : Nat → List P → P → P → K → List C
  | 0 => fun _ _ _ _ => []
  | n + 1 => fun points st et e => fit_curve_cubic_body (cubicKnot cfp gb rp mefc tb neg fl n) cfp gb rp mefc tb neg fl points st et e

/-- induction over the recursion of `fit_curve_cubic`, for a property `Q` of (slice, returned curves) and an invariant `I` of the
    parameters.  The body hands `clampTol e` to its self-calls, so one tolerance `tol = clampTol e` is fixed across depths. -/
theorem cubicKnot_induct (I : List P → List K → Prop) (Q : List P → List C → Prop)
    (cfp : List P → List K) (gb : List P → List K → P → P → C)
    (rp : List P → List K → C → List K) (mefc : List P → List K → C → T2 K Nat) (tb : P → P → P → P) (neg : P → P)
    (fl : P → P → List C) (all : List P) (tol : K)
    (hI0 : ∀ (ps : List P) (s t : P), ps <:+: all → 3 ≤ ps.length → I ps (rp ps (cfp ps) (gb ps (cfp ps) s t)))
    (hIstep : ∀ (ps : List P) (ch : List K) (s t : P), ps <:+: all → 3 ≤ ps.length → I ps ch → I ps (rp ps ch (gb ps ch s t)))
    (hSplit : ∀ (ps : List P) (chords : List K) (s t : P), ps <:+: all → 3 ≤ ps.length → I ps chords →
      ¬ (mefc ps chords (gb ps chords s t)).t0 ≤ tol →
      1 ≤ (mefc ps chords (gb ps chords s t)).t1 ∧ (mefc ps chords (gb ps chords s t)).t1 + 1 < ps.length)
    (hline : ∀ ps : List P, ps <:+: all → ps.length = 2 → Q ps (fl (listGet ps 0) (listGet ps 1)))
    (hone : ∀ (ps : List P) (chords : List K) (s t : P), ps <:+: all → 3 ≤ ps.length → I ps chords →
      (mefc ps chords (gb ps chords s t)).t0 ≤ tol → Q ps [gb ps chords s t])
    (hglue : ∀ (ps : List P) (sp : Nat) (xs ys : List C), ps <:+: all → 1 ≤ sp → sp + 1 < ps.length →
      Q (listSlice ps 0 (sp + 1)) xs → Q (listSlice ps sp ps.length) ys → Q ps (xs ++ ys)) :
    ∀ (fuel : Nat) (points : List P) (st et : P) (e : K), clampTol e = tol → points <:+: all → 2 ≤ points.length →
      points.length ≤ fuel → Q points (cubicKnot cfp gb rp mefc tb neg fl fuel points st et e)
  | 0, points, st, et, e, _, _, h2, hf => by omega
  | fuel + 1, points, st, et, e, he, hin, h2, hf => by
    have ih := cubicKnot_induct I Q cfp gb rp mefc tb neg fl all tol hI0 hIstep hSplit hline hone hglue fuel
    subst he
    show Q points (fit_curve_cubic_body (cubicKnot cfp gb rp mefc tb neg fl fuel) cfp gb rp mefc tb neg fl points st et e)
    rcases body_cases_inv (I points) (cubicKnot cfp gb rp mefc tb neg fl fuel) cfp gb rp mefc tb neg fl points st et e
      (hI0 points st et hin) (fun h3 ch => hIstep points ch st et hin h3) with ⟨hle, hr⟩ | ⟨h3, ch, hI, hr, hacc⟩ | ⟨h3, ch, hI, hrej, hr⟩
    · rw [hr]; exact hline points hin (by omega)
    · rw [hr]; exact hone points ch st et hin h3 hI hacc
    · rw [hr]
      obtain ⟨hsp1, hsp2⟩ := hSplit points ch st et hin h3 hI hrej
      obtain ⟨hl, hr⟩ := listSlice_split_length points _ hsp1 hsp2
      exact hglue points _ _ _ hin hsp1 hsp2
        (ih _ _ _ _ (clampTol_idem e) ((listSlice_infix _ _ _).trans hin) hl.1 (by omega))
        (ih _ _ _ _ (clampTol_idem e) ((listSlice_infix _ _ _).trans hin) hr.1 (by omega))

/-- THE GENERATED RECURSION TERMINATES WITH A CONNECTED CHAIN: for the points `all` and every contiguous slice of them with at
    least two points, depth `≥` the number of points is never exhausted and `fit_curve_cubic` returns a non-empty chain of curves,
    the first starting at the first point, the last ending at the last point, each starting where the previous one ends - for every
    tolerance (negative ones are clamped to 0: repair F18), every tangents, and any least-squares kernel, provided

    * `fit_line p q` is one curve from `p` to `q` (`C08.fit_line_contract`),
    * `generate_bezier` returns a curve from the first to the last point of its slice,
    * a candidate whose reported error is not `≤` the clamped tolerance is split at an interior sample
      (`C08Error.split_interior` for the generated `max_error_for_curve`). -/
theorem cubicKnot_chain (startOf endOf : C → P)
    (cfp : List P → List K) (gb : List P → List K → P → P → C)
    (rp : List P → List K → C → List K) (mefc : List P → List K → C → T2 K Nat) (tb : P → P → P → P) (neg : P → P)
    (fl : P → P → List C) (all : List P) (tol : K)
    (hLine : ∀ p q, ∃ c, fl p q = [c] ∧ startOf c = p ∧ endOf c = q)
    (hgb : ∀ (ps : List P) (chords : List K) (s t : P), ps <:+: all → 3 ≤ ps.length →
      some (startOf (gb ps chords s t)) = ps.head? ∧ some (endOf (gb ps chords s t)) = ps.getLast?)
    (hSplit : ∀ (ps : List P) (chords : List K) (s t : P), ps <:+: all → 3 ≤ ps.length →
      ¬ (mefc ps chords (gb ps chords s t)).t0 ≤ tol →
      1 ≤ (mefc ps chords (gb ps chords s t)).t1 ∧ (mefc ps chords (gb ps chords s t)).t1 + 1 < ps.length) :
    ∀ (fuel : Nat) (points : List P) (st et : P) (e : K), clampTol e = tol → points <:+: all → 2 ≤ points.length →
      points.length ≤ fuel →
      FitsChain startOf endOf points (cubicKnot cfp gb rp mefc tb neg fl fuel points st et e) :=
  cubicKnot_induct (fun _ _ => True) (FitsChain startOf endOf) cfp gb rp mefc tb neg fl all tol
    (fun _ _ _ _ _ => trivial) (fun _ _ _ _ _ _ _ => trivial) (fun ps ch s t hin h3 _ => hSplit ps ch s t hin h3)
    (fun ps _ h2 => .line hLine ps h2)
    (fun ps ch s t hin h3 _ _ => .single (hgb ps ch s t hin h3).1 (hgb ps ch s t hin h3).2)
    (fun _ _ _ _ _ _ h2 hx hy => .split (by omega) hx hy)

theorem cubicKnot_stable_inv (I : List P → List K → Prop)
    (cfp : List P → List K) (gb : List P → List K → P → P → C)
    (rp : List P → List K → C → List K) (mefc : List P → List K → C → T2 K Nat) (tb : P → P → P → P) (neg : P → P)
    (fl : P → P → List C) (all : List P) (tol : K)
    (hI0 : ∀ (ps : List P) (s t : P), ps <:+: all → 3 ≤ ps.length → I ps (rp ps (cfp ps) (gb ps (cfp ps) s t)))
    (hIstep : ∀ (ps : List P) (ch : List K) (s t : P), ps <:+: all → 3 ≤ ps.length → I ps ch → I ps (rp ps ch (gb ps ch s t)))
    (hSplit : ∀ (ps : List P) (chords : List K) (s t : P), ps <:+: all → 3 ≤ ps.length → I ps chords →
      ¬ (mefc ps chords (gb ps chords s t)).t0 ≤ tol →
      1 ≤ (mefc ps chords (gb ps chords s t)).t1 ∧ (mefc ps chords (gb ps chords s t)).t1 + 1 < ps.length) :
    ∀ (fuel fuel' : Nat) (points : List P) (st et : P) (e : K), clampTol e = tol → points <:+: all → 2 ≤ points.length →
      points.length ≤ fuel → points.length ≤ fuel' →
      cubicKnot cfp gb rp mefc tb neg fl fuel points st et e = cubicKnot cfp gb rp mefc tb neg fl fuel' points st et e
  | 0, _, points, _, _, _, _, _, h2, hf, _ => by omega
  | _ + 1, 0, points, _, _, _, _, _, h2, _, hf => by omega
  | fuel + 1, fuel' + 1, points, st, et, e, he, hin, h2, hf, hf' => by
    have ih := cubicKnot_stable_inv I cfp gb rp mefc tb neg fl all tol hI0 hIstep hSplit fuel fuel'
    subst he
    show fit_curve_cubic_body (cubicKnot cfp gb rp mefc tb neg fl fuel) cfp gb rp mefc tb neg fl points st et e =
      fit_curve_cubic_body (cubicKnot cfp gb rp mefc tb neg fl fuel') cfp gb rp mefc tb neg fl points st et e
    rw [body_eq, body_eq]
    by_cases hlen : points.length ≤ 2
    · rw [if_pos hlen, if_pos hlen]
    · rw [if_neg hlen, if_neg hlen]
      -- the body consults its self-calls only on the two slices, where both depths agree
      obtain ⟨ch, hI, hs⟩ := bodyState_spec (I points) cfp gb rp mefc points st et (clampTol e) (hI0 points st et hin (by omega))
        (fun ch => hIstep points ch st et hin (by omega))
      rw [hs, bodyFinish, bodyFinish]
      dsimp only
      by_cases hacc : (mefc points ch (gb points ch st et)).t0 ≤ clampTol e
      · rw [if_pos (decide_eq_true hacc), if_pos (decide_eq_true hacc)]
      · rw [if_neg (by rwa [decide_eq_true_eq]), if_neg (by rwa [decide_eq_true_eq])]
        obtain ⟨hsp1, hsp2⟩ := hSplit points ch st et hin (by omega) hI hacc
        obtain ⟨hl, hr⟩ := listSlice_split_length points _ hsp1 hsp2
        refine congrArg₂ (· ++ ·)
          (ih _ _ _ _ (clampTol_idem e) ((listSlice_infix _ _ _).trans hin) hl.1 ?_ ?_)
          (ih _ _ _ _ (clampTol_idem e) ((listSlice_infix _ _ _).trans hin) hr.1 ?_ ?_) <;> omega

/-- MORE DEPTH NEVER CHANGES THE ANSWER (so the Rust function, which has no depth, computes `cubicKnot` at depth `points.length`):
    under the hypotheses of `cubicKnot_chain` every depth `≥ points.length` gives the same list of curves -/
theorem cubicKnot_stable
    (cfp : List P → List K) (gb : List P → List K → P → P → C)
    (rp : List P → List K → C → List K) (mefc : List P → List K → C → T2 K Nat) (tb : P → P → P → P) (neg : P → P)
    (fl : P → P → List C) (all : List P) (tol : K)
    (hSplit : ∀ (ps : List P) (chords : List K) (s t : P), ps <:+: all → 3 ≤ ps.length →
      ¬ (mefc ps chords (gb ps chords s t)).t0 ≤ tol →
      1 ≤ (mefc ps chords (gb ps chords s t)).t1 ∧ (mefc ps chords (gb ps chords s t)).t1 + 1 < ps.length) :
    ∀ (fuel fuel' : Nat) (points : List P) (st et : P) (e : K), clampTol e = tol → points <:+: all → 2 ≤ points.length →
      points.length ≤ fuel → points.length ≤ fuel' →
      cubicKnot cfp gb rp mefc tb neg fl fuel points st et e = cubicKnot cfp gb rp mefc tb neg fl fuel' points st et e :=
  cubicKnot_stable_inv (fun _ _ => True) cfp gb rp mefc tb neg fl all tol (fun _ _ _ _ _ => trivial) (fun _ _ _ _ _ _ _ => trivial)
    (fun ps ch s t hin h3 _ => hSplit ps ch s t hin h3)

/-- the hypothesis `hSplit` FOR THE GENERATED `max_error_for_curve` (curves as their four control points): if the squared error of the
    first and of the last sample is `≤ 0` - the candidate passes through them at their parameters - then a candidate that is not
    within the tolerance `tol ≥ 0` is split at an index `i` with `1 ≤ i` and `i + 1 < points.length` -/
theorem generated_split_interior (points : List P) (chords : List K) (c : T4 P P P P) (tol : K) (htol : 0 ≤ tol)
    (hs0 : (fsqrt (0 : K) : K) ≤ 0)
    (hfirst : ∀ s, (points.zip chords).head? = some s → (fit_point_error c.t0 c.t1 c.t2 c.t3 s.1 s.2 : K) ≤ 0)
    (hlast : ∀ s, (points.zip chords).getLast? = some s → (fit_point_error c.t0 c.t1 c.t2 c.t3 s.1 s.2 : K) ≤ 0)
    (hrej : ¬ (max_error_pick ((points.zip chords).map (fun s => fit_point_error c.t0 c.t1 c.t2 c.t3 s.1 s.2))).t0 ≤ tol) :
    1 ≤ (max_error_pick ((points.zip chords).map (fun s => (fit_point_error c.t0 c.t1 c.t2 c.t3 s.1 s.2 : K)))).t1 ∧
    (max_error_pick ((points.zip chords).map (fun s => (fit_point_error c.t0 c.t1 c.t2 c.t3 s.1 s.2 : K)))).t1 + 1 < points.length := by
  have h := C08Error.split_interior_map (points.zip chords) _ tol htol hs0 hfirst hlast hrej
  exact ⟨h.1, lt_of_lt_of_le h.2 (by rw [List.length_zip]; exact Nat.min_le_left _ _)⟩

/-- the squared error of a sample that the curve hits at the sample's parameter is 0 (for any point type in which `dot (p - p) x = 0`) -/
theorem fit_point_error_at_hit (hdot : ∀ p x : P, (dot (p - p) x : K) = 0) (w1 w2 w3 w4 p : P) (u : K)
    (hhit : curve_point_at_pos w1 w2 w3 w4 u = p) : (fit_point_error w1 w2 w3 w4 p u : K) = 0 := by
  simp only [fit_point_error, hhit]
  exact hdot p _

local instance instDotRat : Dot ℚ ℚ := ⟨fun a b => a * b⟩
local instance instSqrtRat : FSqrt ℚ := ⟨id⟩

/-- non-vacuity: the hypotheses of `cubicKnot_chain` are met by a toy instance over ℚ in which every slice of four or more points is
    rejected and split at index 1, and shorter ones are accepted -/
example : FitsChain (C := ℚ × ℚ) Prod.fst Prod.snd [0, 1, 2, 3]
    (cubicKnot (K := ℚ) (P := ℚ) (C := ℚ × ℚ) (fun _ => []) (fun pts _ _ _ => (listGet pts 0, listGet pts (pts.length - 1)))
      (fun _ c _ => c) (fun pts _ _ => if 4 ≤ pts.length then T2.mk 1 1 else T2.mk 0 0) (fun a _ _ => a) (fun a => a)
      (fun p q => [(p, q)]) 4 [0, 1, 2, 3] 0 0 (1/2)) := by
  apply cubicKnot_chain Prod.fst Prod.snd _ _ _ _ _ _ _ [0, 1, 2, 3] (1/2)
  · intro p q; exact ⟨(p, q), rfl, rfl, rfl⟩
  · intro ps chords s t _ h3
    exact ends_as_options ps (by omega)
  · intro ps chords s t _ h3 hrej
    by_cases h4 : 4 ≤ ps.length
    · simp only [h4, if_true]; omega
    · simp only [h4, if_false] at hrej; norm_num at hrej
  · unfold clampTol; norm_num
  · exact List.infix_refl _
  · simp
  · simp

end C08Term
