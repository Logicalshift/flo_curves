/-
The parity of the number of roots of a real polynomial in (0,1), for the per-edge parity of C14.
-/
import Mathlib.Algebra.Polynomial.Roots
import Mathlib.Topology.Algebra.Polynomial
import Mathlib.Topology.Order.IntermediateValue
import Mathlib.Topology.Instances.Real.Lemmas
import Mathlib.Tactic.Linarith
import Mathlib.Tactic.Ring
import Mathlib.Tactic.Positivity

namespace RayPoly
open Polynomial

/-- the roots in the open unit interval, with multiplicity -/
noncomputable def innerRoots (p : ℝ[X]) : Multiset ℝ := p.roots.filter fun r => 0 < r ∧ r < 1

theorem same_sign_of_no_root (p : ℝ[X]) (h0 : p.eval 0 ≠ 0) (h1 : p.eval 1 ≠ 0)
    (hno : ∀ x : ℝ, 0 < x → x < 1 → p.eval x ≠ 0) : 0 < p.eval 0 * p.eval 1 := by
  by_contra hc
  have hcont : ContinuousOn (fun x => p.eval x) (Set.Icc (0 : ℝ) 1) := p.continuous.continuousOn
  obtain ⟨c, hc01, hpc⟩ : ∃ c ∈ Set.Icc (0 : ℝ) 1, p.eval c = 0 := by
    rcases mul_neg_iff.1 (lt_of_le_of_ne (not_lt.1 hc) (mul_ne_zero h0 h1)) with ⟨a, b⟩ | ⟨a, b⟩
    · exact intermediate_value_Icc' zero_le_one hcont ⟨b.le, a.le⟩
    · exact intermediate_value_Icc zero_le_one hcont ⟨a.le, b.le⟩
  have hc0 : c ≠ 0 := fun e => h0 (e ▸ hpc)
  have hc1 : c ≠ 1 := fun e => h1 (e ▸ hpc)
  exact hno c (lt_of_le_of_ne hc01.1 (Ne.symm hc0)) (lt_of_le_of_ne hc01.2 hc1) hpc

/-- a real polynomial that does not vanish at 0 and 1 has an odd number of roots in (0,1), counted with multiplicity,
    exactly when its values at 0 and 1 have opposite signs -/
theorem roots_parity (p : ℝ[X]) (h0 : p.eval 0 ≠ 0) (h1 : p.eval 1 ≠ 0) :
    Multiset.card (innerRoots p) % 2 = 1 ↔ p.eval 0 * p.eval 1 < 0 := by
  -- split off one root in (0,1) at a time: each changes the parity and the sign of `p 0 * p 1`
  induction hn : p.natDegree using Nat.strong_induction_on generalizing p with
  | _ n ih =>
  have hp0 : p ≠ 0 := fun e => h0 (by rw [e, eval_zero])
  by_cases hex : ∃ r : ℝ, 0 < r ∧ r < 1 ∧ p.eval r = 0
  · obtain ⟨r, hr0, hr1, hr⟩ := hex
    obtain ⟨q, hq⟩ : X - C r ∣ p := dvd_iff_isRoot.2 hr
    have hq0 : q ≠ 0 := fun e => hp0 (by rw [hq, e, mul_zero])
    have hdeg : q.natDegree < n := by
      rw [← hn, hq, natDegree_mul (X_sub_C_ne_zero r) hq0, natDegree_X_sub_C]; omega
    have e0 : p.eval 0 = (0 - r) * q.eval 0 := by rw [hq]; simp
    have e1 : p.eval 1 = (1 - r) * q.eval 1 := by rw [hq]; simp
    have hq0' : q.eval 0 ≠ 0 := fun e => h0 (by rw [e0, e, mul_zero])
    have hq1' : q.eval 1 ≠ 0 := fun e => h1 (by rw [e1, e, mul_zero])
    have hroots : innerRoots p = r ::ₘ innerRoots q := by
      unfold innerRoots
      rw [hq, roots_mul (hq ▸ hp0), roots_X_sub_C, Multiset.filter_add, Multiset.filter_singleton, if_pos ⟨hr0, hr1⟩,
        Multiset.singleton_add]
    have hprod : (0 - r) * q.eval 0 * ((1 - r) * q.eval 1) = -(r * (1 - r) * (q.eval 0 * q.eval 1)) := by ring
    have hpos : 0 < q.eval 0 * q.eval 1 ↔ ¬ q.eval 0 * q.eval 1 < 0 :=
      ⟨fun h => not_lt.2 h.le, fun h => lt_of_le_of_ne (not_lt.1 h) (mul_ne_zero hq0' hq1').symm⟩
    rw [hroots, Multiset.card_cons, e0, e1, hprod, neg_lt_zero, mul_pos_iff_of_pos_left (mul_pos hr0 (sub_pos.2 hr1)), hpos,
      ← ih _ hdeg q hq0' hq1' rfl]
    omega
  · have hno : ∀ x : ℝ, 0 < x → x < 1 → p.eval x ≠ 0 := fun x hx0 hx1 hx => hex ⟨x, hx0, hx1, hx⟩
    have hempty : innerRoots p = 0 :=
      Multiset.filter_eq_nil.2 fun a ha hc => hno a hc.1 hc.2 ((mem_roots hp0).1 ha)
    rw [hempty, Multiset.card_zero]
    exact ⟨fun h => absurd h (by decide), fun h => absurd h (not_lt.2 (same_sign_of_no_root p h0 h1 hno).le)⟩

end RayPoly
