import FloVerif.Lemmas.GraphRemove
/-! `combine_overlapping_points` keeps the invariant: the remap table, the loop that moves the lists of remapped points
(invariant `MoveInv`), the retargeting loop. -/
namespace Model.Graph

theorem tblIdx_of_ge {tbl : RemapTable} {i : Nat} (h : tbl.length ≤ i) : tblIdx tbl i = i := by
  simp [tblIdx, List.getElem?_eq_none h]

theorem tblIdx_set (tbl : RemapTable) (i : Nat) (x : Nat × Bool) (j : Nat) :
    tblIdx (tbl.set i x) j = if j = i ∧ i < tbl.length then x.1 else tblIdx tbl j := by
  unfold tblIdx
  rw [List.getElem?_set]
  by_cases hji : j = i
  · subst hji
    by_cases hl : j < tbl.length
    · simp [hl]
    · simp [hl]
  · have : ¬ i = j := fun h => hji h.symm
    simp [hji, this]

theorem getElem?_set_some {α : Type} {l : List α} {i j : Nat} {a x : α} (h : (l.set i a)[j]? = some x) :
    (j = i ∧ x = a) ∨ (j ≠ i ∧ l[j]? = some x) := by
  rw [List.getElem?_set] at h
  by_cases hij : i = j
  · subst hij
    by_cases hl : i < l.length
    · simp [hl] at h; exact Or.inl ⟨rfl, h.symm⟩
    · simp [hl] at h
  · simp [hij] at h
    exact Or.inr ⟨fun hh => hij hh.symm, h⟩

/-- the facts about `remapped_points` the edge-moving loops rely on -/
structure TblInv (n : Nat) (tbl : RemapTable) : Prop where
  len : tbl.length = n
  le : ∀ i, tblIdx tbl i ≤ i
  unmoved : ∀ (i : Nat) (x : Nat × Bool), tbl[i]? = some x → x.2 = false → x.1 = i

theorem buildTable_inv (n : Nat) (accepted : List (Nat × Nat)) : TblInv n (buildTable n accepted) := by
  unfold buildTable
  apply Prelude.foldl_inv (TblInv n)
  · intro tbl ab _ h
    have h1 := h.le ab.1
    have h2 := h.le ab.2
    refine ⟨by simp [h.len], ?_, ?_⟩
    · intro i
      rw [tblIdx_set, tblIdx_set]
      simp only [List.length_set]
      split_ifs with c1 c2
      · have := Nat.min_le_right (tblIdx tbl ab.1) (tblIdx tbl ab.2); omega
      · have := Nat.min_le_left (tblIdx tbl ab.1) (tblIdx tbl ab.2); omega
      · exact h.le i
    · intro i x hx hf
      rcases getElem?_set_some hx with ⟨_, rfl⟩ | ⟨_, hx⟩
      · simp at hf
      · rcases getElem?_set_some hx with ⟨_, rfl⟩ | ⟨_, hx⟩
        · simp at hf
        · exact h.unmoved i x hx hf
  · have h0 : ∀ (i : Nat) (x : Nat × Bool), ((List.range n).map fun i => (i, false))[i]? = some x → x.1 = i := by
      intro i x hx
      obtain ⟨_, rfl⟩ := List.getElem?_eq_some_iff.mp hx
      simp
    refine ⟨by simp, ?_, fun i x hx _ => h0 i x hx⟩
    intro i
    unfold tblIdx
    split
    · rename_i x hx
      exact Nat.le_of_eq (h0 i x hx)
    · exact Nat.le_refl i

theorem tblIdx_modify_idx (tbl : RemapTable) {orig : Nat} (h : orig < tbl.length) (v j : Nat) :
    tblIdx (tbl.modify orig fun x => (v, x.2)) j = if j = orig then v else tblIdx tbl j := by
  rw [List.modify_eq_set, tblIdx_set]
  simp only [h, and_true]

theorem TblInv.modify {n k m r : Nat} {tbl : RemapTable} (h : TblInv n tbl) (hk : tbl[k]? = some (m, true)) (hr : r ≤ k) :
    TblInv n (tbl.modify k fun x => (r, x.2)) := by
  refine ⟨by rw [List.length_modify, h.len], ?_, ?_⟩
  · intro i
    rw [tblIdx_modify_idx tbl (List.getElem?_eq_some_iff.mp hk).1]
    split_ifs with hi
    · exact hi ▸ hr
    · exact h.le i
  · intro i x hx hf
    by_cases hi : k = i
    · subst hi
      rw [List.getElem?_modify_eq, hk] at hx
      cases hx; cases hf
    · rw [List.getElem?_modify_ne _ _ hi] at hx
      exact h.unmoved i x hx hf

theorem modify_tblIdx_self (tbl : RemapTable) (i : Nat) : (tbl.modify i fun x => (tblIdx tbl i, x.2)) = tbl := by
  apply List.ext_getElem?
  intro j
  rw [List.getElem?_modify]
  by_cases hij : i = j
  · subst hij
    unfold tblIdx
    cases tbl[i]? <;> simp
  · simp [hij]

/-- the chain followed by `traceRoot` descends, so it reaches a root `r` before the fuel runs out; all it does to the table
is to leave `r` in entry `orig` -/
theorem traceRoot_eq (orig : Nat) : ∀ (fuel : Nat) (tbl : RemapTable) (newIdx : Nat),
    orig < tbl.length → newIdx < orig → newIdx < fuel → (∀ i, tblIdx tbl i ≤ i) → tblIdx tbl orig = newIdx →
    ∃ r, traceRoot orig fuel tbl newIdx = (tbl.modify orig fun x => (r, x.2), r) ∧ tblIdx tbl r = r ∧ r ≤ newIdx := by
  intro fuel
  induction fuel with
  | zero => intro tbl newIdx _ _ h; omega
  | succ fuel ih =>
    intro tbl newIdx ho hn hf hle horig
    unfold traceRoot
    simp only
    split_ifs with hc
    · exact ⟨newIdx, by rw [← horig, modify_tblIdx_self], hc, Nat.le_refl _⟩
    · have hlt : tblIdx tbl newIdx < newIdx := by
        have := hle newIdx; omega
      have hidx' := tblIdx_modify_idx tbl ho (tblIdx tbl newIdx)
      obtain ⟨r, h1, h2, h3⟩ := ih (tbl.modify orig fun x => (tblIdx tbl newIdx, x.2)) (tblIdx tbl newIdx) (by simpa using ho) (by omega) (by omega)
        (by intro i; rw [hidx']; split_ifs with hi
            · subst hi; omega
            · exact hle i)
        (by rw [hidx', if_pos rfl])
      rw [hidx', if_neg (by omega)] at h2
      exact ⟨r, by rw [h1, List.modify_modify_eq]; rfl, h2, by omega⟩

/-! ### the loop that moves the edges of remapped points -/

/-- where the following-edge slot `(e.endIdx, e.fol)` of the original graph is to be found once the points below `k` were processed -/
def slotOf (tbl : RemapTable) (offs : List Nat) (k : Nat) (e : Edge) : Nat × Nat :=
  if e.endIdx < k ∧ tblIdx tbl e.endIdx ≠ e.endIdx then (tblIdx tbl e.endIdx, e.fol + offs.getD e.endIdx 0)
  else (e.endIdx, e.fol)

/-- `e` names slot `(p, f)` when addresses are read through `slotOf`: `pointsTo p f e` for `k = 0` -/
def vq (tbl : RemapTable) (offs : List Nat) (k p f : Nat) (e : Edge) : Bool := decide (slotOf tbl offs k e = (p, f))

/-- where the lists of original point `t` are once the points below `k` were processed -/
def loc (tbl : RemapTable) (k t : Nat) : Nat := if t < k then tblIdx tbl t else t

/-- the move loop after the points below `k`: moved points are empty, the lists of `t` are at `loc t`, and the slot structure
of `FolWf` holds through `slotOf` -/
structure MoveInv (g : Graph) (k : Nat) (st : MoveState) : Prop where
  tblInv : TblInv g.length st.tbl
  lenG : st.g.length = g.length
  lenO : st.offs.length = g.length
  fixed : ∀ i, i < k → tblIdx st.tbl (tblIdx st.tbl i) = tblIdx st.tbl i
  endValid : ∀ a, ∀ e ∈ edgesAt st.g a, e.endIdx < g.length
  virt : ∀ p f, p < g.length → cntP (vq st.tbl st.offs k p f) st.g = if f < (edgesAt st.g p).length then 1 else 0
  emptied : ∀ x, x < k → tblIdx st.tbl x ≠ x → edgesAt st.g x = [] ∧ connAt st.g x = []
  edgesTo : ∀ t e, e ∈ edgesAt g t → e ∈ edgesAt st.g (loc st.tbl k t)
  edgesFrom : ∀ a e, e ∈ edgesAt st.g a → ∃ t, loc st.tbl k t = a ∧ e ∈ edgesAt g t
  connTo : ∀ t c, c ∈ connAt g t → c ∈ connAt st.g (loc st.tbl k t)
  connFrom : ∀ a c, c ∈ connAt st.g a → ∃ t, loc st.tbl k t = a ∧ c ∈ connAt g t
  cnt : ∀ q, cntP q st.g = cntP q g

theorem MoveInv.init {g : Graph} (h : FolWf g) (accepted : List (Nat × Nat)) :
    MoveInv g 0 { tbl := buildTable g.length accepted, g := g, offs := List.replicate g.length 0 } := by
  refine ⟨buildTable_inv _ _, rfl, by simp, by intro i hi; omega, h.endValid, ?_, by intro x hx; omega,
    ?_, ?_, ?_, ?_, fun _ => rfl⟩
  · intro p f hp
    have : cntP (vq (buildTable g.length accepted) (List.replicate g.length 0) 0 p f) g = cntP (pointsTo p f) g := by
      apply cntP_congr
      intro a e _
      simp [vq, slotOf, pointsTo]
      rw [Bool.eq_iff_iff]; simp
    simp only
    rw [this, ← slotCount_eq]
    exact h.slot p f hp
  · intro t e he; simpa [loc] using he
  · intro a e he; exact ⟨a, by simp [loc], he⟩
  · intro t c hc; simpa [loc] using hc
  · intro a c hc; exact ⟨a, by simp [loc], hc⟩

theorem moveStep_skip {st : MoveState} {orig : Nat}
    (h : ∀ newIdx, st.tbl[orig]? = some (newIdx, true) → newIdx = orig) : moveStep st orig = st := by
  unfold moveStep
  split
  · rename_i newIdx heq
    rw [if_pos (h newIdx heq)]
  · rfl

/-- moving the lists of point `x` to the end of the lists of point `r` -/
def moveLists (G : Graph) (x r : Nat) : Graph :=
  let g := updConn (updEdges G x fun _ => []) x fun _ => []
  updConn (updEdges g r (· ++ edgesAt G x)) r (· ++ connAt G x)

theorem moveStep_move {st : MoveState} {orig newIdx : Nat} (h : st.tbl[orig]? = some (newIdx, true)) (hne : newIdx ≠ orig) :
    moveStep st orig =
      { tbl := (traceRoot orig st.tbl.length st.tbl newIdx).1,
        g := moveLists st.g orig (traceRoot orig st.tbl.length st.tbl newIdx).2,
        offs := st.offs.set orig (edgesAt (updConn (updEdges st.g orig fun _ => []) orig fun _ => [])
          (traceRoot orig st.tbl.length st.tbl newIdx).2).length } := by
  unfold moveStep
  split
  · rename_i newIdx' heq
    rw [h] at heq
    cases heq
    rw [if_neg hne]
    rfl
  · rename_i hno
    exact absurd h (hno newIdx)

theorem edgesAt_emptied {G : Graph} {x r : Nat} (h : r ≠ x) :
    edgesAt (updConn (updEdges G x fun _ => []) x fun _ => []) r = edgesAt G r := by
  rw [edgesAt_updConn, edgesAt_updEdges]
  simp [h]

theorem moveLists_spec (G : Graph) {x r : Nat} (hx : x < G.length) (hr : r < G.length) (hne : r ≠ x) (p : Nat) :
    edgesAt (moveLists G x r) p = (if p = x then [] else if p = r then edgesAt G r ++ edgesAt G x else edgesAt G p) ∧
    connAt (moveLists G x r) p = (if p = x then [] else if p = r then connAt G r ++ connAt G x else connAt G p) := by
  unfold moveLists
  simp only [edgesAt_updConn, edgesAt_updEdges, connAt_updConn, connAt_updEdges, length_updConn, length_updEdges, hx, hr,
    and_true]
  by_cases hpx : p = x
  · subst hpx
    simp [Ne.symm hne]
  · by_cases hpr : p = r
    · subst hpr; simp [hne]
    · simp [hpx, hpr]

theorem cntP_moveLists (q : Edge → Bool) (G : Graph) {x r : Nat} (hx : x < G.length) (hr : r < G.length) (hne : r ≠ x) :
    cntP q (moveLists G x r) = cntP q G := by
  unfold moveLists
  simp only
  rw [cntP_updConn]
  have h1 := cntP_updEdges q G x (fun _ => []) hx
  have h2 := cntP_updEdges q (updConn (updEdges G x fun _ => []) x fun _ => []) r (· ++ edgesAt G x) (by simpa using hr)
  rw [cntP_updConn] at h2
  rw [edgesAt_emptied hne] at h2
  simp only [List.countP_append, List.countP_nil] at h1 h2
  omega

theorem getD_set_self {l : List Nat} {i v : Nat} (h : i < l.length) : (l.set i v).getD i 0 = v := by
  simp [List.getD, h]

theorem getD_set_ne {l : List Nat} {i j v : Nat} (h : j ≠ i) : (l.set i v).getD j 0 = l.getD j 0 := by
  simp only [List.getD, List.getElem?_set]
  have : ¬ i = j := fun hh => h hh.symm
  simp [this]

theorem loc_succ {tbl T' : RemapTable} {k r : Nat} (hT' : ∀ i, tblIdx T' i = if i = k then r else tblIdx tbl i) (t : Nat) :
    loc T' (k + 1) t = if t = k then r else loc tbl k t := by
  unfold loc
  rcases Nat.lt_trichotomy t k with h | rfl | h
  · rw [if_pos (Nat.lt_succ_of_lt h), if_neg (Nat.ne_of_lt h), if_pos h, hT', if_neg (Nat.ne_of_lt h)]
  · rw [if_pos (Nat.lt_succ_self _), if_pos rfl, hT', if_pos rfl]
  · rw [if_neg (by omega), if_neg (Nat.ne_of_gt h), if_neg (Nat.not_lt_of_gt h)]

theorem loc_length {n : Nat} {tbl : RemapTable} (h : TblInv n tbl) : loc tbl n = tblIdx tbl := by
  funext t
  unfold loc
  split_ifs with ht
  · rfl
  · exact (tblIdx_of_ge (h.len ▸ Nat.le_of_not_lt ht)).symm

/-- moving point `k` to `r` puts the slots of `k` behind the `a` slots of `r` and leaves the others -/
theorem slotOf_succ {tbl T' : RemapTable} {offs : List Nat} {k r a : Nat} (e : Edge)
    (hT' : ∀ i, tblIdx T' i = if i = k then r else tblIdx tbl i) (hr : r ≠ k) (hk : k < offs.length)
    (hfix_ne : ∀ v, tblIdx tbl v = v → v ≠ k) (hfixed : e.endIdx < k → tblIdx tbl (tblIdx tbl e.endIdx) = tblIdx tbl e.endIdx) :
    slotOf T' (offs.set k a) (k + 1) e =
      if (slotOf tbl offs k e).1 = k then (r, (slotOf tbl offs k e).2 + a) else slotOf tbl offs k e := by
  by_cases hek : e.endIdx = k
  · have h1 : slotOf tbl offs k e = (k, e.fol) := by
      unfold slotOf
      rw [hek, if_neg fun hh => Nat.lt_irrefl k hh.1]
    rw [h1, if_pos rfl]
    unfold slotOf
    rw [hek, hT', if_pos rfl, if_pos ⟨Nat.lt_succ_self k, hr⟩, getD_set_self hk]
  · have hn : (slotOf tbl offs k e).1 ≠ k := by
      unfold slotOf
      split_ifs with hc
      · exact hfix_ne _ (hfixed hc.1)
      · exact hek
    rw [if_neg hn]
    unfold slotOf
    rw [hT', if_neg hek, getD_set_ne hek]
    simp only [show e.endIdx < k + 1 ↔ e.endIdx < k by omega]

theorem ite_lt_add (f a n : Nat) :
    ((if f < a then 1 else 0) + if a ≤ f then (if f - a < n then 1 else 0) else 0) = if f < a + n then 1 else 0 := by
  rcases Nat.lt_or_ge f a with h | h
  · rw [if_pos h, if_neg (Nat.not_le.2 h), if_pos (by omega)]
  · have : f - a < n ↔ f < a + n := by omega
    rw [if_neg (Nat.not_lt.2 h), if_pos h, Nat.zero_add]
    simp only [this]

/-- slot `(p, f)` then is the image of `(p, f)` unless `p = k`, and for `p = r` also of `(k, f - a)` -/
theorem slot_moved {k r a p f : Nat} (s : Nat × Nat) :
    decide ((if s.1 = k then (r, s.2 + a) else s) = (p, f)) =
      ((decide (s = (p, f)) && !decide (p = k)) || (decide (s = (k, f - a)) && decide (p = r ∧ a ≤ f))) := by
  obtain ⟨s1, s2⟩ := s
  rw [Bool.eq_iff_iff]
  simp only [Bool.or_eq_true, Bool.and_eq_true, Bool.not_eq_true', decide_eq_true_eq, decide_eq_false_iff_not, Prod.mk.injEq]
  by_cases hs : s1 = k
  · rw [if_pos hs, Prod.mk.injEq]
    constructor
    · rintro ⟨rfl, rfl⟩
      exact Or.inr ⟨⟨hs, by omega⟩, rfl, by omega⟩
    · rintro (⟨⟨rfl, _⟩, h⟩ | ⟨⟨_, h1⟩, h2, h3⟩)
      · exact absurd hs h
      · exact ⟨h2.symm, by omega⟩
  · rw [if_neg hs, Prod.mk.injEq]
    constructor
    · rintro ⟨rfl, rfl⟩
      exact Or.inl ⟨⟨rfl, rfl⟩, hs⟩
    · rintro (⟨h, _⟩ | ⟨⟨h, _⟩, _⟩)
      · exact h
      · exact absurd h hs

/-- `L a` collects the lists `L0 t` of the points located at `a`, and still does once `k` is moved to `r` -/
theorem mem_moved {α : Type} {L0 L L' : Nat → List α} {loc loc' : Nat → Nat} {k r : Nat} (hr : r ≠ k)
    (hL' : ∀ p, L' p = if p = k then [] else if p = r then L r ++ L k else L p)
    (hloc' : ∀ t, loc' t = if t = k then r else loc t) (hk : loc k = k) (hne : ∀ t, t ≠ k → loc t ≠ k)
    (h : ∀ a x, x ∈ L a ↔ ∃ t, loc t = a ∧ x ∈ L0 t) (a : Nat) (x : α) :
    x ∈ L' a ↔ ∃ t, loc' t = a ∧ x ∈ L0 t := by
  have hk' : x ∈ L k ↔ x ∈ L0 k := by
    rw [h]
    exact ⟨fun ⟨t, ht, hx⟩ => by rwa [show t = k from Classical.byContradiction fun hh => hne t hh ht] at hx,
      fun hx => ⟨k, hk, hx⟩⟩
  rw [hL']
  constructor
  · intro hx
    split_ifs at hx with hak har
    · simp at hx
    · rcases List.mem_append.mp hx with hx | hx
      · obtain ⟨t, ht, hxt⟩ := (h r x).mp hx
        have : t ≠ k := fun hh => hr (by rw [← ht, hh, hk])
        exact ⟨t, by rw [hloc', if_neg this, ht, har], hxt⟩
      · exact ⟨k, by rw [hloc', if_pos rfl, har], hk'.mp hx⟩
    · obtain ⟨t, ht, hxt⟩ := (h a x).mp hx
      have : t ≠ k := fun hh => hak (by rw [← ht, hh, hk])
      exact ⟨t, by rw [hloc', if_neg this, ht], hxt⟩
  · rintro ⟨t, ht, hxt⟩
    rw [hloc'] at ht
    by_cases htk : t = k
    · rw [if_pos htk] at ht
      subst ht
      rw [if_neg hr, if_pos rfl]
      exact List.mem_append_right _ (hk'.mpr (htk ▸ hxt))
    · rw [if_neg htk] at ht
      have hx : x ∈ L a := (h a x).mpr ⟨t, ht, hxt⟩
      rw [if_neg (ht ▸ hne t htk)]
      split_ifs with har
      · exact List.mem_append_left _ (har ▸ hx)
      · exact hx

/-- the slot counts read through `slotOf` once the slots of `k` stand behind the `a` slots of `r` -/
theorem cntP_vq_moved {G : Graph} {tbl T' : RemapTable} {offs : List Nat} {k r a : Nat}
    (hτ : ∀ e, slotOf T' (offs.set k a) (k + 1) e =
      if (slotOf tbl offs k e).1 = k then (r, (slotOf tbl offs k e).2 + a) else slotOf tbl offs k e) (p f : Nat) :
    cntP (vq T' (offs.set k a) (k + 1) p f) G =
      (if !decide (p = k) then cntP (vq tbl offs k p f) G else 0) +
        if decide (p = r ∧ a ≤ f) then cntP (vq tbl offs k k (f - a)) G else 0 := by
  have hq : ∀ b, ∀ e ∈ edgesAt G b, vq T' (offs.set k a) (k + 1) p f e =
      ((vq tbl offs k p f e && !decide (p = k)) || (vq tbl offs k k (f - a) e && decide (p = r ∧ a ≤ f))) := by
    intro b e _
    simp only [vq, hτ e]
    exact slot_moved _
  rw [cntP_congr hq, cntP_or_disjoint _ _ _ (by
    intro x
    simp only [vq, Bool.and_eq_true, Bool.not_eq_true', decide_eq_true_eq, decide_eq_false_iff_not]
    rintro ⟨⟨h1, h2⟩, h3, _⟩
    rw [h1] at h3
    exact h2 (Prod.mk.inj h3).1), cntP_and_const, cntP_and_const]

theorem MoveInv.step_fixed {g : Graph} {k : Nat} {st : MoveState} (h : MoveInv g k st) (hfix : tblIdx st.tbl k = k) :
    MoveInv g (k + 1) st := by
  have hloc : loc st.tbl (k + 1) = loc st.tbl k := by
    funext t; unfold loc
    rcases Nat.lt_trichotomy t k with h | rfl | h
    · rw [if_pos h, if_pos (Nat.lt_succ_of_lt h)]
    · rw [if_pos (Nat.lt_succ_self _), if_neg (Nat.lt_irrefl _), hfix]
    · rw [if_neg (Nat.not_lt_of_gt h), if_neg (by omega)]
  have hvq : vq st.tbl st.offs (k + 1) = vq st.tbl st.offs k := by
    funext p f e; unfold vq slotOf
    by_cases h2 : e.endIdx = k
    · rw [h2, if_neg (fun hh => hh.2 hfix), if_neg (fun hh => hh.2 hfix)]
    · simp only [show e.endIdx < k + 1 ↔ e.endIdx < k by omega]
  refine ⟨h.tblInv, h.lenG, h.lenO, ?_, h.endValid, hvq ▸ h.virt, ?_, hloc ▸ h.edgesTo, hloc ▸ h.edgesFrom, hloc ▸ h.connTo,
    hloc ▸ h.connFrom, h.cnt⟩
  · intro i hi
    rcases Nat.lt_succ_iff_lt_or_eq.mp hi with hi | rfl
    · exact h.fixed i hi
    · rw [hfix, hfix]
  · intro x hx hne
    rcases Nat.lt_succ_iff_lt_or_eq.mp hx with hx | rfl
    · exact h.emptied x hx hne
    · exact absurd hfix hne

/-- the step at a point `k` that moves: the new table sends `k` to a root `r < k` of the old one and agrees with it elsewhere -/
theorem MoveInv.step_moved {g : Graph} {k r : Nat} {st : MoveState} {T' : RemapTable} (h : MoveInv g k st) (hk : k < g.length)
    (hT' : TblInv g.length T') (hidx : ∀ i, tblIdx T' i = if i = k then r else tblIdx st.tbl i)
    (hrk : r < k) (hroot : tblIdx st.tbl r = r) (hnotfix : tblIdx st.tbl k ≠ k) :
    MoveInv g (k + 1) { tbl := T', g := moveLists st.g k r, offs := st.offs.set k (edgesAt st.g r).length } := by
  have hr_ne : r ≠ k := Nat.ne_of_lt hrk
  have hrn : r < st.g.length := h.lenG ▸ Nat.lt_trans hrk hk
  have hkn : k < st.g.length := h.lenG ▸ hk
  have hE := fun p => (moveLists_spec st.g hkn hrn hr_ne p).1
  have hC := fun p => (moveLists_spec st.g hkn hrn hr_ne p).2
  have hcnt := fun q => cntP_moveLists q st.g hkn hrn hr_ne
  have hfix_ne : ∀ v, tblIdx st.tbl v = v → v ≠ k := fun v hv hvk => hnotfix (hvk ▸ hv)
  have hroot' : ∀ v, tblIdx st.tbl v = v → tblIdx T' v = v := fun v hv => by rw [hidx, if_neg (hfix_ne v hv), hv]
  have hloc_ne : ∀ t, t ≠ k → loc st.tbl k t ≠ k := by
    intro t htk
    unfold loc
    split_ifs with h1
    · exact hfix_ne _ (h.fixed t h1)
    · exact htk
  have hmemE := mem_moved hr_ne hE (loc_succ hidx) (if_neg (Nat.lt_irrefl k)) hloc_ne
    fun a x => ⟨h.edgesFrom a x, fun ⟨t, ht, hx⟩ => ht ▸ h.edgesTo t x hx⟩
  have hmemC := mem_moved hr_ne hC (loc_succ hidx) (if_neg (Nat.lt_irrefl k)) hloc_ne
    fun a x => ⟨h.connFrom a x, fun ⟨t, ht, hx⟩ => ht ▸ h.connTo t x hx⟩
  refine ⟨hT', by simpa [moveLists] using h.lenG, by simp [h.lenO], ?_, ?_, ?_, ?_,
    fun t e he => (hmemE _ e).mpr ⟨t, rfl, he⟩, fun a e he => (hmemE a e).mp he,
    fun t c hc => (hmemC _ c).mpr ⟨t, rfl, hc⟩, fun a c hc => (hmemC a c).mp hc,
    fun q => (hcnt q).trans (h.cnt q)⟩
  · intro i hi
    show tblIdx T' (tblIdx T' i) = tblIdx T' i
    rw [hidx i]
    split_ifs with hik
    · exact hroot' r hroot
    · exact hroot' _ (h.fixed i (Nat.lt_of_le_of_ne (Nat.le_of_lt_succ hi) hik))
  · intro p e he
    obtain ⟨t, _, het⟩ := (hmemE p e).mp he
    exact h.endValid _ e (h.edgesTo t e het)
  · intro p f hp
    rw [hcnt, hE]
    generalize hadef : (edgesAt st.g r).length = a
    rw [cntP_vq_moved fun e => slotOf_succ (a := a) e hidx hr_ne (h.lenO ▸ hk) hfix_ne (h.fixed _),
      h.virt p f hp, h.virt k (f - a) hk]
    by_cases hpk : p = k
    · simp [hpk, hr_ne.symm]
    · by_cases hpr : p = r
      · subst hpr
        simp only [hpk, hadef, decide_false, Bool.not_false, true_and, decide_eq_true_eq, if_true, if_false,
          List.length_append]
        exact ite_lt_add f a _
      · simp [hpk, hpr]
  · intro x hx hne
    rw [hidx] at hne
    by_cases hxk : x = k
    · rw [hE, hC, if_pos hxk, if_pos hxk]
      exact ⟨rfl, rfl⟩
    · rw [if_neg hxk] at hne
      have hxr : x ≠ r := fun hh => hne (hh ▸ hroot)
      rw [hE, hC, if_neg hxk, if_neg hxr, if_neg hxk, if_neg hxr]
      exact h.emptied x (Nat.lt_of_le_of_ne (Nat.le_of_lt_succ hx) hxk) hne

theorem MoveInv.step {g : Graph} {k : Nat} {st : MoveState} (h : MoveInv g k st) (hk : k < g.length) :
    MoveInv g (k + 1) (moveStep st k) := by
  have hT := h.tblInv
  have hkT : k < st.tbl.length := hT.len ▸ hk
  by_cases hfix : tblIdx st.tbl k = k
  · rw [moveStep_skip fun newIdx heq => by simpa [tblIdx, heq] using hfix]
    exact h.step_fixed hfix
  · obtain ⟨⟨n, b⟩, hx0⟩ : ∃ x0, st.tbl[k]? = some x0 := ⟨_, List.getElem?_eq_getElem hkT⟩
    have hidx : tblIdx st.tbl k = n := by unfold tblIdx; rw [hx0]
    cases b
    · exact absurd (hidx.trans (hT.unmoved k _ hx0 rfl)) hfix
    have hnk : n ≠ k := hidx ▸ hfix
    have hlt : n < k := Nat.lt_of_le_of_ne (hidx ▸ hT.le k) hnk
    obtain ⟨r, hR, hroot, hrn⟩ := traceRoot_eq k st.tbl.length _ _ hkT hlt (by omega) hT.le hidx
    have hrk : r < k := Nat.lt_of_le_of_lt hrn hlt
    rw [moveStep_move hx0 hnk, hR]
    dsimp only
    rw [edgesAt_emptied (Nat.ne_of_lt hrk)]
    exact h.step_moved hk (hT.modify hx0 (Nat.le_of_lt hrk)) (tblIdx_modify_idx st.tbl hkT r) hrk hroot hfix

/-! ### retargeting (the second remapping loop) -/

/-- the edge part of `retargetPoint` -/
def retargetEdge (tbl : RemapTable) (offs : List Nat) (e : Edge) : Edge :=
  let newEnd := tblIdx tbl e.endIdx
  if newEnd ≠ e.endIdx then { e with endIdx := newEnd, fol := e.fol + offs.getD e.endIdx 0 } else e

/-- the `connected_from` part of `retargetPoint` -/
def retargetConn (tbl : RemapTable) (c : List Nat) : List Nat :=
  let conn := c.map (tblIdx tbl)
  let remapped := conn != c
  if remapped || c.length > 1 then dedupAdj (sortNat conn) else conn

theorem retargetEdge_end (tbl : RemapTable) (offs : List Nat) (e : Edge) :
    (retargetEdge tbl offs e).endIdx = tblIdx tbl e.endIdx := by
  unfold retargetEdge
  simp only
  split_ifs with h
  · rfl
  · simp only [ne_eq, not_not] at h; exact h.symm

theorem retargetEdge_slot (tbl : RemapTable) (offs : List Nat) (n : Nat) (e : Edge) (he : e.endIdx < n) :
    ((retargetEdge tbl offs e).endIdx, (retargetEdge tbl offs e).fol) = slotOf tbl offs n e := by
  unfold retargetEdge slotOf
  simp only
  split_ifs with h1 h2 h2
  · rfl
  · exact absurd ⟨he, h1⟩ h2
  · exact absurd h2.2 h1
  · rfl

theorem mem_retargetConn (tbl : RemapTable) (c : List Nat) (x : Nat) :
    x ∈ retargetConn tbl c ↔ x ∈ c.map (tblIdx tbl) := by
  unfold retargetConn
  simp only
  split_ifs
  · exact mem_sortDedup _ _
  · rfl

theorem nodup_retargetConn (tbl : RemapTable) (c : List Nat) : (retargetConn tbl c).Nodup := by
  unfold retargetConn
  simp only
  split_ifs with h
  · exact nodup_sortDedup _
  · simp only [Bool.or_eq_true, bne_iff_ne, ne_eq, decide_eq_true_eq, not_or, not_not] at h
    rw [h.1]
    have : c.length ≤ 1 := by omega
    match c, this with
    | [], _ => exact List.nodup_nil
    | [a], _ => exact List.nodup_singleton a

theorem foldl_range_inv {β : Type} (P : Nat → β → Prop) (f : β → Nat → β) (n : Nat) (init : β) (h0 : P 0 init)
    (hs : ∀ k b, k < n → P k b → P (k + 1) (f b k)) : P n ((List.range n).foldl f init) := by
  induction n with
  | zero => simpa using h0
  | succ n ih =>
    rw [List.range_succ, List.foldl_append]
    simp only [List.foldl_cons, List.foldl_nil]
    exact hs n _ (by omega) (ih (fun k b hk hp => hs k b (by omega) hp))

theorem combine_eq {g : Graph} (h : FolWf g) (any : Bool) (accepted : List (Nat × Nat)) :
    combine g any accepted = g ∨ ∃ st, MoveInv g g.length st ∧
      combine g any accepted = mapPts (retargetEdge st.tbl st.offs) (retargetConn st.tbl) st.g := by
  unfold combine
  split_ifs with hany
  · exact Or.inl rfl
  · exact Or.inr ⟨_, foldl_range_inv (fun k st => MoveInv g k st) moveStep g.length _ (MoveInv.init h accepted)
      (fun k st hk hp => hp.step hk), rfl⟩

theorem MoveInv.tblIdx_lt {g : Graph} {k i : Nat} {st : MoveState} (h : MoveInv g k st) (hi : i < g.length) :
    tblIdx st.tbl i < g.length :=
  Nat.lt_of_le_of_lt (h.tblInv.le i) hi

/-- once every point was processed, retargeting turns the slots read through `slotOf` into the real ones -/
theorem MoveInv.retarget_folWf {g : Graph} {st : MoveState} (h : MoveInv g g.length st) :
    FolWf (mapPts (retargetEdge st.tbl st.offs) (retargetConn st.tbl) st.g) := by
  refine ⟨?_, ?_⟩
  · intro a e he
    rw [edgesAt_mapPts, List.mem_map] at he
    obtain ⟨e0, he0, rfl⟩ := he
    rw [retargetEdge_end, length_mapPts, h.lenG]
    exact h.tblIdx_lt (h.endValid a e0 he0)
  · intro p f hp
    rw [length_mapPts, h.lenG] at hp
    rw [slotCount_eq, cntP_mapPts, edgesAt_mapPts, List.length_map, ← h.virt p f hp]
    apply cntP_congr
    intro a e he
    have := retargetEdge_slot st.tbl st.offs g.length e (h.endValid a e he)
    simp only [Function.comp, pointsTo, vq, ← this, Prod.mk.injEq]
    rw [Bool.eq_iff_iff]; simp

theorem combine_wf {g : Graph} (h : Wf g) (any : Bool) (accepted : List (Nat × Nat)) :
    Wf (combine g any accepted) ∧ (combine g any accepted).length = g.length ∧
      (ConnExact g → ConnExact (combine g any accepted)) := by
  rcases combine_eq h.fol any accepted with he | ⟨st, hinv, he⟩ <;> rw [he]
  · exact ⟨h, rfl, id⟩
  · have hloc := loc_length hinv.tblInv
    have hETo := hloc ▸ hinv.edgesTo
    have hEFrom := hloc ▸ hinv.edgesFrom
    have hCTo := hloc ▸ hinv.connTo
    have hCFrom := hloc ▸ hinv.connFrom
    have hmemC : ∀ a x, x ∈ connAt (mapPts (retargetEdge st.tbl st.offs) (retargetConn st.tbl) st.g) a ↔
        ∃ c ∈ connAt st.g a, tblIdx st.tbl c = x := fun a x => by
      rw [connAt_mapPts _ rfl, mem_retargetConn, List.mem_map]
    refine ⟨⟨hinv.retarget_folWf, ?_, ?_, ?_⟩, by rw [length_mapPts]; exact hinv.lenG, ?_⟩
    · intro a x hx
      obtain ⟨c, hc, rfl⟩ := (hmemC a x).mp hx
      obtain ⟨t, _, hct⟩ := hCFrom a c hc
      rw [length_mapPts, hinv.lenG]
      exact hinv.tblIdx_lt (h.conn.valid t c hct)
    · intro a
      rw [connAt_mapPts _ rfl]
      exact nodup_retargetConn _ _
    · intro a e he
      rw [edgesAt_mapPts, List.mem_map] at he
      obtain ⟨e0, he0, rfl⟩ := he
      obtain ⟨t, hta, het⟩ := hEFrom a e0 he0
      rw [retargetEdge_end, hmemC]
      exact ⟨t, hCTo e0.endIdx t (h.conn.complete t e0 het), hta⟩
    · intro hex a x hx
      obtain ⟨c, hc, rfl⟩ := (hmemC a x).mp hx
      obtain ⟨t, hta, hct⟩ := hCFrom a c hc
      obtain ⟨e, he, het⟩ := hex t c hct
      refine ⟨retargetEdge st.tbl st.offs e, ?_, ?_⟩
      · rw [edgesAt_mapPts, List.mem_map]; exact ⟨e, hETo c e he, rfl⟩
      · rw [retargetEdge_end, het, hta]

end Model.Graph
