/-
Helper lemmas for C14: how many hits C04's model of `curve_intersects_ray` reports on one edge (exact solver, end points
away from the line), and the parity of that number over ℝ.
-/
import FloVerif.Props.C04
import FloVerif.Lemmas.RayPoly
import FloVerif.Lemmas.FatLine
import FloVerif.Prelude.Ray

set_option linter.unusedSectionVars false
namespace RayHits
open Prelude Gen C04

section General
variable {K : Type} [Field K] [LinearOrder K] [IsStrictOrderedRing K] [Inhabited K] [FSqrt K]

local instance : FAbs K := ⟨fun a => |a|⟩

/-- neither end point of the edge is within the snapping distance of the line, measured as `curve_intersects_ray` measures it
    (curve_line.rs:83-108) -/
def NoSnap (w1 w4 : V2 K) (l : T2 (V2 K) (V2 K)) : Prop :=
  ¬ |w1.x * (lineA l / fsqrt (lineA l * lineA l + lineB l * lineB l)) + w1.y * (lineB l / fsqrt (lineA l * lineA l + lineB l * lineB l))
      + lineC l / fsqrt (lineA l * lineA l + lineB l * lineB l)| < (SMALL_DISTANCE : K) ∧
  ¬ |w4.x * (lineA l / fsqrt (lineA l * lineA l + lineB l * lineB l)) + w4.y * (lineB l / fsqrt (lineA l * lineA l + lineB l * lineB l))
      + lineC l / fsqrt (lineA l * lineA l + lineB l * lineB l)| < (SMALL_DISTANCE : K)

variable (solve : T4 K K K K → List K) (w1 w2 w3 w4 : V2 K) (l : T2 (V2 K) (V2 K))

theorem snap_id (h : NoSnap w1 w4 l) (t : K) : snap w1 w4 l t = t := by
  unfold snap
  simp only [h.1, h.2, if_false]
  split_ifs <;> rfl

theorem hitOf_isSome (h : NoSnap w1 w4 l) (r : K) (hr : polyEval (distPoly w1 w2 w3 w4 l) r = 0) :
    (hitOf w1 w2 w3 w4 l r).isSome = decide (0 ≤ r ∧ r ≤ 1) := by
  unfold hitOf
  simp only [polish_of_root _ r hr, snap_id w1 w4 l h]
  by_cases hc : 0 ≤ r ∧ r ≤ 1
  · have hw : (-0.1 : K) < r ∧ r < 1.1 := ⟨lt_of_lt_of_le (by norm_num) hc.1, lt_of_le_of_lt hc.2 (by norm_num)⟩
    rw [if_neg (not_not.2 hw), if_pos hc, decide_eq_true hc]; rfl
  · rw [decide_eq_false hc, if_neg hc, ite_self]; rfl

theorem hits_length (hne : lineA l ≠ 0 ∨ lineB l ≠ 0) (h : NoSnap w1 w4 l)
    (hroots : ∀ r ∈ solve (distPoly w1 w2 w3 w4 l), polyEval (distPoly w1 w2 w3 w4 l) r = 0) :
    (curve_intersects_ray solve w1 w2 w3 w4 l).length =
      (solve (distPoly w1 w2 w3 w4 l)).countP fun r => decide (0 ≤ r ∧ r ≤ 1) := by
  rw [cir_unfold, if_neg (by rintro ⟨ha, hb⟩; rcases hne with h | h <;> contradiction), List.length_filterMap_eq_countP]
  apply List.countP_congr
  intro r hr
  rw [hitOf_isSome w1 w2 w3 w4 l h r (hroots r hr)]

theorem hit_t_eq_root (h : NoSnap w1 w4 l)
    (hroots : ∀ r ∈ solve (distPoly w1 w2 w3 w4 l), polyEval (distPoly w1 w2 w3 w4 l) r = 0)
    (x : T3 K K (V2 K)) (hx : x ∈ curve_intersects_ray solve w1 w2 w3 w4 l) :
    x.t0 ∈ solve (distPoly w1 w2 w3 w4 l) ∧ 0 ≤ x.t0 ∧ x.t0 ≤ 1 := by
  obtain ⟨_, r, hr, ht, h0, h1, _⟩ := hit_sound solve w1 w2 w3 w4 l x hx
  rw [polish_of_root _ r (hroots r hr), snap_id w1 w4 l h] at ht
  rw [ht] at h0 h1 ⊢
  exact ⟨hr, h0, h1⟩

theorem poly_at_ends :
    polyEval (distPoly w1 w2 w3 w4 l) 0 = lineDist l w1 ∧ polyEval (distPoly w1 w2 w3 w4 l) 1 = lineDist l w4 := by
  constructor <;> rw [poly_is_signed_distance] <;>
    simp only [lineDist, FatLineLemmas.dc4_x, FatLineLemmas.dc4_y, FatLineLemmas.dc4_bernstein] <;> ring

end General

section Real
open Polynomial
variable [FSqrt ℝ]

local instance : FAbs ℝ := ⟨fun a => |a|⟩

/-- the coefficient quadruple as a Mathlib polynomial -/
noncomputable def toPoly (p : T4 ℝ ℝ ℝ ℝ) : ℝ[X] := C p.t0 * X ^ 3 + C p.t1 * X ^ 2 + C p.t2 * X + C p.t3

theorem eval_toPoly (p : T4 ℝ ℝ ℝ ℝ) (t : ℝ) : (toPoly p).eval t = polyEval p t := by
  simp [toPoly, polyEval]

/-- **per-edge parity.**  For an exact solver (its result lists every real root of the distance cubic once and nothing else), an
    edge whose end points are off the line (so far that nothing is snapped) and a line that is nowhere tangent to the edge
    (the cubic has only simple roots), `curve_intersects_ray` reports an odd number of hits exactly when the end points of the edge
    lie strictly on opposite sides of the line. -/
theorem edge_parity (solve : T4 ℝ ℝ ℝ ℝ → List ℝ) (w1 w2 w3 w4 : V2 ℝ) (l : T2 (V2 ℝ) (V2 ℝ))
    (hne : lineA l ≠ 0 ∨ lineB l ≠ 0) (hsnap : NoSnap w1 w4 l)
    (hsolve : ∀ r, r ∈ solve (distPoly w1 w2 w3 w4 l) ↔ polyEval (distPoly w1 w2 w3 w4 l) r = 0)
    (hnodup : (solve (distPoly w1 w2 w3 w4 l)).Nodup)
    (hsimple : (toPoly (distPoly w1 w2 w3 w4 l)).roots.Nodup)
    (h1 : lineDist l w1 ≠ 0) (h4 : lineDist l w4 ≠ 0) :
    (curve_intersects_ray solve w1 w2 w3 w4 l).length % 2 = 1 ↔ lineDist l w1 * lineDist l w4 < 0 := by
  set P := distPoly w1 w2 w3 w4 l with hP
  obtain ⟨e0, e1⟩ := poly_at_ends w1 w2 w3 w4 l
  rw [← hP] at e0 e1
  have hp0 : (toPoly P).eval 0 ≠ 0 := by rw [eval_toPoly, e0]; exact h1
  have hp1 : (toPoly P).eval 1 ≠ 0 := by rw [eval_toPoly, e1]; exact h4
  have hne0 : toPoly P ≠ 0 := fun e => hp0 (by rw [e]; simp)
  rw [hits_length solve w1 w2 w3 w4 l hne hsnap (fun r hr => (hsolve r).1 hr), ← e0, ← e1, ← eval_toPoly, ← eval_toPoly,
    ← RayPoly.roots_parity (toPoly P) hp0 hp1]
  -- the solver's list and the root multiset are the same multiset
  have hms : ((solve P : List ℝ) : Multiset ℝ) = (toPoly P).roots := by
    rw [Multiset.Nodup.ext (Multiset.coe_nodup.2 hnodup) hsimple]
    intro a
    rw [Multiset.mem_coe, hsolve a, mem_roots hne0, IsRoot, eval_toPoly]
  have hcount : (solve P).countP (fun r => decide (0 ≤ r ∧ r ≤ 1)) = Multiset.card (RayPoly.innerRoots (toPoly P)) := by
    unfold RayPoly.innerRoots
    rw [← hms, Multiset.filter_coe, Multiset.coe_card, List.countP_eq_length_filter]
    congr 1
    apply List.filter_congr
    intro r hr
    have hroot : polyEval P r = 0 := (hsolve r).1 hr
    have hr0 : r ≠ 0 := fun e => h1 (by rw [← e0]; subst e; exact hroot)
    have hr1 : r ≠ 1 := fun e => h4 (by rw [← e1]; subst e; exact hroot)
    simp only [decide_eq_decide]
    constructor
    · rintro ⟨a, b⟩; exact ⟨lt_of_le_of_ne a (Ne.symm hr0), lt_of_le_of_ne b hr1⟩
    · rintro ⟨a, b⟩; exact ⟨le_of_lt a, le_of_lt b⟩
  rw [hcount]

/-- the hits of edge `e` as C04's generated `curve_intersects_ray` computes them with the solver `solve` -/
noncomputable def cirOf (solve : T4 ℝ ℝ ℝ ℝ → List ℝ) (path : RayPathI ℝ) (ray : T2 (V2 ℝ) (V2 ℝ)) (e : EdgeRef) : List (T3 ℝ ℝ (V2 ℝ)) :=
  curve_intersects_ray solve (path.get_edge e).t0 (path.get_edge e).t1 (path.get_edge e).t2 (path.get_edge e).t3 ray

end Real
end RayHits
