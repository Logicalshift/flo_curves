/-
Lemmas for C17Trace.  The tracer on association-list graphs: `followLoop` keeps the graph symmetric up to two open arcs
(`LoopInv`), so on a closed 2-regular graph (`Closed2Regular`) every loop closes and the loops use every key once.  The graph
of a bitmap: `buildGraph` is a sequence of arc insertions (`insAll`), the arcs of the mixed cells are symmetric, join distinct
edges, and every boundary edge is the source of exactly two of them (counted over the grid), so that graph is closed 2-regular.
-/
import FloVerif.Model.Contour
import FloVerif.Props.C17
import FloVerif.Lemmas.Basics
import FloVerif.Lemmas.Loop
import Mathlib.Tactic.Ring
import Mathlib.Tactic.SplitIfs
import Mathlib.Tactic.ByContra
import Mathlib.Data.List.Chain
import Mathlib.Data.List.Perm.Basic
import Mathlib.Data.List.Count
import Mathlib.Data.List.Nodup
import Mathlib.Algebra.BigOperators.Group.List.Basic

namespace Trace
open Prelude Gen Model.Contour

def keys (g : Graph) : List Nat := g.map (·.1)

def nb : Graph → Nat → List Nat
  | [], _ => []
  | (k, vs) :: g, a => if k = a then vs else nb g a

@[simp] theorem keys_nil : keys [] = [] := rfl
@[simp] theorem keys_cons (e : Nat × List Nat) (g : Graph) : keys (e :: g) = e.1 :: keys g := rfl
@[simp] theorem nb_nil (a : Nat) : nb [] a = [] := rfl
@[simp] theorem nb_cons (k : Nat) (vs : List Nat) (g : Graph) (a : Nat) :
    nb ((k, vs) :: g) a = if k = a then vs else nb g a := rfl

theorem nb_of_not_mem {g : Graph} {a : Nat} (h : a ∉ keys g) : nb g a = [] := by
  induction g with
  | nil => rfl
  | cons e g ih =>
    obtain ⟨k, vs⟩ := e
    simp only [keys_cons, List.mem_cons, not_or] at h
    rw [nb_cons, if_neg (fun hk => h.1 hk.symm), ih h.2]

theorem mem_of_mem_keys {g : Graph} {a : Nat} (h : a ∈ keys g) : (a, nb g a) ∈ g := by
  induction g with
  | nil => simp at h
  | cons e g ih =>
    obtain ⟨k, vs⟩ := e
    rw [nb_cons]
    by_cases hk : k = a
    · subst hk; simp
    · rw [if_neg hk]
      simp only [keys_cons, List.mem_cons] at h
      rcases h with h | h
      · exact absurd h.symm hk
      · exact List.mem_cons_of_mem _ (ih h)

theorem nb_of_mem {g : Graph} (hnd : (keys g).Nodup) {e : Nat × List Nat} (he : e ∈ g) : nb g e.1 = e.2 := by
  induction g with
  | nil => simp at he
  | cons e' g ih =>
    obtain ⟨k, vs⟩ := e'
    simp only [keys_cons, List.nodup_cons] at hnd
    rw [nb_cons]
    rcases List.mem_cons.1 he with h | h
    · subst h; simp
    · have : e.1 ∈ keys g := List.mem_map_of_mem h
      rw [if_neg (fun hk : k = e.1 => hnd.1 (hk ▸ this)), ih hnd.2 h]

theorem graphRemove_spec (g : Graph) (a : Nat) (hnd : (keys g).Nodup) (ha : a ∈ keys g) :
    ∃ g', graphRemove g a = some (nb g a, g') ∧ (keys g).Perm (a :: keys g') ∧
      (∀ x, x ≠ a → nb g' x = nb g x) ∧ g' ⊆ g ∧ g'.length + 1 = g.length := by
  induction g with
  | nil => simp at ha
  | cons e g ih =>
    obtain ⟨k, vs⟩ := e
    simp only [keys_cons, List.nodup_cons, List.mem_cons] at hnd ha
    by_cases hk : k = a
    · subst hk
      exact ⟨g, by simp [graphRemove], .refl _, fun x hx => by rw [nb_cons, if_neg (Ne.symm hx)],
        List.subset_cons_self _ _, rfl⟩
    · obtain ⟨g', h1, h2, h3, h4, h5⟩ := ih hnd.2 (ha.resolve_left (Ne.symm hk))
      exact ⟨(k, vs) :: g', by simp only [graphRemove, beq_iff_eq, hk, if_false, h1, nb_cons],
        (h2.cons k).trans (.swap ..), fun x hx => by rw [nb_cons, nb_cons, h3 x hx],
        List.cons_subset_cons _ h4, congrArg (· + 1) h5⟩

def ind (p : Prop) [Decidable p] : Nat := if p then 1 else 0

/-- indicator of the arc `u → v` at `(a, b)` -/
def δ (u v a b : Nat) : Nat := ind (a = u ∧ b = v)

theorem δ_swap (u v a b : Nat) : δ u v a b = δ v u b a := by
  simp only [δ, and_comm]

theorem δ_left (u v b : Nat) : δ u v u b = ind (b = v) := by
  simp only [δ, true_and]

theorem δ_self (u v : Nat) : δ u v u v = 1 := if_pos ⟨rfl, rfl⟩

theorem δ_of_ne {u a : Nat} (h : a ≠ u) (v b : Nat) : δ u v a b = 0 := if_neg fun h' => h h'.1

def EntOK (R : Nat → Nat → Prop) (g : Graph) : Prop :=
  ∀ e ∈ g, e.2.length = 2 ∧ e.1 ∉ e.2 ∧ ∀ v ∈ e.2, R e.1 v

/-- a closed 2-regular graph: distinct keys, two neighbours each (a neighbour may be listed twice), no self
    references, and `b` is listed under `a` as often as `a` under `b` -/
structure Closed2Regular (R : Nat → Nat → Prop) (g : Graph) : Prop where
  nodup : (keys g).Nodup
  ent : EntOK R g
  sym : ∀ a b, (nb g a).count b = (nb g b).count a

/-- the invariant of the `while current_edge != first_edge` loop: the graph is symmetric up to the two arcs
    `first → z` and `prev → cur` that went with the removed keys `first` and `prev`, whose reverse arcs
    `z → first` and `cur → prev` are still listed -/
structure LoopInv (R : Nat → Nat → Prop) (g : Graph) (first z prev cur : Nat) : Prop where
  nodup : (keys g).Nodup
  ent : EntOK R g
  hfirst : first ∉ keys g
  hprev : prev ∉ keys g
  hne : cur ≠ prev
  bal : ∀ a b, (nb g a).count b + δ first z a b + δ prev cur a b =
    (nb g b).count a + δ first z b a + δ prev cur b a

theorem count_pair (x y b : Nat) : [x, y].count b = ind (b = x) + ind (b = y) := by
  simp only [List.count_cons, List.count_nil, ind, beq_iff_eq, eq_comm (b := b), zero_add, Nat.add_comm]

theorem count_nb_remove {g g' : Graph} {c p q : Nat} (hc : c ∉ keys g') (hnb : ∀ x, x ≠ c → nb g' x = nb g x)
    (hcnt : ∀ b, (nb g c).count b = ind (b = p) + ind (b = q)) (a b : Nat) :
    (nb g a).count b = (nb g' a).count b + δ c p a b + δ c q a b := by
  by_cases ha : a = c
  · rw [ha, nb_of_not_mem hc, hcnt, δ_left, δ_left, List.count_nil, Nat.zero_add]
  · rw [hnb a ha, δ_of_ne ha, δ_of_ne ha]; rfl

/-- back at `first` the two open arcs are each other's reverse: the graph is closed again -/
theorem LoopInv.closed {R : Nat → Nat → Prop} {g : Graph} {first z prev : Nat} (inv : LoopInv R g first z prev first) :
    Closed2Regular R g := by
  have hpz : prev = z := by
    have h := inv.bal prev first
    rw [nb_of_not_mem inv.hprev, nb_of_not_mem inv.hfirst, δ_self, δ_of_ne inv.hne.symm, δ_of_ne inv.hne,
      δ_left] at h
    by_contra hc
    simp only [ind, if_neg hc, List.count_nil] at h
    omega
  subst hpz
  refine ⟨inv.nodup, inv.ent, fun a b => ?_⟩
  have h := inv.bal a b
  rw [δ_swap prev first a b, δ_swap prev first b a] at h
  omega

theorem LoopInv.prev_mem {R : Nat → Nat → Prop} {g : Graph} {first z prev cur : Nat} (inv : LoopInv R g first z prev cur)
    (hcf : cur ≠ first) : prev ∈ nb g cur := by
  have h := inv.bal prev cur
  rw [nb_of_not_mem inv.hprev, δ_self, δ_of_ne inv.hne, δ_of_ne hcf] at h
  exact List.count_pos_iff.1 (by omega)

theorem LoopInv.step {R : Nat → Nat → Prop} {g g' : Graph} {first z prev cur nx : Nat} (inv : LoopInv R g first z prev cur)
    (hck : cur ∈ keys g) (hperm : (keys g).Perm (cur :: keys g')) (hnb : ∀ x, x ≠ cur → nb g' x = nb g x)
    (hsub : g' ⊆ g) (hnx : nx ∈ nb g cur)
    (hcnt : ∀ b, (nb g cur).count b = ind (b = prev) + ind (b = nx)) : LoopInv R g' first z cur nx := by
  have hnd := List.nodup_cons.1 (hperm.nodup_iff.1 inv.nodup)
  refine ⟨hnd.2, fun e he => inv.ent e (hsub he),
    fun h => inv.hfirst (hperm.symm.subset (List.mem_cons_of_mem _ h)), hnd.1,
    fun h => (inv.ent _ (mem_of_mem_keys hck)).2.1 (h ▸ hnx), fun a b => ?_⟩
  have h := inv.bal a b
  rw [count_nb_remove hnd.1 hnb hcnt a b, count_nb_remove hnd.1 hnb hcnt b a, δ_swap prev cur a b,
    δ_swap prev cur b a] at h
  omega

theorem followLoop_spec (R : Nat → Nat → Prop) : ∀ (fuel : Nat) (g : Graph) (first z prev cur : Nat) (acc : List Nat),
    LoopInv R g first z prev cur → g.length < fuel → (acc ++ [cur]).IsChain R →
    ∃ rem g', followLoop fuel g first prev cur acc = some (acc ++ rem, g') ∧ Closed2Regular R g' ∧
      (keys g).Perm (rem ++ keys g') ∧ (acc ++ rem ++ [first]).IsChain R ∧ g'.length ≤ g.length
  | 0, g, first, z, prev, cur, acc, _, hf, _ => by omega
  | fuel + 1, g, first, z, prev, cur, acc, inv, hf, hch => by
    rw [followLoop]
    by_cases hcf : cur = first
    · subst hcf
      rw [if_pos (beq_self_eq_true _)]
      exact ⟨[], g, by rw [List.append_nil], inv.closed, .refl _, by rwa [List.append_nil], le_refl _⟩
    · rw [if_neg (by simpa using hcf)]
      have hprev := inv.prev_mem hcf
      have hck : cur ∈ keys g := by_contra fun hc => by simp [nb_of_not_mem hc] at hprev
      obtain ⟨g', hrem, hperm, hnb, hsub, hlen⟩ := graphRemove_spec g cur inv.nodup hck
      rw [hrem]
      obtain ⟨hl2, -, hR⟩ := inv.ent _ (mem_of_mem_keys hck)
      -- the chosen successor `nx`, with `nb g cur` a rearrangement of `[prev, nx]`
      have key : ∀ nx, nx ∈ nb g cur → (∀ b, (nb g cur).count b = ind (b = prev) + ind (b = nx)) →
          ∃ rem g'', followLoop fuel g' first cur nx (acc ++ [cur]) = some (acc ++ rem, g'') ∧
            Closed2Regular R g'' ∧ (keys g).Perm (rem ++ keys g'') ∧ (acc ++ rem ++ [first]).IsChain R ∧
            g''.length ≤ g.length := by
        intro nx hnx hcnt
        have hch' : (acc ++ [cur] ++ [nx]).IsChain R := by
          rw [List.append_assoc]
          exact List.isChain_append_cons_cons.2 ⟨hch, hR _ hnx, List.isChain_singleton _⟩
        obtain ⟨rem, g'', h1, h2, h3, h4, h5⟩ := followLoop_spec R fuel g' first z cur nx (acc ++ [cur])
          (inv.step hck hperm hnb hsub hnx hcnt) (by omega) hch'
        rw [List.append_assoc acc] at h1 h4
        exact ⟨cur :: rem, g'', h1, h2, hperm.trans (h3.cons cur), h4, by omega⟩
      obtain ⟨f0, f1, hfol⟩ : ∃ a b, nb g cur = [a, b] := List.length_eq_two.1 hl2
      rw [hfol] at key hprev ⊢
      simp only
      by_cases h0 : f0 = prev
      · subst h0
        rw [if_neg (by simp)]
        exact key f1 (by simp) (count_pair _ _)
      · rw [if_pos (by simpa using h0)]
        have h1 : f1 = prev := by
          simp only [List.mem_cons, List.not_mem_nil, or_false] at hprev
          exact (hprev.resolve_left (Ne.symm h0)).symm
        subst h1
        exact key f0 (by simp) (fun b => by rw [count_pair]; omega)

/-- on a closed 2-regular graph the tracer does not fail, every loop is closed and follows `R`, and the loops use every
    key exactly once -/
theorem traceLoops_spec (R : Nat → Nat → Prop) : ∀ (fuel : Nat) (g : Graph), Closed2Regular R g → g.length < fuel →
    ∃ loops, traceLoops fuel g = some loops ∧
      (∀ l ∈ loops, 2 ≤ l.length ∧ l.head? = l.getLast? ∧ l.IsChain R) ∧
      (loops.flatMap (·.dropLast)).Perm (keys g)
  | 0, g, _, hf => by omega
  | fuel + 1, [], _, _ => ⟨[], by simp [traceLoops], by simp, by simp⟩
  | fuel + 1, (first, following) :: g', good, hf => by
    obtain ⟨hl2, hself, hR⟩ := good.ent _ List.mem_cons_self
    have hnd := good.nodup
    simp only [keys_cons, List.nodup_cons] at hnd
    obtain ⟨nxt, z, rfl⟩ : ∃ a b, following = [a, b] := List.length_eq_two.1 hl2
    have inv : LoopInv R g' first z first nxt := by
      refine ⟨hnd.2, fun e he => good.ent e (List.mem_cons_of_mem _ he), hnd.1, hnd.1,
        fun h => hself (by simp [h]), fun a b => ?_⟩
      have hN := count_nb_remove (g := (first, [nxt, z]) :: g') hnd.1
        (fun x hx => ((nb_cons ..).trans (if_neg (Ne.symm hx))).symm)
        (fun b => by rw [nb_cons, if_pos rfl, count_pair])
      have h := good.sym a b
      rw [hN a b, hN b a] at h
      omega
    have hch : ([first] ++ [nxt]).IsChain R := List.isChain_pair.2 (hR _ (by simp))
    obtain ⟨rem, g'', h1, h2, h3, h4, h5⟩ :=
      followLoop_spec R (((first, [nxt, z]) :: g').length + 1) g' first z first nxt [first] inv
        (by simp only [List.length_cons]; omega) hch
    obtain ⟨more, m1, m2, m3⟩ := traceLoops_spec R fuel g'' h2 (by simp at hf; omega)
    refine ⟨([first] ++ rem ++ [first]) :: more, ?_, ?_, ?_⟩
    · rw [traceLoops]
      simp only [h1, m1]
    · intro l hl
      rcases List.mem_cons.1 hl with h | h
      · subst h
        refine ⟨by simp, ?_, h4⟩
        rw [List.getLast?_concat]; rfl
      · exact m2 l h
    · simp only [List.flatMap_cons, List.dropLast_concat, keys_cons]
      exact ((m3.append_left rem).cons first).trans (h3.cons first).symm

theorem nb_graphInsert (g : Graph) (a b x : Nat) :
    nb (graphInsert g a b) x = if x = a then nb g a ++ [b] else nb g x := by
  induction g with
  | nil => simp only [graphInsert, nb_cons, nb_nil, List.nil_append, eq_comm (a := a)]
  | cons e g ih =>
    obtain ⟨k, vs⟩ := e
    simp only [graphInsert, beq_iff_eq]
    by_cases hk : k = a
    · subst hk
      by_cases hx : x = k
      · subst hx; simp only [if_true, nb_cons]
      · simp only [if_true, nb_cons, if_neg hx, if_neg (Ne.symm hx)]
    · rw [if_neg hk, nb_cons, ih, nb_cons, nb_cons, if_neg hk]
      by_cases hx : x = a
      · subst hx
        rw [if_pos rfl, if_pos rfl, if_neg hk]
      · rw [if_neg hx, if_neg hx]

theorem keys_graphInsert (g : Graph) (a b : Nat) :
    keys (graphInsert g a b) = if a ∈ keys g then keys g else keys g ++ [a] := by
  induction g with
  | nil => simp [graphInsert]
  | cons e g ih =>
    obtain ⟨k, vs⟩ := e
    simp only [graphInsert, beq_iff_eq]
    by_cases hk : k = a
    · subst hk
      simp
    · rw [if_neg hk, keys_cons, ih]
      simp only [keys_cons, List.mem_cons]
      by_cases hm : a ∈ keys g
      · rw [if_pos hm, if_pos (Or.inr hm)]
      · rw [if_neg hm, if_neg (by rintro (h | h); exact hk h.symm; exact hm h)]
        rfl

/-- insert a list of arcs `(a, b)` (meaning: push `b` under key `a`) -/
def insAll (arcs : List (Nat × Nat)) (g : Graph) : Graph := arcs.foldl (fun g p => graphInsert g p.1 p.2) g

theorem insAll_cons (p : Nat × Nat) (arcs : List (Nat × Nat)) (g : Graph) :
    insAll (p :: arcs) g = insAll arcs (graphInsert g p.1 p.2) := rfl

theorem nb_insAll (arcs : List (Nat × Nat)) (g : Graph) (x : Nat) :
    nb (insAll arcs g) x = nb g x ++ (arcs.filter (fun p => p.1 = x)).map (·.2) := by
  induction arcs generalizing g with
  | nil => simp [insAll]
  | cons p arcs ih =>
    rw [insAll_cons, ih, nb_graphInsert]
    by_cases h : x = p.1
    · subst h
      simp
    · rw [if_neg h, List.filter_cons_of_neg (by simpa using fun h' => h h'.symm)]

theorem mem_keys_graphInsert (g : Graph) (a b x : Nat) : x ∈ keys (graphInsert g a b) ↔ x ∈ keys g ∨ x = a := by
  rw [keys_graphInsert]
  split_ifs with h
  · exact ⟨Or.inl, fun h' => h'.elim id (fun e => e ▸ h)⟩
  · rw [List.mem_append, List.mem_singleton]

theorem mem_keys_insAll (arcs : List (Nat × Nat)) (g : Graph) (x : Nat) :
    x ∈ keys (insAll arcs g) ↔ x ∈ keys g ∨ ∃ p ∈ arcs, p.1 = x := by
  induction arcs generalizing g with
  | nil => simp [insAll]
  | cons p arcs ih =>
    rw [insAll_cons, ih, mem_keys_graphInsert]
    simp only [List.mem_cons, exists_eq_or_imp, or_assoc, eq_comm (a := x)]

theorem nodup_keys_insAll (arcs : List (Nat × Nat)) (g : Graph) (h : (keys g).Nodup) :
    (keys (insAll arcs g)).Nodup :=
  foldl_inv (fun g => (keys g).Nodup) _ arcs g (fun g p _ hg => by
    rw [keys_graphInsert]
    split_ifs with hm
    · exact hg
    · exact hg.append (List.nodup_singleton _) (by simpa using hm)) h

theorem count_filter_map (arcs : List (Nat × Nat)) (a b : Nat) :
    ((arcs.filter (fun p => p.1 = a)).map (·.2)).count b = arcs.count (a, b) := by
  rw [List.count_eq_countP, List.countP_map, List.countP_filter, List.count_eq_countP]
  exact List.countP_congr fun p _ => by simp [Prod.ext_iff, and_comm]

theorem length_filter_eq_count (arcs : List (Nat × Nat)) (a : Nat) :
    (arcs.filter (fun p => p.1 = a)).length = (arcs.map (·.1)).count a := by
  rw [← List.countP_eq_length_filter, List.count_eq_countP, List.countP_map]
  exact List.countP_congr fun p _ => by simp

theorem good_insAll (R : Nat → Nat → Prop) (arcs : List (Nat × Nat))
    (hsym : ∀ a b, arcs.count (a, b) = arcs.count (b, a))
    (hdeg : ∀ p ∈ arcs, (arcs.map (·.1)).count p.1 = 2)
    (hnl : ∀ p ∈ arcs, p.1 ≠ p.2)
    (hR : ∀ p ∈ arcs, R p.1 p.2) : Closed2Regular R (insAll arcs []) := by
  have hnd : (keys (insAll arcs [])).Nodup := nodup_keys_insAll arcs [] (by simp)
  have hnb : ∀ x, nb (insAll arcs []) x = (arcs.filter (fun p => p.1 = x)).map (·.2) := by
    intro x; rw [nb_insAll]; simp
  have hmem : ∀ x v, v ∈ nb (insAll arcs []) x → (x, v) ∈ arcs := by
    intro x v hv
    rw [hnb] at hv
    obtain ⟨q, hq, rfl⟩ := List.mem_map.1 hv
    obtain ⟨hq1, hq2⟩ := List.mem_filter.1 hq
    rwa [← of_decide_eq_true hq2]
  refine ⟨hnd, fun e he => ?_, fun a b => by rw [hnb, hnb, count_filter_map, count_filter_map, hsym]⟩
  obtain ⟨p, hp, hpe⟩ := ((mem_keys_insAll arcs [] e.1).1 (List.mem_map_of_mem he)).resolve_left List.not_mem_nil
  rw [← nb_of_mem hnd he]
  refine ⟨?_, fun hm => hnl _ (hmem _ _ hm) rfl, fun v hv => hR _ (hmem _ _ hv)⟩
  rw [hnb, List.length_map, length_filter_eq_count, ← hpe]
  exact hdeg p hp

def cellArcs (w : Nat) (c : (Nat × Nat) × Nat) : List (Nat × Nat) :=
  (cell_connected_edges c.2).flatMap fun p =>
    [(edge_at_coordinates p.1 w c.1.1 c.1.2, edge_at_coordinates p.2 w c.1.1 c.1.2),
     (edge_at_coordinates p.2 w c.1.1 c.1.2, edge_at_coordinates p.1 w c.1.1 c.1.2)]

def arcsOf (w : Nat) (cells : List ((Nat × Nat) × Nat)) : List (Nat × Nat) := cells.flatMap (cellArcs w)

theorem buildGraph_eq (w : Nat) (cells : List ((Nat × Nat) × Nat)) :
    buildGraph w cells = insAll (arcsOf w cells) [] := by
  simp only [buildGraph, insAll, arcsOf, cellArcs, List.foldl_flatMap, List.foldl_cons, List.foldl_nil]

theorem count_flatMap_congr {α β : Type} [BEq β] (l : List α) (f : α → List β) (a b : β)
    (h : ∀ x ∈ l, (f x).count a = (f x).count b) : (l.flatMap f).count a = (l.flatMap f).count b := by
  rw [List.count_flatMap, List.count_flatMap]
  exact congrArg List.sum (List.map_congr_left h)

theorem arcsOf_sym (w : Nat) (cells : List ((Nat × Nat) × Nat)) (a b : Nat) :
    (arcsOf w cells).count (a, b) = (arcsOf w cells).count (b, a) := by
  have hpair : ∀ u v a b : Nat, [(u, v), (v, u)].count (a, b) = δ v u a b + δ u v a b := fun u v a b => by
    simp only [List.count_cons, List.count_nil, beq_iff_eq, Prod.mk.injEq, δ, ind, eq_comm (b := a),
      eq_comm (b := b), Nat.zero_add]
  apply count_flatMap_congr
  intro c _
  apply count_flatMap_congr
  intro p _
  rw [hpair, hpair, δ_swap, δ_swap _ _ a b, Nat.add_comm]

/-- `Σ_{i<n} f i` -/
def rsum (n : Nat) (f : Nat → Nat) : Nat := ((List.range n).map f).sum

theorem rsum_add (n : Nat) (f g : Nat → Nat) : rsum n (fun i => f i + g i) = rsum n f + rsum n g :=
  List.sum_map_add

theorem rsum_congr (n : Nat) (f g : Nat → Nat) (h : ∀ i < n, f i = g i) : rsum n f = rsum n g := by
  unfold rsum
  congr 1
  exact List.map_congr_left (fun i hi => h i (List.mem_range.1 hi))

theorem rsum_zero (n : Nat) (f : Nat → Nat) (h : ∀ i < n, f i = 0) : rsum n f = 0 := by
  unfold rsum
  apply List.sum_eq_zero
  intro x hx
  obtain ⟨i, hi, rfl⟩ := List.mem_map.1 hx
  exact h i (List.mem_range.1 hi)

theorem rsum_shift (n : Nat) (f : Nat → Nat) (h0 : f 0 = 0) (hn : f (n + 1) = 0) :
    rsum (n + 1) (fun i => f (i + 1)) = rsum (n + 1) f := by
  unfold rsum
  rw [List.sum_range_succ, List.sum_range_succ', hn, h0]
  simp

theorem count_flatMap_range (n : Nat) (f : Nat → List Nat) (e : Nat) :
    ((List.range n).flatMap f).count e = rsum n fun i => (f i).count e := by
  rw [List.count_flatMap, rsum]
  rfl

theorem corner_left (rows : List (List Bool)) (y : Nat) : corner rows 0 y = false := by
  simp [corner]

theorem corner_top (rows : List (List Bool)) (x : Nat) : corner rows x 0 = false := by
  simp [corner]

theorem corner_bottom (rows : List (List Bool)) (x : Nat) : corner rows x (rows.length + 1) = false := by
  simp [corner, List.getD_eq_getElem?_getD]

theorem corner_right (w : Nat) (rows : List (List Bool)) (hrows : ∀ r ∈ rows, r.length = w) (y : Nat) :
    corner rows (w + 1) y = false := by
  unfold corner
  split_ifs with h
  · rfl
  · rw [Nat.add_sub_cancel, List.getD_eq_getElem?_getD, List.getD_eq_getElem?_getD]
    cases hr : rows[y - 1]? with
    | none => rfl
    | some r =>
      rw [Option.getD_some, List.getElem?_eq_none (le_of_eq (hrows r (List.mem_of_getElem? hr)))]
      rfl

def cellValue (rows : List (List Bool)) (x y : Nat) : Nat :=
  cell_from_corners (corner rows x y) (corner rows (x + 1) y) (corner rows x (y + 1)) (corner rows (x + 1) (y + 1))

/-- indicators: `e` is the top (left) side of position (x, y) and that side separates inside from outside -/
def tInd (w : Nat) (rows : List (List Bool)) (e x y : Nat) : Nat :=
  ind (corner rows x y ≠ corner rows (x + 1) y ∧ e = edge_at_coordinates edge_top w x y)

def lInd (w : Nat) (rows : List (List Bool)) (e x y : Nat) : Nat :=
  ind (corner rows x y ≠ corner rows x (y + 1) ∧ e = edge_at_coordinates edge_left w x y)

theorem connected_edges_unmixed : ∀ tl tr bl br : Bool,
    ((tl || tr || bl || br) && !(tl && tr && bl && br)) = false →
    cell_connected_edges (cell_from_corners tl tr bl br) = [] := by
  decide

theorem arcs_mixed (w : Nat) (rows : List (List Bool)) :
    arcsOf w (mixedCells w rows) = (List.range (rows.length + 1)).flatMap fun y =>
      (List.range (w + 1)).flatMap fun x => cellArcs w ((x, y), cellValue rows x y) := by
  simp only [arcsOf, mixedCells, List.flatMap_assoc, List.filterMap_eq_flatMap_toList]
  congr 1
  funext y
  congr 1
  funext x
  split_ifs with h
  · exact List.flatMap_singleton ..
  · rw [cellArcs, cellValue, connected_edges_unmixed _ _ _ _ (Bool.eq_false_iff.2 h)]
    rfl

theorem sidesOf_perm {c : Nat} (hc : c < 16) : (C17.sidesOf c).Perm ((List.range 4).filter (C17.sideMixed c)) := by
  obtain ⟨hcount, hlt⟩ := C17.table_spec c hc
  rw [List.perm_iff_count]
  intro s
  by_cases hs : s < 4
  · rw [hcount s hs, (List.nodup_range.filter _).count]
    simp only [List.mem_filter, List.mem_range, hs, true_and]
  · rw [List.count_eq_zero_of_not_mem, List.count_eq_zero_of_not_mem]
    · exact fun h => hs (List.mem_range.1 (List.mem_filter.1 h).1)
    · intro h
      obtain ⟨p, hp, hsp⟩ := List.mem_flatMap.1 h
      have := hlt p hp
      simp only [List.mem_cons, List.not_mem_nil, or_false] at hsp
      omega

theorem sideMixed_from_corners (tl tr bl br : Bool) :
    C17.sideMixed (cell_from_corners tl tr bl br) edge_left = (tl != bl) ∧
    C17.sideMixed (cell_from_corners tl tr bl br) edge_top = (tl != tr) ∧
    C17.sideMixed (cell_from_corners tl tr bl br) edge_right = (tr != br) ∧
    C17.sideMixed (cell_from_corners tl tr bl br) edge_bottom = (bl != br) := by
  obtain ⟨h1, h2, h3, h4, -⟩ := C17.from_corners_bits tl tr bl br
  exact ⟨congrArg₂ bne h1 h3, congrArg₂ bne h1 h2, congrArg₂ bne h2 h4, congrArg₂ bne h3 h4⟩

theorem srcs_cellArcs (w : Nat) (c : (Nat × Nat) × Nat) :
    (cellArcs w c).map (·.1) = (C17.sidesOf c.2).map (edge_at_coordinates · w c.1.1 c.1.2) := by
  simp only [cellArcs, C17.sidesOf, List.map_flatMap, List.map_cons, List.map_nil]

theorem map_filter_cons {α β : Type} (p : α → Bool) (f : α → β) (a : α) (l : List α) :
    ((a :: l).filter p).map f = (if p a then [f a] else []) ++ (l.filter p).map f := by
  cases h : p a <;> simp [h]

theorem count_opt (p : Prop) [Decidable p] (T e : Nat) : (if p then [T] else []).count e = ind (p ∧ e = T) := by
  by_cases h : p
  · rw [if_pos h, ind, if_congr (and_iff_right h) rfl rfl]
    simp only [List.count_cons, List.count_nil, beq_iff_eq, eq_comm (a := e), Nat.zero_add]
  · rw [if_neg h, ind, if_neg (fun h' => h h'.1)]
    rfl

/-- the right and bottom sides are named as the left and top sides of the neighbouring positions -/
theorem count_srcs_cell (w x y e : Nat) (tl tr bl br : Bool) :
    ((cellArcs w ((x, y), cell_from_corners tl tr bl br)).map (·.1)).count e =
      ind (tl ≠ tr ∧ e = edge_at_coordinates edge_top w x y) + ind (tl ≠ bl ∧ e = edge_at_coordinates edge_left w x y) +
      ind (tr ≠ br ∧ e = edge_at_coordinates edge_left w (x + 1) y) +
      ind (bl ≠ br ∧ e = edge_at_coordinates edge_top w x (y + 1)) := by
  obtain ⟨m0, m1, m2, m3⟩ := sideMixed_from_corners tl tr bl br
  rw [← (C17.edge_ids_shared w x y).1, ← (C17.edge_ids_shared w x y).2, srcs_cellArcs,
    ((sidesOf_perm (C17.from_corners_bits tl tr bl br).2.2.2.2).map _).count_eq,
    show List.range 4 = [edge_left, edge_top, edge_right, edge_bottom] from rfl]
  simp only [map_filter_cons, m0, m1, m2, m3, List.filter_nil, List.map_nil, List.count_append, count_opt, bne_iff_ne,
    List.count_nil]
  omega

theorem count_srcs (w : Nat) (rows : List (List Bool)) (e : Nat) :
    ((arcsOf w (mixedCells w rows)).map (·.1)).count e =
      rsum (rows.length + 1) fun y => rsum (w + 1) fun x =>
        tInd w rows e x y + lInd w rows e x y + lInd w rows e (x + 1) y + tInd w rows e x (y + 1) := by
  rw [arcs_mixed]
  simp only [List.map_flatMap, count_flatMap_range]
  exact rsum_congr _ _ _ fun y _ => rsum_congr _ _ _ fun x _ => count_srcs_cell w x y e _ _ _ _

theorem count_boundary (w : Nat) (rows : List (List Bool)) (e : Nat) :
    (boundaryEdges w rows).count e =
      rsum (rows.length + 1) fun y => rsum (w + 1) fun x => tInd w rows e x y + lInd w rows e x y := by
  simp only [boundaryEdges, count_flatMap_range, List.count_append, count_opt, bne_iff_ne]
  rfl

theorem count_srcs_eq (w : Nat) (rows : List (List Bool)) (hrows : ∀ r ∈ rows, r.length = w) (e : Nat) :
    ((arcsOf w (mixedCells w rows)).map (·.1)).count e = 2 * (boundaryEdges w rows).count e := by
  -- summed over a row the right sides are the left sides again, and summed over the grid the bottom sides are the top
  -- sides: the sides on the rim of the grid separate outside from outside
  have hL : ∀ y, rsum (w + 1) (fun x => lInd w rows e (x + 1) y) = rsum (w + 1) fun x => lInd w rows e x y := fun y =>
    rsum_shift w (fun x => lInd w rows e x y) (by simp [lInd, ind, corner_left])
      (by simp [lInd, ind, corner_right w rows hrows])
  have hT : rsum (rows.length + 1) (fun y => rsum (w + 1) fun x => tInd w rows e x (y + 1)) =
      rsum (rows.length + 1) fun y => rsum (w + 1) fun x => tInd w rows e x y :=
    rsum_shift rows.length (fun y => rsum (w + 1) fun x => tInd w rows e x y)
      (rsum_zero _ _ fun x _ => by simp [tInd, ind, corner_top])
      (rsum_zero _ _ fun x _ => by simp [tInd, ind, corner_bottom])
  rw [count_srcs, count_boundary]
  simp only [rsum_add, hL, hT]
  ring

/-- the boundary edges contributed by position (x, y) -/
def bcell (w : Nat) (rows : List (List Bool)) (x y : Nat) : List Nat :=
  (if corner rows x y != corner rows (x + 1) y then [edge_at_coordinates edge_top w x y] else []) ++
  (if corner rows x y != corner rows x (y + 1) then [edge_at_coordinates edge_left w x y] else [])

theorem mem_bcell {w : Nat} {rows : List (List Bool)} {x y e : Nat} (h : e ∈ bcell w rows x y) :
    e = edge_at_coordinates edge_top w x y ∨ e = edge_at_coordinates edge_left w x y := by
  simp only [bcell, List.mem_append, List.mem_ite_nil_right, List.mem_singleton] at h
  exact h.imp And.right And.right

theorem nodup_bcell (w : Nat) (rows : List (List Bool)) (x y : Nat) : (bcell w rows x y).Nodup := by
  have hne : edge_at_coordinates edge_top w x y ≠ edge_at_coordinates edge_left w x y := by
    obtain ⟨h1, h2, _, _⟩ := C17.at_coordinates_eq w x y
    rw [h1, h2]; omega
  unfold bcell
  split_ifs <;> simp [hne]

theorem bcell_inj {w : Nat} {rows : List (List Bool)} {x y x' y' e : Nat} (hx : x < w + 1) (hx' : x' < w + 1)
    (h : e ∈ bcell w rows x y) (h' : e ∈ bcell w rows x' y') : x = x' ∧ y = y' := by
  obtain ⟨i1, i2, i3⟩ := C17.edge_id_injective w x y x' y' (Nat.le_of_lt_succ hx) (Nat.le_of_lt_succ hx')
  obtain ⟨_, _, j3⟩ := C17.edge_id_injective w x' y' x y (Nat.le_of_lt_succ hx') (Nat.le_of_lt_succ hx)
  rcases mem_bcell h with h | h <;> rcases mem_bcell h' with h' | h'
  · exact i2 (h.symm.trans h')
  · exact absurd (h'.symm.trans h) j3
  · exact absurd (h.symm.trans h') i3
  · exact i1 (h.symm.trans h')

theorem nodup_boundaryEdges (w : Nat) (rows : List (List Bool)) : (boundaryEdges w rows).Nodup := by
  show ((List.range (rows.length + 1)).flatMap fun y => (List.range (w + 1)).flatMap fun x => bcell w rows x y).Nodup
  rw [List.nodup_flatMap]
  refine ⟨fun y _ => ?_, List.nodup_range.pairwise_of_forall_ne fun y _ y' _ hy e h h' => ?_⟩
  · rw [List.nodup_flatMap]
    exact ⟨fun x _ => nodup_bcell w rows x y, List.nodup_range.pairwise_of_forall_ne fun x hx x' hx' hxx e h h' =>
      hxx (bcell_inj (List.mem_range.1 hx) (List.mem_range.1 hx') h h').1⟩
  · obtain ⟨x, hx, he⟩ := List.mem_flatMap.1 h
    obtain ⟨x', hx', he'⟩ := List.mem_flatMap.1 h'
    exact hy (bcell_inj (List.mem_range.1 hx) (List.mem_range.1 hx') he he').2

theorem connected_edges_sides (c : Nat) (q : Nat × Nat) (hq : q ∈ cell_connected_edges c) :
    q.1 ≠ q.2 ∧ q.1 < 4 ∧ q.2 < 4 := by
  by_cases hc : c < 16
  · exact (C17.table_spec c hc).2 q hq
  · have : cell_connected_edges c = [] := by
      unfold cell_connected_edges
      split <;> first | rfl | omega
    rw [this] at hq
    cases hq

theorem side_ids_nodup (w x y : Nat) : ((List.range 4).map (edge_at_coordinates · w x y)).Nodup := by
  obtain ⟨h0, h1, h2, h3⟩ := C17.at_coordinates_eq w x y
  show [edge_at_coordinates edge_left w x y, edge_at_coordinates edge_top w x y, edge_at_coordinates edge_right w x y,
    edge_at_coordinates edge_bottom w x y].Nodup
  rw [h0, h1, h2, h3]
  simp only [List.nodup_cons, List.mem_cons, List.not_mem_nil, or_false, not_or, List.nodup_nil, not_false_eq_true, and_true]
  omega

theorem mem_arcsOf {w : Nat} {cells : List ((Nat × Nat) × Nat)} {p : Nat × Nat} (hp : p ∈ arcsOf w cells) :
    ∃ c ∈ cells, ∃ q ∈ cell_connected_edges c.2,
      (p.1 = edge_at_coordinates q.1 w c.1.1 c.1.2 ∧ p.2 = edge_at_coordinates q.2 w c.1.1 c.1.2) ∨
      (p.2 = edge_at_coordinates q.1 w c.1.1 c.1.2 ∧ p.1 = edge_at_coordinates q.2 w c.1.1 c.1.2) := by
  obtain ⟨c, hc, hp⟩ := List.mem_flatMap.1 hp
  obtain ⟨q, hq, hp⟩ := List.mem_flatMap.1 hp
  refine ⟨c, hc, q, hq, ?_⟩
  simp only [List.mem_cons, List.not_mem_nil, or_false] at hp
  rcases hp with rfl | rfl
  · exact Or.inl ⟨rfl, rfl⟩
  · exact Or.inr ⟨rfl, rfl⟩

theorem arcsOf_ne {w : Nat} {cells : List ((Nat × Nat) × Nat)} {p : Nat × Nat} (hp : p ∈ arcsOf w cells) :
    p.1 ≠ p.2 := by
  obtain ⟨c, _, q, hq, h⟩ := mem_arcsOf hp
  obtain ⟨hne, h1, h2⟩ := connected_edges_sides c.2 q hq
  have inj := List.inj_on_of_nodup_map (side_ids_nodup w c.1.1 c.1.2) (List.mem_range.2 h1) (List.mem_range.2 h2)
  rcases h with ⟨e1, e2⟩ | ⟨e1, e2⟩
  · rw [e1, e2]; exact fun e => hne (inj e)
  · rw [e1, e2]; exact fun e => hne (inj e.symm)

theorem mem_srcs_iff (w : Nat) (rows : List (List Bool)) (hrows : ∀ r ∈ rows, r.length = w) (e : Nat) :
    e ∈ (arcsOf w (mixedCells w rows)).map (·.1) ↔ e ∈ boundaryEdges w rows := by
  rw [← List.count_pos_iff, ← List.count_pos_iff (l := boundaryEdges w rows), count_srcs_eq w rows hrows]
  omega

theorem build_good (w : Nat) (rows : List (List Bool)) (hrows : ∀ r ∈ rows, r.length = w)
    (R : Nat → Nat → Prop) (hR : ∀ p ∈ arcsOf w (mixedCells w rows), R p.1 p.2) :
    Closed2Regular R (buildGraph w (mixedCells w rows)) := by
  rw [buildGraph_eq]
  refine good_insAll R _ (arcsOf_sym w _) ?_ (fun p hp => arcsOf_ne hp) hR
  intro p hp
  have hm : p.1 ∈ (arcsOf w (mixedCells w rows)).map (·.1) := List.mem_map.2 ⟨p, hp, rfl⟩
  rw [count_srcs_eq w rows hrows,
    List.count_eq_one_of_mem (nodup_boundaryEdges w rows) ((mem_srcs_iff w rows hrows _).1 hm)]

theorem build_keys (w : Nat) (rows : List (List Bool)) (hrows : ∀ r ∈ rows, r.length = w) :
    (keys (buildGraph w (mixedCells w rows))).Perm (boundaryEdges w rows) := by
  rw [buildGraph_eq]
  rw [List.perm_ext_iff_of_nodup (nodup_keys_insAll _ [] (by simp)) (nodup_boundaryEdges w rows)]
  intro e
  rw [mem_keys_insAll, ← mem_srcs_iff w rows hrows]
  simp

end Trace
