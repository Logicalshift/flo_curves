import FloVerif.Model.Graph
import FloVerif.Lemmas.Loop
import Mathlib.Tactic.SplitIfs
import Mathlib.Data.List.Basic
import Mathlib.Data.List.Nodup
/-!
The `GraphPath` model (`Model/Graph.lean`) for C03: how the edge and `connected_from` lists read after each elementary update,
counting over all edges, the invariant `Wf` = `FolWf` + `ConnOk`, and that the dividing stage of `detect_collisions`,
`recalculate_reverse_connections` and `merge` keep or establish it.
-/
namespace Model.Graph

theorem mem_modify {α : Type} {l : List α} {i : Nat} {f : α → α} {x : α} (h : x ∈ l.modify i f) :
    x ∈ l ∨ ∃ y, l[i]? = some y ∧ x = f y := by
  obtain ⟨j, hj⟩ := List.mem_iff_getElem?.mp h
  rw [List.getElem?_modify] at hj
  cases hq : l[j]? with
  | none => simp [hq] at hj
  | some a =>
    simp only [hq, Option.map_eq_map, Option.map_some, Option.some.injEq] at hj
    split_ifs at hj with hc
    · subst hc; exact Or.inr ⟨a, hq, hj.symm⟩
    · exact Or.inl (hj ▸ List.mem_of_getElem? hq)

theorem edgesAt_of_lt {g : Graph} {p : Nat} (h : p < g.length) : edgesAt g p = g[p].edges := by
  simp [edgesAt, List.getElem?_eq_getElem h]

theorem edgesAt_of_ge {g : Graph} {p : Nat} (h : g.length ≤ p) : edgesAt g p = [] := by
  simp [edgesAt, List.getElem?_eq_none h]

theorem connAt_of_lt {g : Graph} {p : Nat} (h : p < g.length) : connAt g p = g[p].conn := by
  simp [connAt, List.getElem?_eq_getElem h]

theorem connAt_of_ge {g : Graph} {p : Nat} (h : g.length ≤ p) : connAt g p = [] := by
  simp [connAt, List.getElem?_eq_none h]

theorem mem_edgesAt_of_edgeAt {g : Graph} {p e : Nat} {ed : Edge} (h : edgeAt g p e = some ed) : ed ∈ edgesAt g p :=
  List.mem_of_getElem? h

theorem mem_edgesAt_lt {g : Graph} {a : Nat} {e : Edge} (h : e ∈ edgesAt g a) : a < g.length := by
  by_contra ha
  rw [edgesAt_of_ge (Nat.le_of_not_lt ha)] at h
  simp at h

theorem mem_connAt_lt {g : Graph} {a c : Nat} (h : c ∈ connAt g a) : a < g.length := by
  by_contra ha
  rw [connAt_of_ge (Nat.le_of_not_lt ha)] at h
  simp at h

theorem lt_of_edgeAt {g : Graph} {p e : Nat} {ed : Edge} (h : edgeAt g p e = some ed) : p < g.length :=
  mem_edgesAt_lt (mem_edgesAt_of_edgeAt h)

theorem idx_lt_of_edgeAt {g : Graph} {p e : Nat} {ed : Edge} (h : edgeAt g p e = some ed) : e < (edgesAt g p).length :=
  (List.getElem?_eq_some_iff.mp h).1

theorem mem_allEdges {g : Graph} {e : Edge} : e ∈ allEdges g ↔ ∃ a, e ∈ edgesAt g a := by
  unfold allEdges
  rw [List.mem_flatMap]
  constructor
  · rintro ⟨pt, hpt, he⟩
    obtain ⟨i, hi, rfl⟩ := List.mem_iff_getElem.mp hpt
    exact ⟨i, by rw [edgesAt_of_lt hi]; exact he⟩
  · rintro ⟨a, he⟩
    have ha := mem_edgesAt_lt he
    exact ⟨g[a], List.getElem_mem ha, by rwa [edgesAt_of_lt ha] at he⟩

@[simp] theorem length_updEdges (g : Graph) (p : Nat) (f) : (updEdges g p f).length = g.length := by
  simp [updEdges]

@[simp] theorem length_updConn (g : Graph) (p : Nat) (f) : (updConn g p f).length = g.length := by
  simp [updConn]

@[simp] theorem length_pushEdge (g : Graph) (p : Nat) (ed) : (pushEdge g p ed).length = g.length := by
  simp [pushEdge]

@[simp] theorem length_updEdge (g : Graph) (p e : Nat) (f) : (updEdge g p e f).length = g.length := by
  simp [updEdge]

theorem edgesAt_updEdges (g : Graph) (p : Nat) (f) (q : Nat) :
    edgesAt (updEdges g p f) q = if q = p ∧ p < g.length then f (edgesAt g p) else edgesAt g q := by
  unfold edgesAt updEdges
  rw [List.getElem?_modify]
  by_cases hq : q = p
  · subst hq
    by_cases hl : q < g.length <;> simp [hl]
  · cases h : g[q]? <;> simp [hq, Ne.symm hq]

theorem connAt_updEdges (g : Graph) (p : Nat) (f) (q : Nat) : connAt (updEdges g p f) q = connAt g q := by
  unfold connAt updEdges
  rw [List.getElem?_modify]
  cases h : g[q]? <;> simp
  split_ifs <;> rfl

theorem connAt_updConn (g : Graph) (p : Nat) (f) (q : Nat) :
    connAt (updConn g p f) q = if q = p ∧ p < g.length then f (connAt g p) else connAt g q := by
  unfold connAt updConn
  rw [List.getElem?_modify]
  by_cases hq : q = p
  · subst hq
    by_cases hl : q < g.length <;> simp [hl]
  · cases h : g[q]? <;> simp [hq, Ne.symm hq]

theorem edgesAt_updConn (g : Graph) (p : Nat) (f) (q : Nat) : edgesAt (updConn g p f) q = edgesAt g q := by
  unfold edgesAt updConn
  rw [List.getElem?_modify]
  cases h : g[q]? <;> simp
  split_ifs <;> rfl

theorem edgesAt_pushEdge (g : Graph) (p : Nat) (ed : Edge) (q : Nat) :
    edgesAt (pushEdge g p ed) q = if q = p ∧ p < g.length then edgesAt g p ++ [ed] else edgesAt g q := by
  simp [pushEdge, edgesAt_updEdges]

theorem edgesAt_updEdge (g : Graph) (p e : Nat) (f) (q : Nat) :
    edgesAt (updEdge g p e f) q = if q = p ∧ p < g.length then (edgesAt g p).modify e f else edgesAt g q := by
  simp [updEdge, edgesAt_updEdges]

theorem connAt_pushEdge (g : Graph) (p : Nat) (ed : Edge) (q : Nat) : connAt (pushEdge g p ed) q = connAt g q := by
  simp [pushEdge, connAt_updEdges]

theorem connAt_updEdge (g : Graph) (p e : Nat) (f) (q : Nat) : connAt (updEdge g p e f) q = connAt g q := by
  simp [updEdge, connAt_updEdges]

theorem length_edgesAt_updEdge (g : Graph) (p e : Nat) (f) (a : Nat) :
    (edgesAt (updEdge g p e f) a).length = (edgesAt g a).length := by
  rw [edgesAt_updEdge]
  split_ifs with hc
  · rw [hc.1, List.length_modify]
  · rfl

theorem length_edgesAt_pushEdge {g : Graph} {p : Nat} (ed : Edge) (hp : p < g.length) (a : Nat) :
    (edgesAt (pushEdge g p ed) a).length = (edgesAt g a).length + if a = p then 1 else 0 := by
  rw [edgesAt_pushEdge]
  by_cases ha : a = p
  · rw [if_pos ⟨ha, hp⟩, if_pos ha, ha, List.length_append, List.length_singleton]
  · rw [if_neg fun hh => ha hh.1, if_neg ha, Nat.add_zero]

theorem graph_ext {g h : Graph} (hl : g.length = h.length) (he : ∀ p, edgesAt g p = edgesAt h p)
    (hc : ∀ p, connAt g p = connAt h p) : g = h := by
  apply List.ext_getElem hl
  intro i h1 h2
  have e := he i
  have c := hc i
  rw [edgesAt_of_lt h1, edgesAt_of_lt h2] at e
  rw [connAt_of_lt h1, connAt_of_lt h2] at c
  cases hx : g[i]; cases hy : h[i]
  simp_all

/-- number of edges of the graph satisfying `q` -/
def cntP (q : Edge → Bool) (g : Graph) : Nat := (allEdges g).countP q

theorem cntP_nil (q : Edge → Bool) : cntP q [] = 0 := rfl

theorem cntP_cons (q : Edge → Bool) (pt : Point) (g : Graph) : cntP q (pt :: g) = pt.edges.countP q + cntP q g := by
  simp [cntP, allEdges, List.countP_append]

theorem cntP_append (q : Edge → Bool) (g h : Graph) : cntP q (g ++ h) = cntP q g + cntP q h := by
  simp [cntP, allEdges, List.countP_append]

theorem cntP_append_empty (q : Edge → Bool) (g : Graph) : cntP q (g ++ [Point.empty]) = cntP q g := by
  rw [cntP_append]
  have : cntP q [Point.empty] = 0 := by simp [cntP, allEdges, Point.empty]
  omega

theorem cntP_congr {g : Graph} {q q' : Edge → Bool} (h : ∀ a, ∀ e ∈ edgesAt g a, q e = q' e) : cntP q g = cntP q' g := by
  unfold cntP
  apply List.countP_congr
  intro e he
  obtain ⟨a, ha⟩ := mem_allEdges.mp he
  rw [h a e ha]

theorem cntP_eq_zero {g : Graph} {q : Edge → Bool} (h : ∀ a, ∀ e ∈ edgesAt g a, q e = false) : cntP q g = 0 := by
  unfold cntP
  rw [List.countP_eq_zero]
  intro e he
  obtain ⟨a, ha⟩ := mem_allEdges.mp he
  simp [h a e ha]

theorem cntP_updEdges (q : Edge → Bool) (g : Graph) (p : Nat) (f) (hp : p < g.length) :
    cntP q (updEdges g p f) + (edgesAt g p).countP q = cntP q g + (f (edgesAt g p)).countP q := by
  induction g generalizing p with
  | nil => simp at hp
  | cons pt g ih =>
    cases p with
    | zero =>
      simp [updEdges, List.modify, cntP_cons, edgesAt]
      omega
    | succ p =>
      have hp' : p < g.length := by simpa using hp
      have := ih p hp'
      simp only [updEdges, List.modify_succ_cons, cntP_cons] at this ⊢
      have e1 : edgesAt (pt :: g) (p + 1) = edgesAt g p := by simp [edgesAt]
      rw [e1]
      omega

section
set_option linter.unusedVariables false
theorem cntP_updEdges_ge (q : Edge → Bool) (g : Graph) (p : Nat) (f) (hp : g.length ≤ p) :
    updEdges g p f = g := by
  apply List.ext_getElem? 
  intro i
  simp only [updEdges, List.getElem?_modify]
  by_cases h : p = i
  · subst h; simp [List.getElem?_eq_none hp]
  · cases g[i]? <;> simp [h]
end

theorem cntP_eq_sum (q : Edge → Bool) (g : Graph) : cntP q g = (g.map fun pt => pt.edges.countP q).sum := by
  induction g with
  | nil => rfl
  | cons pt g ih => rw [cntP_cons, ih]; simp

theorem cntP_eq_sum_range (q : Edge → Bool) (g : Graph) :
    cntP q g = ((List.range g.length).map fun a => (edgesAt g a).countP q).sum := by
  rw [cntP_eq_sum]
  congr 1
  apply List.ext_getElem
  · simp
  · intro i h1 h2
    simp only [List.getElem_map, List.getElem_range]
    rw [edgesAt_of_lt (by simpa using h1)]

theorem cntP_of_edgesAt_map {g h : Graph} (fe : Edge → Edge) (hl : h.length = g.length)
    (he : ∀ a, edgesAt h a = (edgesAt g a).map fe) (q : Edge → Bool) : cntP q h = cntP (q ∘ fe) g := by
  rw [cntP_eq_sum_range, cntP_eq_sum_range, hl]
  congr 1
  apply List.map_congr_left
  intro a _
  rw [he, List.countP_map]

theorem cntP_of_same_edges {g h : Graph} (hl : h.length = g.length) (he : ∀ a, edgesAt h a = edgesAt g a) (q : Edge → Bool) :
    cntP q h = cntP q g :=
  cntP_of_edgesAt_map id hl (fun a => by rw [he, List.map_id]) q

theorem cntP_updConn (q : Edge → Bool) (g : Graph) (p : Nat) (f) : cntP q (updConn g p f) = cntP q g :=
  cntP_of_same_edges (length_updConn g p f) (edgesAt_updConn g p f) q

theorem countP_modify (q : Edge → Bool) (l : List Edge) (e : Nat) (f : Edge → Edge) (old : Edge) (h : l[e]? = some old) :
    (l.modify e f).countP q + (if q old then 1 else 0) = l.countP q + (if q (f old) then 1 else 0) := by
  induction l generalizing e with
  | nil => simp at h
  | cons a l ih =>
    cases e with
    | zero =>
      simp at h; subst h
      simp [List.modify, List.countP_cons]
      omega
    | succ e =>
      have := ih e (by simpa using h)
      simp only [List.modify_succ_cons, List.countP_cons]
      omega

theorem countP_eraseIdx (q : Edge → Bool) (l : List Edge) (e : Nat) (old : Edge) (h : l[e]? = some old) :
    (l.eraseIdx e).countP q + (if q old then 1 else 0) = l.countP q := by
  induction l generalizing e with
  | nil => simp at h
  | cons a l ih =>
    cases e with
    | zero =>
      simp at h; subst h
      simp [List.countP_cons]
    | succ e =>
      have := ih e (by simpa using h)
      simp only [List.eraseIdx_cons_succ, List.countP_cons]
      omega

theorem cntP_pushEdge (q : Edge → Bool) (g : Graph) (p : Nat) (ed : Edge) (hp : p < g.length) :
    cntP q (pushEdge g p ed) = cntP q g + (if q ed then 1 else 0) := by
  have := cntP_updEdges q g p (· ++ [ed]) hp
  simp only [List.countP_append, List.countP_cons, List.countP_nil] at this
  unfold pushEdge
  omega

theorem cntP_updEdge (q : Edge → Bool) (g : Graph) (p e : Nat) (f) (old : Edge) (h : edgeAt g p e = some old) :
    cntP q (updEdge g p e f) + (if q old then 1 else 0) = cntP q g + (if q (f old) then 1 else 0) := by
  have h1 := cntP_updEdges q g p (·.modify e f) (lt_of_edgeAt h)
  have h2 := countP_modify q (edgesAt g p) e f old h
  unfold updEdge
  omega

/-- a predicate on edges that does not look at the end point and the following index -/
def IndexBlind (q : Edge → Bool) : Prop := ∀ x y z, q { x with endIdx := y, fol := z } = q x

/-- the edge names edge `f` of point `p` as its following edge -/
def pointsTo (p f : Nat) (e : Edge) : Bool := e.endIdx == p && e.fol == f

@[simp] theorem pointsTo_iff (p f : Nat) (e : Edge) : pointsTo p f e = true ↔ e.endIdx = p ∧ e.fol = f := by
  simp [pointsTo]

theorem slotCount_eq (g : Graph) (p f : Nat) : slotCount g p f = cntP (pointsTo p f) g := rfl

/-- following-edge structure: every edge ends at a point of the graph, and every edge `(p, f)` is named as the following edge
by exactly one edge (which then ends at `p`); no edge names a following edge that does not exist -/
structure FolWf (g : Graph) : Prop where
  endValid : ∀ p, ∀ e ∈ edgesAt g p, e.endIdx < g.length
  slot : ∀ p f, p < g.length → slotCount g p f = if f < (edgesAt g p).length then 1 else 0

/-- `connected_from`: lists only points of the graph, no point twice, and every point that has an edge to this one -/
structure ConnOk (g : Graph) : Prop where
  valid : ∀ p, ∀ c ∈ connAt g p, c < g.length
  nodup : ∀ p, (connAt g p).Nodup
  complete : ∀ p, ∀ e ∈ edgesAt g p, p ∈ connAt g e.endIdx

/-- every entry of `connected_from` is justified by an edge -/
def ConnExact (g : Graph) : Prop := ∀ p, ∀ c ∈ connAt g p, ∃ e ∈ edgesAt g c, e.endIdx = p

/-- the invariant of the collision stage -/
structure Wf (g : Graph) : Prop where
  fol : FolWf g
  conn : ConnOk g

theorem FolWf.folValid {g : Graph} (h : FolWf g) {p : Nat} {e : Edge} (he : e ∈ edgesAt g p) :
    e.fol < (edgesAt g e.endIdx).length := by
  have hs := h.slot e.endIdx e.fol (h.endValid p e he)
  by_contra hc
  rw [if_neg hc, slotCount_eq, cntP] at hs
  have hpos : 0 < List.countP (pointsTo e.endIdx e.fol) (allEdges g) :=
    List.countP_pos_iff.mpr ⟨e, mem_allEdges.mpr ⟨p, he⟩, by simp [pointsTo]⟩
  omega

theorem cntP_pointsTo_of_ge {g : Graph} (hv : ∀ a, ∀ e ∈ edgesAt g a, e.endIdx < g.length) {p : Nat} (hp : g.length ≤ p)
    (f : Nat) : cntP (pointsTo p f) g = 0 := by
  apply cntP_eq_zero
  intro a e he
  have := hv a e he
  simp only [pointsTo, Bool.and_eq_false_imp, beq_iff_eq]
  omega

theorem FolWf.slot_all {g : Graph} (h : FolWf g) (p f : Nat) :
    slotCount g p f = if f < (edgesAt g p).length then 1 else 0 := by
  by_cases hp : p < g.length
  · exact h.slot p f hp
  · rw [edgesAt_of_ge (Nat.le_of_not_lt hp)]
    exact cntP_pointsTo_of_ge h.endValid (Nat.le_of_not_lt hp) f

theorem edgeAt_updEdge (g : Graph) (p i : Nat) (f : Edge → Edge) (s e : Nat) :
    edgeAt (updEdge g p i f) s e = if p = s ∧ i = e then (edgeAt g s e).map f else edgeAt g s e := by
  unfold edgeAt
  rw [edgesAt_updEdge]
  by_cases hs : s = p ∧ p < g.length
  · rw [if_pos hs, hs.1, List.getElem?_modify]
    by_cases hie : i = e <;> simp [hie]
  · rw [if_neg hs]
    split_ifs with h2
    · rw [edgesAt_of_ge (by rw [← h2.1] at hs; omega)]; rfl
    · rfl

theorem edgeAt_updEdge_same {g : Graph} {p e : Nat} {f} {ed : Edge} (h : edgeAt g p e = some ed) :
    edgeAt (updEdge g p e f) p e = some (f ed) := by
  rw [edgeAt_updEdge, if_pos ⟨rfl, rfl⟩, h]
  rfl

theorem edgeAt_pushEdge_new {g : Graph} {p : Nat} (ed : Edge) (hp : p < g.length) :
    edgeAt (pushEdge g p ed) p (edgesAt g p).length = some ed := by
  unfold edgeAt
  rw [edgesAt_pushEdge, if_pos ⟨rfl, hp⟩, List.getElem?_append_right (Nat.le_refl _), Nat.sub_self]
  rfl

theorem mem_edgesAt_updEdge {g : Graph} {p e : Nat} {f} {q : Nat} {x : Edge} (h : x ∈ edgesAt (updEdge g p e f) q) :
    x ∈ edgesAt g q ∨ ∃ old, edgeAt g p e = some old ∧ x = f old ∧ q = p := by
  rw [edgesAt_updEdge] at h
  split_ifs at h with hc
  · obtain ⟨rfl, _⟩ := hc
    exact (mem_modify h).imp id fun ⟨y, hy, hx⟩ => ⟨y, hy, hx, rfl⟩
  · exact Or.inl h

theorem forall_edges_updEdge {P : Edge → Prop} {g : Graph} {p e : Nat} {f : Edge → Edge}
    (h : ∀ a, ∀ x ∈ edgesAt g a, P x) (hf : ∀ x, P x → P (f x)) : ∀ a, ∀ x ∈ edgesAt (updEdge g p e f) a, P x := by
  intro a x hx
  rcases mem_edgesAt_updEdge hx with hx | ⟨old, ho, rfl, _⟩
  · exact h a x hx
  · exact hf old (h _ old (mem_edgesAt_of_edgeAt ho))

theorem forall_edges_pushEdge {P : Edge → Prop} {g : Graph} {p : Nat} {ed : Edge}
    (h : ∀ a, ∀ x ∈ edgesAt g a, P x) (hE : P ed) : ∀ a, ∀ x ∈ edgesAt (pushEdge g p ed) a, P x := by
  intro a x hx
  rw [edgesAt_pushEdge] at hx
  split_ifs at hx with hc
  · rcases List.mem_append.mp hx with hx | hx
    · exact h p x hx
    · rw [List.mem_singleton.mp hx]; exact hE
  · exact h a x hx

/-! ### dividing an edge (path_collision.rs:328-415) -/

/-- loop invariant of the edge-dividing loops: the graph is well formed except that the slot `(x, f0)` (the following edge of
the edge being divided) is not named by anybody and the edge `prev`, which ends at `last`, has no meaningful following index yet -/
structure SplitInv (g : Graph) (prev : Nat × Nat) (last x f0 : Nat) : Prop where
  endValid : ∀ p, ∀ e ∈ edgesAt g p, e.endIdx < g.length
  prevEdge : ∃ pe, edgeAt g prev.1 prev.2 = some pe ∧ pe.endIdx = last ∧ ∀ p f, p < g.length →
    slotCount g p f + (if x = p ∧ f0 = f then 1 else 0) =
      (if f < (edgesAt g p).length then 1 else 0) + (if last = p ∧ pe.fol = f then 1 else 0)
  lastLt : last < g.length
  xLt : x < g.length
  f0Lt : f0 < (edgesAt g x).length

theorem ite_lt_succ (f L : Nat) : (if f < L + 1 then 1 else 0) = (if f < L then 1 else 0) + (if L = f then 1 else 0) := by
  rcases Nat.lt_trichotomy f L with h | h | h
  · rw [if_pos (Nat.lt_succ_of_lt h), if_pos h, if_neg (Nat.ne_of_gt h)]
  · rw [if_pos (h ▸ Nat.lt_succ_self f), if_neg (h ▸ Nat.lt_irrefl f), if_pos h.symm]
  · rw [if_neg (by omega), if_neg (Nat.not_lt_of_gt h), if_neg (Nat.ne_of_lt h)]

/-- one turn of the loops for an arbitrary new edge `E` of `last`: `prev` is pointed at it, and `E` becomes the edge without a
meaningful following index.  With `E.fol = 0` this is `splitStep`; with `E = (x, f0)` the two exceptions of the invariant
cancel (`SplitInv.final`). -/
theorem SplitInv.push {g : Graph} {prev : Nat × Nat} {last x f0 : Nat} (h : SplitInv g prev last x f0) (E : Edge)
    (hE : E.endIdx < g.length) :
    SplitInv (pushEdge (updEdge g prev.1 prev.2 fun e => { e with fol := (edgesAt g last).length }) last E)
      (last, (edgesAt g last).length) E.endIdx x f0 ∧
    edgeAt (pushEdge (updEdge g prev.1 prev.2 fun e => { e with fol := (edgesAt g last).length }) last E)
      last (edgesAt g last).length = some E := by
  obtain ⟨pe, hpe, rfl, hslot⟩ := h.prevEdge
  have hlast : pe.endIdx < (updEdge g prev.1 prev.2 fun e => { e with fol := (edgesAt g pe.endIdx).length }).length := by
    simpa using h.lastLt
  have hnew := edgeAt_pushEdge_new E hlast
  rw [length_edgesAt_updEdge] at hnew
  refine ⟨⟨?_, ⟨E, hnew, rfl, ?_⟩, by simpa using hE, by simpa using h.xLt, ?_⟩, hnew⟩
  · simpa using forall_edges_pushEdge (P := fun y => y.endIdx < g.length) (p := pe.endIdx)
      (forall_edges_updEdge (p := prev.1) (e := prev.2) (f := fun e => { e with fol := (edgesAt g pe.endIdx).length })
        h.endValid fun _ hx => hx) hE
  · intro p f hp
    have hs := hslot p f (by simpa using hp)
    have c1 := cntP_pushEdge (pointsTo p f) _ _ E hlast
    have c2 := cntP_updEdge (pointsTo p f) g prev.1 prev.2 (fun e => { e with fol := (edgesAt g pe.endIdx).length }) pe hpe
    rw [slotCount_eq] at hs ⊢
    rw [length_edgesAt_pushEdge _ hlast, length_edgesAt_updEdge]
    simp only [pointsTo_iff] at c1 c2
    by_cases hpl : p = pe.endIdx
    · subst hpl
      rw [if_pos rfl, ite_lt_succ]
      simp only [true_and] at c2 hs
      omega
    · have hne : ¬ pe.endIdx = p := fun hh => hpl hh.symm
      rw [if_neg hpl, Nat.add_zero]
      simp only [hne, false_and, if_false] at c2 hs
      omega
  · rw [length_edgesAt_pushEdge _ hlast, length_edgesAt_updEdge]
    have := h.f0Lt
    omega

theorem SplitInv.step {g : Graph} {prev : Nat × Nat} {last x f0 : Nat} (h : SplitInv g prev last x f0)
    (label kind q : Nat) (hq : q < g.length) :
    SplitInv (splitStep label kind ⟨g, prev, last⟩ q).g (splitStep label kind ⟨g, prev, last⟩ q).prev q x f0 :=
  (h.push ⟨q, 0, label, kind⟩ hq).1

theorem length_splitStep (label kind : Nat) (st : SplitState) (q : Nat) : (splitStep label kind st q).g.length = st.g.length := by
  simp [splitStep]

theorem cntP_push {g : Graph} {prev : Nat × Nat} {last x f0 : Nat} (h : SplitInv g prev last x f0) (E : Edge)
    {q : Edge → Bool} (hq : IndexBlind q) :
    cntP q (pushEdge (updEdge g prev.1 prev.2 fun e => { e with fol := (edgesAt g last).length }) last E) =
      cntP q g + (if q E then 1 else 0) := by
  obtain ⟨pe, hpe, _⟩ := h.prevEdge
  rw [cntP_pushEdge _ _ _ _ (by simpa using h.lastLt)]
  have := cntP_updEdge q g prev.1 prev.2 (fun e => { e with fol := (edgesAt g last).length }) pe hpe
  rw [hq pe pe.endIdx (edgesAt g last).length] at this
  omega

theorem SplitInv.fold {x f0 : Nat} (label kind : Nat) (qs : List Nat) : ∀ (st : SplitState),
    SplitInv st.g st.prev st.last x f0 → (∀ q ∈ qs, q < st.g.length) →
    SplitInv (qs.foldl (splitStep label kind) st).g (qs.foldl (splitStep label kind) st).prev
      (qs.foldl (splitStep label kind) st).last x f0 ∧ (qs.foldl (splitStep label kind) st).g.length = st.g.length ∧
      ∀ q, IndexBlind q → cntP q (qs.foldl (splitStep label kind) st).g =
        cntP q st.g + (if q ⟨0, 0, label, kind⟩ then qs.length else 0) := by
  induction qs with
  | nil => intro st h _; exact ⟨h, rfl, fun q _ => by simp⟩
  | cons q' qs ih =>
    rintro ⟨g, prev, last⟩ h hlt
    obtain ⟨i1, i2, i3⟩ := ih (splitStep label kind ⟨g, prev, last⟩ q') (h.step label kind q' (hlt q' (by simp)))
      (by intro r hr; rw [length_splitStep]; exact hlt r (by simp [hr]))
    refine ⟨i1, by rw [List.foldl_cons, i2, length_splitStep], fun q hq => ?_⟩
    have e1 : cntP q (splitStep label kind ⟨g, prev, last⟩ q').g = _ := cntP_push h ⟨q', 0, label, kind⟩ hq
    rw [List.foldl_cons, i3 q hq, e1, List.length_cons, hq ⟨0, 0, label, kind⟩ q' 0]
    split_ifs <;> omega

theorem SplitInv.init {g : Graph} (h : FolWf g) {p e : Nat} {ed : Edge} (he : edgeAt g p e = some ed) (q F : Nat)
    (hq : q < g.length) :
    SplitInv (updEdge g p e fun x => { x with endIdx := q, fol := F }) (p, e) q ed.endIdx ed.fol := by
  have hnew := edgeAt_updEdge_same (f := fun x : Edge => { x with endIdx := q, fol := F }) he
  refine ⟨?_, ⟨_, hnew, rfl, ?_⟩, by simpa using hq, by simpa using h.endValid p ed (mem_edgesAt_of_edgeAt he), ?_⟩
  · simpa using forall_edges_updEdge (P := fun y => y.endIdx < g.length) h.endValid fun _ _ => hq
  · intro p' f hp'
    have c := cntP_updEdge (pointsTo p' f) g p e (fun x => { x with endIdx := q, fol := F }) ed he
    have hs := h.slot p' f (by simpa using hp')
    rw [slotCount_eq] at hs ⊢
    rw [length_edgesAt_updEdge]
    simp only [pointsTo_iff] at c
    dsimp only
    omega
  · rw [length_edgesAt_updEdge]
    exact h.folValid (mem_edgesAt_of_edgeAt he)

theorem SplitInv.final {g : Graph} {prev : Nat × Nat} {last x f0 : Nat} (h : SplitInv g prev last x f0) (label kind : Nat) :
    FolWf (pushEdge (updEdge g prev.1 prev.2 fun e => { e with fol := (edgesAt g last).length }) last
      { endIdx := x, fol := f0, label := label, kind := kind }) := by
  obtain ⟨hi, hnew⟩ := h.push ⟨x, f0, label, kind⟩ h.xLt
  obtain ⟨pe, hpe, _, hs⟩ := hi.prevEdge
  rw [hnew] at hpe
  cases hpe
  exact ⟨hi.endValid, fun p f hp => Nat.add_right_cancel (hs p f hp)⟩

theorem splitEdgeS_spec {g : Graph} (h : FolWf g) (p e : Nat) (qs : List Nat) (hqs : ∀ q ∈ qs, q < g.length) :
    FolWf (splitEdgeS g p e qs) ∧ (splitEdgeS g p e qs).length = g.length ∧
      ∀ q, IndexBlind q → cntP q (splitEdgeS g p e qs) = cntP q g +
        (match edgeAt g p e with | some ed => if q ed then qs.length else 0 | none => 0) := by
  unfold splitEdgeS
  cases he : edgeAt g p e with
  | none => exact ⟨h, rfl, fun q _ => rfl⟩
  | some ed =>
    cases qs with
    | nil => exact ⟨h, rfl, fun q _ => by simp⟩
    | cons q' rest =>
      have h0 := SplitInv.init h he q' (edgesAt g q').length (hqs q' (by simp))
      have hrest : ∀ r ∈ rest, r < (updEdge g p e fun x => { x with endIdx := q', fol := (edgesAt g q').length }).length := by
        intro r hr; simp only [length_updEdge]; exact hqs r (by simp [hr])
      have hf := SplitInv.fold (x := ed.endIdx) (f0 := ed.fol) ed.label ed.kind rest
        ⟨updEdge g p e fun x => { x with endIdx := q', fol := (edgesAt g q').length }, (p, e), q'⟩ h0 hrest
      refine ⟨hf.1.final ed.label ed.kind, ?_, ?_⟩
      · simp only [length_pushEdge, length_updEdge]
        rw [hf.2.1]
        simp
      · intro q hq
        have hc := hf.2.2 q hq
        have c0 := cntP_updEdge q g p e (fun x => { x with endIdx := q', fol := (edgesAt g q').length }) ed he
        rw [hq ed q' (edgesAt g q').length] at c0
        dsimp only at hc ⊢
        rw [cntP_push hf.1 ⟨ed.endIdx, ed.fol, ed.label, ed.kind⟩ hq, hc, hq ed 0 0,
          show (⟨ed.endIdx, ed.fol, ed.label, ed.kind⟩ : Edge) = ed from rfl]
        rw [Nat.add_right_cancel c0, List.length_cons]
        split_ifs <;> rfl

theorem mem_dedupAdj (l : List Nat) (x : Nat) : x ∈ dedupAdj l ↔ x ∈ l := by
  fun_induction dedupAdj l with
  | case1 => simp
  | case2 a => simp
  | case3 a r ih => simp only [ih]; simp
  | case4 a b r hab ih => simp only [List.mem_cons, ih]

theorem pairwise_lt_dedupAdj (l : List Nat) (h : l.Pairwise (· ≤ ·)) : (dedupAdj l).Pairwise (· < ·) := by
  fun_induction dedupAdj l with
  | case1 => simp
  | case2 a => simp
  | case3 a r ih => exact ih (List.Pairwise.of_cons h)
  | case4 a b r hab ih =>
    rw [List.pairwise_cons] at h ⊢
    refine ⟨?_, ih h.2⟩
    intro x hx
    rw [mem_dedupAdj] at hx
    have h2 := h.2
    rw [List.pairwise_cons] at h2
    have hab' : a ≤ b := h.1 b (by simp)
    rcases List.mem_cons.mp hx with rfl | hx
    · omega
    · have := h2.1 x hx
      omega

theorem mem_insertNat (a : Nat) (l : List Nat) (x : Nat) : x ∈ insertNat a l ↔ x = a ∨ x ∈ l := by
  induction l with
  | nil => simp [insertNat]
  | cons b l ih =>
    unfold insertNat
    split_ifs
    · simp
    · simp only [List.mem_cons, ih]
      exact or_left_comm

theorem pairwise_insertNat (a : Nat) (l : List Nat) (h : l.Pairwise (· ≤ ·)) : (insertNat a l).Pairwise (· ≤ ·) := by
  induction l with
  | nil => simp [insertNat]
  | cons b l ih =>
    unfold insertNat
    rw [List.pairwise_cons] at h
    split_ifs with hab
    · rw [List.pairwise_cons]
      refine ⟨?_, List.pairwise_cons.mpr h⟩
      intro x hx
      rcases List.mem_cons.mp hx with rfl | hx
      · exact hab
      · have := h.1 x hx; omega
    · rw [List.pairwise_cons]
      refine ⟨?_, ih h.2⟩
      intro x hx
      rcases (mem_insertNat a l x).mp hx with rfl | hx
      · omega
      · exact h.1 x hx

theorem pairwise_le_sortNat (l : List Nat) : (sortNat l).Pairwise (· ≤ ·) := by
  unfold sortNat
  induction l with
  | nil => simp
  | cons a l ih => exact pairwise_insertNat a _ ih

theorem mem_sortNat (l : List Nat) (x : Nat) : x ∈ sortNat l ↔ x ∈ l := by
  unfold sortNat
  induction l with
  | nil => simp
  | cons a l ih => simp only [List.foldr_cons, mem_insertNat, ih, List.mem_cons]

theorem mem_sortDedup (l : List Nat) (x : Nat) : x ∈ dedupAdj (sortNat l) ↔ x ∈ l := by
  rw [mem_dedupAdj, mem_sortNat]

theorem nodup_sortDedup (l : List Nat) : (dedupAdj (sortNat l)).Nodup :=
  (pairwise_lt_dedupAdj _ (pairwise_le_sortNat l)).imp (by intro a b h; omega)

theorem edgesAt_append_empty (g : Graph) (a : Nat) : edgesAt (g ++ [Point.empty]) a = edgesAt g a := by
  unfold edgesAt
  rw [List.getElem?_append]
  split_ifs with h
  · rfl
  · rw [List.getElem?_eq_none (Nat.le_of_not_lt h)]
    by_cases h2 : a - g.length = 0
    · simp [h2, Point.empty]
    · have : ([Point.empty] : List Point)[a - g.length]? = none := by
        apply List.getElem?_eq_none; simp; omega
      rw [this]

theorem FolWf.append_empty {g : Graph} (h : FolWf g) : FolWf (g ++ [Point.empty]) := by
  refine ⟨?_, ?_⟩
  · intro p e he
    rw [edgesAt_append_empty] at he
    have := h.endValid p e he
    simp; omega
  · intro p f hp
    rw [edgesAt_append_empty, slotCount_eq, cntP_append_empty]
    exact h.slot_all p f

section Stage
set_option linter.unusedSectionVars false
variable {K : Type} [LT K] [LE K] [DecidableLT K] [DecidableLE K] [OfNat K 0] [OfNat K 1]

/-- `P`: any property of graphs that survives appending an edge-less point -/
theorem createCollisionPoints_spec {g : Graph} (h : FolWf g) (cs : List (Collision K))
    (hcs : ∀ c ∈ cs, c.p1 < g.length ∧ c.p2 < g.length) (P : Graph → Prop) (hP : P g)
    (happ : ∀ g', P g' → P (g' ++ [Point.empty])) :
    (FolWf (createCollisionPoints g cs).1 ∧ P (createCollisionPoints g cs).1) ∧
      g.length ≤ (createCollisionPoints g cs).1.length ∧
      ∀ cq ∈ (createCollisionPoints g cs).2, cq.2 < (createCollisionPoints g cs).1.length := by
  unfold createCollisionPoints
  apply Prelude.foldl_inv (fun st : Graph × List (Collision K × Nat) =>
    (FolWf st.1 ∧ P st.1) ∧ g.length ≤ st.1.length ∧ ∀ cq ∈ st.2, cq.2 < st.1.length)
  · intro st c hc ⟨h1, h2, h3⟩
    have hv := hcs c hc
    have old : ∀ n, n < g.length → ∀ cq ∈ st.2 ++ [(c, n)], cq.2 < st.1.length := by
      intro n hn cq hcq
      rcases List.mem_append.mp hcq with hcq | hcq
      · exact h3 cq hcq
      · rw [List.mem_singleton.mp hcq]; exact Nat.lt_of_lt_of_le hn h2
    split_ifs
    · exact ⟨h1, h2, old _ hv.1⟩
    · exact ⟨h1, h2, old _ hv.2⟩
    · have hlen : (st.1 ++ [Point.empty]).length = st.1.length + 1 := List.length_append
      refine ⟨⟨h1.1.append_empty, happ _ h1.2⟩, by rw [hlen]; exact Nat.le_succ_of_le h2, ?_⟩
      intro cq hcq
      rw [hlen]
      rcases List.mem_append.mp hcq with hcq | hcq
      · exact Nat.lt_succ_of_lt (h3 cq hcq)
      · rw [List.mem_singleton.mp hcq]; exact Nat.lt_succ_self _
  · exact ⟨⟨h, hP⟩, Nat.le_refl _, by simp⟩

/-- every end point in the table of `organize_collisions_by_edge` satisfies `P` -/
def TblOk (P : Nat → Prop) (tbl : HitTable K) : Prop :=
  ∀ o ∈ tbl, ∀ row, o = some row → ∀ hits ∈ row, ∀ h ∈ hits, P h.2

theorem TblOk.pushHit {P : Nat → Prop} {tbl : HitTable K} (h : TblOk P tbl) (g : Graph) (p e : Nat) (hit : K × Nat)
    (hp : P hit.2) : TblOk P (pushHit g tbl p e hit) := by
  intro o ho row hrow hits hhits x hx
  unfold Model.Graph.pushHit at ho
  rcases mem_modify ho with ho | ⟨o', ho', rfl⟩
  · exact h o ho row hrow hits hhits x hx
  · cases hrow
    have hrow' : ∀ hits' ∈ (match o' with | some row => row | none => List.replicate (edgesAt g p).length []),
        ∀ y ∈ hits', P y.2 := by
      intro hits' hh y hy
      cases o' with
      | none => rw [(List.mem_replicate.mp hh).2] at hy; simp at hy
      | some row' => exact h _ (List.mem_of_getElem? ho') row' rfl hits' hh y hy
    rcases mem_modify hhits with hh | ⟨hits', hh', rfl⟩
    · exact hrow' hits hh x hx
    · rcases List.mem_append.mp hx with hx | hx
      · exact hrow' hits' (List.mem_of_getElem? hh') x hx
      · rw [List.mem_singleton.mp hx]; exact hp

theorem organize_ok (P : Nat → Prop) (g : Graph) (cps : List (Collision K × Nat)) (h : ∀ cq ∈ cps, P cq.2) :
    TblOk P (organize g cps) := by
  unfold organize
  apply Prelude.foldl_inv (TblOk P)
  · intro tbl cq hcq ht
    exact (ht.pushHit g _ _ _ (h cq hcq)).pushHit g _ _ _ (h cq hcq)
  · intro o ho row hrow
    rw [List.mem_replicate] at ho
    rw [ho.2] at hrow
    cases hrow

theorem mem_insertHit (a : K × Nat) (l : List (K × Nat)) (x : K × Nat) : x ∈ insertHit a l ↔ x = a ∨ x ∈ l := by
  induction l with
  | nil => simp [insertHit]
  | cons b l ih =>
    unfold insertHit
    split_ifs
    · simp only [List.mem_cons, ih]
      exact or_left_comm
    · simp

theorem mem_sortHits (l : List (K × Nat)) (x : K × Nat) : x ∈ sortHits l ↔ x ∈ l := by
  unfold sortHits
  induction l with
  | nil => simp
  | cons a l ih => simp only [List.foldr_cons, mem_insertHit, ih, List.mem_cons]

theorem splitEdge_points_lt {g : Graph} (hits : List (K × Nat)) (hh : ∀ x ∈ hits, x.2 < g.length) :
    ∀ q ∈ ((sortHits hits).filter fun h => !tIsZero h.1).map (·.2), q < g.length := by
  intro q hq
  obtain ⟨x, hx, rfl⟩ := List.mem_map.mp hq
  exact hh x ((mem_sortHits hits x).mp (List.mem_filter.mp hx).1)

theorem splitEdge_folWf {g : Graph} (h : FolWf g) (p e : Nat) (hits : List (K × Nat)) (hh : ∀ x ∈ hits, x.2 < g.length) :
    FolWf (splitEdge g p e hits) ∧ (splitEdge g p e hits).length = g.length :=
  have := splitEdgeS_spec h p e _ (splitEdge_points_lt hits hh)
  ⟨this.1, this.2.1⟩

/-- `P`: any property of graphs that survives the division of one edge at existing points -/
theorem splitAll_folWf {g : Graph} (tbl : HitTable K) (ht : TblOk (· < g.length) tbl) (P : Graph → Prop)
    (hsplit : ∀ g' p e (hits : List (K × Nat)), (∀ x ∈ hits, x.2 < g'.length) → FolWf g' ∧ P g' →
      P (splitEdge g' p e hits)) (h : FolWf g ∧ P g) :
    (FolWf (splitAll g tbl) ∧ P (splitAll g tbl)) ∧ (splitAll g tbl).length = g.length := by
  unfold splitAll
  apply Prelude.foldl_inv (fun g' : Graph => (FolWf g' ∧ P g') ∧ g'.length = g.length)
  · intro g1 rp hrp h1
    cases hrow : rp.1 with
    | none => exact h1
    | some row =>
      simp only
      apply Prelude.foldl_inv (fun g' : Graph => (FolWf g' ∧ P g') ∧ g'.length = g.length) _ _ _ _ h1
      intro g2 he hhe ⟨h3, h4⟩
      split_ifs
      · exact ⟨h3, h4⟩
      · have hlt : ∀ x ∈ he.1, x.2 < g2.length := fun x hx => h4 ▸
          ht rp.1 (List.fst_mem_of_mem_zipIdx hrp) row hrow he.1 (List.fst_mem_of_mem_zipIdx hhe) x hx
        have := splitEdge_folWf h3.1 rp.2 he.2 he.1 hlt
        exact ⟨⟨this.1, hsplit g2 _ _ _ hlt h3⟩, by rw [this.2, h4]⟩
  · exact ⟨h, rfl⟩

theorem splitStage_inv {g : Graph} (h : FolWf g) (cs : List (Collision K))
    (hcs : ∀ c ∈ cs, c.p1 < g.length ∧ c.p2 < g.length) (P : Graph → Prop) (hP : P g)
    (happ : ∀ g', P g' → P (g' ++ [Point.empty]))
    (hsplit : ∀ g' p e (hits : List (K × Nat)), (∀ x ∈ hits, x.2 < g'.length) → FolWf g' ∧ P g' →
      P (splitEdge g' p e hits)) :
    (FolWf (splitStage g cs) ∧ P (splitStage g cs)) ∧ g.length ≤ (splitStage g cs).length := by
  unfold splitStage
  have h1 := createCollisionPoints_spec h cs hcs P hP happ
  have h2 := splitAll_folWf (organize (createCollisionPoints g cs).1 (createCollisionPoints g cs).2)
    (organize_ok _ _ _ h1.2.2) P hsplit h1.1
  exact ⟨h2.1, by rw [h2.2]; exact h1.2.1⟩

theorem splitStage_folWf {g : Graph} (h : FolWf g) (cs : List (Collision K))
    (hcs : ∀ c ∈ cs, c.p1 < g.length ∧ c.p2 < g.length) :
    FolWf (splitStage g cs) ∧ g.length ≤ (splitStage g cs).length :=
  have := splitStage_inv h cs hcs (fun _ => True) trivial (fun _ _ => trivial) (fun _ _ _ _ _ _ => trivial)
  ⟨this.1.1, this.2⟩

end Stage

/-! ### recalculate_reverse_connections (mod.rs:264) -/

theorem FolWf.of_same_edges {g h : Graph} (hw : FolWf g) (hl : h.length = g.length) (he : ∀ a, edgesAt h a = edgesAt g a) :
    FolWf h := by
  refine ⟨?_, ?_⟩
  · intro p e hpe; rw [he] at hpe; rw [hl]; exact hw.endValid p e hpe
  · intro p f hp; rw [slotCount_eq, cntP_of_same_edges hl he, he, ← slotCount_eq]; exact hw.slot p f (by omega)

theorem edgesAt_map_conn (g : Graph) (F : Point → List Nat) (a : Nat) :
    edgesAt (g.map fun pt => { pt with conn := F pt }) a = edgesAt g a := by
  unfold edgesAt
  rw [List.getElem?_map]
  cases g[a]? <;> rfl

theorem connAt_map_conn (g : Graph) (F : Point → List Nat) (a : Nat) (ha : a < g.length) :
    connAt (g.map fun pt => { pt with conn := F pt }) a = F g[a] := by
  unfold connAt
  rw [List.getElem?_map, List.getElem?_eq_getElem ha]
  rfl

theorem pushConn_spec (ps : List (Nat × Nat)) : ∀ (acc : Graph),
    let r := ps.foldl (fun acc kt => updConn acc kt.2 (· ++ [kt.1])) acc
    r.length = acc.length ∧ (∀ a, edgesAt r a = edgesAt acc a) ∧
    ∀ p c, c ∈ connAt r p ↔ c ∈ connAt acc p ∨ (p < acc.length ∧ (c, p) ∈ ps) := by
  induction ps with
  | nil => intro acc; simp
  | cons kt ps ih =>
    intro acc
    obtain ⟨k, t⟩ := kt
    obtain ⟨h1, h2, h3⟩ := ih (updConn acc t (· ++ [k]))
    refine ⟨by rw [List.foldl_cons, h1, length_updConn], fun a => by rw [List.foldl_cons, h2, edgesAt_updConn], ?_⟩
    intro p c
    rw [List.foldl_cons, h3, connAt_updConn, length_updConn]
    simp only [List.mem_cons, Prod.mk.injEq, and_or_left]
    by_cases hc : p = t ∧ t < acc.length
    · obtain ⟨rfl, hc⟩ := hc
      simp only [hc, and_self, if_true, List.mem_append, List.mem_singleton, true_and, and_true, or_assoc]
    · have hf : ¬ (p < acc.length ∧ c = k ∧ p = t) := fun ⟨h1, _, h2⟩ => hc ⟨h2, h2 ▸ h1⟩
      rw [if_neg hc]
      simp only [hf, false_or]

theorem recalc_spec (g : Graph) : (recalc g).length = g.length ∧ (∀ a, edgesAt (recalc g) a = edgesAt g a) ∧
    (∀ p, (connAt (recalc g) p).Nodup) ∧
    ∀ p c, c ∈ connAt (recalc g) p ↔ p < g.length ∧ c < g.length ∧ ∃ e ∈ edgesAt g c, e.endIdx = p := by
  unfold recalc
  obtain ⟨h1, h2, h3⟩ := pushConn_spec ((List.range g.length).flatMap fun p => (edgesAt g p).map fun ed => (p, ed.endIdx))
    (g.map fun pt => { pt with conn := [] })
  simp only [List.foldl_flatMap, List.foldl_map, List.length_map] at h1 h2 h3
  simp only
  generalize List.foldl (fun acc p => List.foldl (fun acc ed => updConn acc ed.endIdx fun x => x ++ [p]) acc (edgesAt g p))
    (List.map (fun pt => ({ edges := pt.edges, conn := [] } : Point)) g) (List.range g.length) = r at h1 h2 h3
  have hl : (r.map fun pt => ({ pt with conn := dedupAdj (sortNat pt.conn) } : Point)).length = g.length := by
    rw [List.length_map, h1]
  refine ⟨hl, fun a => by rw [edgesAt_map_conn (F := fun pt => dedupAdj (sortNat pt.conn)), h2, edgesAt_map_conn (F := fun _ => [])],
    ?_, ?_⟩
  · intro p
    by_cases hp : p < r.length
    · rw [connAt_map_conn (F := fun pt => dedupAdj (sortNat pt.conn)) _ _ hp]
      exact nodup_sortDedup _
    · rw [connAt_of_ge (by rw [List.length_map]; omega)]
      exact List.nodup_nil
  · intro p c
    by_cases hp : p < g.length
    · rw [connAt_map_conn (F := fun pt => dedupAdj (sortNat pt.conn)) _ _ (h1 ▸ hp), mem_sortDedup, ← connAt_of_lt (h1 ▸ hp),
        h3, connAt_map_conn (F := fun _ => []) _ _ hp]
      simp only [List.not_mem_nil, false_or, hp, true_and, List.mem_flatMap, List.mem_range, List.mem_map, Prod.mk.injEq]
      exact ⟨fun ⟨k, hk, e, he, hkc, hep⟩ => hkc ▸ ⟨hk, e, he, hep⟩, fun ⟨hc, e, he, hep⟩ => ⟨c, hc, e, he, rfl, hep⟩⟩
    · rw [connAt_of_ge (by rw [hl]; omega)]
      simp [hp]

theorem length_recalc (g : Graph) : (recalc g).length = g.length := (recalc_spec g).1

theorem edgesAt_recalc (g : Graph) (a : Nat) : edgesAt (recalc g) a = edgesAt g a := (recalc_spec g).2.1 a

theorem recalc_folWf {g : Graph} (h : FolWf g) : FolWf (recalc g) :=
  h.of_same_edges (length_recalc g) (edgesAt_recalc g)

theorem recalc_connOk {g : Graph} (h : ∀ p, ∀ e ∈ edgesAt g p, e.endIdx < g.length) :
    ConnOk (recalc g) ∧ ConnExact (recalc g) := by
  obtain ⟨hl, he, hn, hm⟩ := recalc_spec g
  refine ⟨⟨fun p c hc => hl ▸ ((hm p c).mp hc).2.1, hn, ?_⟩, ?_⟩
  · intro p e hpe
    rw [he] at hpe
    exact (hm _ _).mpr ⟨h p e hpe, mem_edgesAt_lt hpe, e, hpe, rfl⟩
  · intro p c hc
    obtain ⟨_, _, e, hce, hep⟩ := (hm p c).mp hc
    exact ⟨e, by rw [he]; exact hce, hep⟩

/-- apply `fe` to every edge and `fc` to every `connected_from` list -/
def mapPts (fe : Edge → Edge) (fc : List Nat → List Nat) (g : Graph) : Graph :=
  g.map fun pt => { edges := pt.edges.map fe, conn := fc pt.conn }

@[simp] theorem length_mapPts (fe fc) (g : Graph) : (mapPts fe fc g).length = g.length := by simp [mapPts]

theorem edgesAt_mapPts (fe fc) (g : Graph) (a : Nat) : edgesAt (mapPts fe fc g) a = (edgesAt g a).map fe := by
  unfold edgesAt mapPts
  rw [List.getElem?_map]
  cases g[a]? <;> rfl

theorem connAt_mapPts (fe) {fc : List Nat → List Nat} (hfc : fc [] = []) (g : Graph) (a : Nat) :
    connAt (mapPts fe fc g) a = fc (connAt g a) := by
  unfold connAt mapPts
  rw [List.getElem?_map]
  cases g[a]? with
  | none => exact hfc.symm
  | some pt => rfl

theorem cntP_mapPts (q : Edge → Bool) (fe fc) (g : Graph) : cntP q (mapPts fe fc g) = cntP (q ∘ fe) g :=
  cntP_of_edgesAt_map fe (length_mapPts fe fc g) (edgesAt_mapPts fe fc g) q

theorem merge_eq (g h : Graph) :
    merge g h = g ++ mapPts (fun e => { e with endIdx := e.endIdx + g.length }) (fun c => c.map (· + g.length)) h := rfl

theorem length_merge (g h : Graph) : (merge g h).length = g.length + h.length := by
  simp [merge]

theorem edgesAt_merge (g h : Graph) (a : Nat) :
    edgesAt (merge g h) a = if a < g.length then edgesAt g a
      else (edgesAt h (a - g.length)).map fun e => { e with endIdx := e.endIdx + g.length } := by
  rw [merge_eq]
  split_ifs with ha
  · unfold edgesAt; rw [List.getElem?_append_left ha]
  · rw [← edgesAt_mapPts (fc := fun c => c.map (· + g.length))]
    unfold edgesAt; rw [List.getElem?_append_right (Nat.le_of_not_lt ha)]

theorem connAt_merge (g h : Graph) (a : Nat) :
    connAt (merge g h) a = if a < g.length then connAt g a else (connAt h (a - g.length)).map (· + g.length) := by
  rw [merge_eq]
  split_ifs with ha
  · unfold connAt; rw [List.getElem?_append_left ha]
  · rw [← connAt_mapPts (fun e => { e with endIdx := e.endIdx + g.length }) (fc := fun c => c.map (· + g.length)) rfl]
    unfold connAt; rw [List.getElem?_append_right (Nat.le_of_not_lt ha)]

theorem merge_folWf {g h : Graph} (hg : FolWf g) (hh : FolWf h) : FolWf (merge g h) := by
  refine ⟨?_, ?_⟩
  · intro p e he
    rw [edgesAt_merge] at he
    rw [length_merge]
    split_ifs at he with hp
    · have := hg.endValid p e he; omega
    · rw [List.mem_map] at he
      obtain ⟨e', he', rfl⟩ := he
      have := hh.endValid _ e' he'
      simp only; omega
  · intro p f hp
    rw [length_merge] at hp
    rw [edgesAt_merge, slotCount_eq, merge_eq, cntP_append, cntP_mapPts]
    by_cases hpg : p < g.length
    · -- a point of the first graph: no edge of the second one ends there
      rw [if_pos hpg]
      have hz : cntP (pointsTo p f ∘ fun e => { e with endIdx := e.endIdx + g.length }) h = 0 := by
        apply cntP_eq_zero
        intro a e _
        simp only [Function.comp, pointsTo, Bool.and_eq_false_imp, beq_iff_eq]
        intro h1; omega
      rw [hz, Nat.add_zero, ← slotCount_eq]
      exact hg.slot p f hpg
    · rw [if_neg hpg]
      have hz := cntP_pointsTo_of_ge hg.endValid (Nat.le_of_not_lt hpg) f
      have hc : cntP (pointsTo p f ∘ fun e => { e with endIdx := e.endIdx + g.length }) h = cntP (pointsTo (p - g.length) f) h := by
        apply cntP_congr
        intro a e _
        simp only [Function.comp, pointsTo]
        congr 1
        simp only [beq_eq_beq]
        omega
      rw [hz, Nat.zero_add, hc, ← slotCount_eq, List.length_map]
      exact hh.slot _ f (by omega)

theorem merge_connOk {g h : Graph} (hg : ConnOk g) (hh : ConnOk h) (hge : ∀ p, ∀ e ∈ edgesAt g p, e.endIdx < g.length) :
    ConnOk (merge g h) := by
  refine ⟨?_, ?_, ?_⟩
  · intro p c hc
    rw [connAt_merge] at hc
    rw [length_merge]
    split_ifs at hc with hp
    · have := hg.valid p c hc; omega
    · rw [List.mem_map] at hc
      obtain ⟨c', hc', rfl⟩ := hc
      have := hh.valid _ c' hc'
      omega
  · intro p
    rw [connAt_merge]
    split_ifs with hp
    · exact hg.nodup p
    · exact List.Nodup.map (fun a b hab => by simpa using hab) (hh.nodup _)
  · intro p e he
    rw [edgesAt_merge] at he
    rw [connAt_merge]
    split_ifs at he with hp
    · have h1 := hge p e he
      rw [if_pos h1]
      exact hg.complete p e he
    · rw [List.mem_map] at he
      obtain ⟨e', he', rfl⟩ := he
      simp only
      rw [if_neg (by omega)]
      rw [List.mem_map]
      refine ⟨p - g.length, ?_, by omega⟩
      have := hh.complete _ e' he'
      simpa using this

theorem merge_connExact {g h : Graph} (hg : ConnExact g) (hh : ConnExact h) (hgv : ∀ p, ∀ c ∈ connAt g p, c < g.length) :
    ConnExact (merge g h) := by
  intro p c hc
  rw [connAt_merge] at hc
  split_ifs at hc with hp
  · obtain ⟨e, he, hep⟩ := hg p c hc
    have := hgv p c hc
    exact ⟨e, by rw [edgesAt_merge, if_pos this]; exact he, hep⟩
  · rw [List.mem_map] at hc
    obtain ⟨c', hc', rfl⟩ := hc
    obtain ⟨e, he, hep⟩ := hh _ c' hc'
    refine ⟨{ e with endIdx := e.endIdx + g.length }, ?_, by simp only; omega⟩
    rw [edgesAt_merge, if_neg (by omega)]
    rw [List.mem_map]
    exact ⟨e, by simpa using he, rfl⟩

end Model.Graph
