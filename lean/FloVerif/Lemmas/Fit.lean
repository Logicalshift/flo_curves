/-
Helper lemmas for C08 (curve fitting): rules for the loops of `Prelude` (folds that append, an invariant that sees the elements
visited so far), slices and indexing of lists, and chains of curves.
Nothing here mentions the generated code except the combinators of `Prelude`.
-/
import FloVerif.Lemmas.Loop
import Mathlib.Data.List.Chain
import Mathlib.Tactic.Common

namespace C08
open Prelude

/-- a loop whose body either leaves the state alone or appends to it is a `flatMap` -/
theorem foldlT_flatMap {ι α : Type} (l : List ι) (init : List α) (body : List α → ι → List α) (G : ι → List α)
    (hbody : ∀ st k, k ∈ l → body st k = st ++ G k) :
    foldlT l init body = init ++ l.flatMap G := by
  unfold foldlT
  induction l generalizing init with
  | nil => simp
  | cons x xs ih =>
    simp only [List.foldl_cons, List.flatMap_cons]
    rw [hbody init x (by simp), ih _ (fun st k hk => hbody st k (List.mem_cons_of_mem _ hk))]
    simp

theorem foldlT_append {ι α : Type} (l : List ι) (init : List α) (g : ι → List α) :
    foldlT l init (fun st it => st ++ g it) = init ++ l.flatMap g :=
  foldlT_flatMap l init _ g fun _ _ _ => rfl

/-- `for curve in fit { curves.push(curve) }` -/
theorem foldlT_push {α : Type} (fit curves : List α) :
    foldlT fit curves (fun st it => st ++ [it]) = curves ++ fit :=
  (foldlT_append fit curves fun it => [it]).trans (congrArg _ (List.flatMap_singleton' fit))

/-- a `for` loop keeps an invariant that may speak of the elements visited so far -/
theorem foldlT_inv_prefix {α β : Type} (P : β → List α → Prop) (l : List α) (init : β) (f : β → α → β)
    (h0 : P init []) (hstep : ∀ b done a, P b done → P (f b a) (done ++ [a])) : P (foldlT l init f) l := by
  suffices h : ∀ done b, P b done → P (l.foldl f b) (done ++ l) from h [] init h0
  induction l with
  | nil => intro done b h; rwa [List.append_nil]
  | cons x xs ih => intro done b h; rw [List.append_cons]; exact ih _ _ (hstep b done x h)

/-- skipping (`continue`) is filtering -/
theorem flatMap_map_filter {ι β α : Type} (l : List ι) (f : ι → β) (p : β → Bool) (g : β → List α) :
    ((l.map f).filter p).flatMap g = l.flatMap (fun i => if p (f i) then g (f i) else []) := by
  induction l with
  | nil => simp
  | cons x xs ih =>
    simp only [List.map_cons, List.flatMap_cons, List.filter_cons]
    split <;> simp [ih]

theorem listSlice_length {α : Type} (l : List α) (lo hi : Nat) (h : hi ≤ l.length) :
    (listSlice l lo hi).length = hi - lo := by
  simp only [listSlice, List.length_take, List.length_drop]; omega

theorem listSlice_head? {α : Type} (l : List α) (lo hi : Nat) (h : lo < hi) :
    (listSlice l lo hi).head? = l[lo]? := by
  simp only [listSlice, List.head?_eq_getElem?, List.getElem?_take, List.getElem?_drop]
  rw [if_pos (by omega)]; simp

theorem listSlice_getLast? {α : Type} (l : List α) (lo hi : Nat) (h : lo < hi) (hh : hi ≤ l.length) :
    (listSlice l lo hi).getLast? = l[hi - 1]? := by
  have hlen := listSlice_length l lo hi hh
  rw [List.getLast?_eq_getElem?, hlen]
  simp only [listSlice, List.getElem?_take, List.getElem?_drop]
  rw [if_pos (by omega)]
  congr 1; omega

/-- split at an interior index, both halves `points[0..=sp]` and `points[sp..]` have at least two points and are strictly shorter -/
theorem listSlice_split_length {α : Type} (l : List α) (sp : Nat) (h1 : 1 ≤ sp) (h2 : sp + 1 < l.length) :
    (2 ≤ (listSlice l 0 (sp + 1)).length ∧ (listSlice l 0 (sp + 1)).length < l.length) ∧
    (2 ≤ (listSlice l sp l.length).length ∧ (listSlice l sp l.length).length < l.length) := by
  rw [listSlice_length _ _ _ (by omega), listSlice_length _ _ _ (Nat.le_refl _)]
  omega

theorem listSlice_infix {α : Type} (l : List α) (lo hi : Nat) : listSlice l lo hi <:+: l :=
  (List.take_prefix _ _).isInfix.trans (List.drop_suffix _ _).isInfix

/-- a point of a slice that is split at `sp` lies in one of the two (overlapping) halves -/
theorem mem_slices {α : Type} (l : List α) (sp : Nat) (x : α) (hx : x ∈ l) :
    x ∈ listSlice l 0 (sp + 1) ∨ x ∈ listSlice l sp l.length := by
  have h2 : listSlice l sp l.length = l.drop sp := List.take_of_length_le (by rw [List.length_drop])
  rw [h2]
  rw [← List.take_append_drop (sp + 1) l] at hx
  exact (List.mem_append.1 hx).imp id fun h => List.drop_subset_drop_left l (Nat.le_succ sp) h

/-- `points[0]` and `points[points.len() - 1]` are the ends that `head?` / `getLast?` read -/
theorem ends_as_options {α : Type} [Inhabited α] (l : List α) (hn : 1 ≤ l.length) :
    some (listGet l 0) = l.head? ∧ some (listGet l (l.length - 1)) = l.getLast? := by
  constructor
  · match l, hn with
    | p :: _, _ => rfl
  · rw [List.getLast?_eq_getElem?, listGet_of_lt _ _ (by omega)]
    exact (List.getElem?_eq_getElem (by omega)).symm

theorem listGet_append_mid {α : Type} [Inhabited α] (s ps t : List α) (k : Nat) (hk : k < ps.length) :
    listGet (s ++ ps ++ t) (s.length + k) = listGet ps k := by
  rw [listGet_of_lt _ _ (by simp only [List.length_append]; omega), listGet_of_lt _ _ hk,
    List.getElem_append_left (by rw [List.length_append]; omega), List.getElem_append_right (Nat.le_add_right _ _)]
  simp only [Nat.add_sub_cancel_left]

theorem exists_head?_getLast? {α : Type} (l : List α) (h : l ≠ []) :
    ∃ a b, l.head? = some a ∧ l.getLast? = some b :=
  ⟨_, _, List.head?_eq_some_head h, List.getLast?_eq_some_getLast h⟩

/-- `cs` is a non-empty connected chain of curves from `a` to `b`.  The ends are `Option`s because they are read off lists with
    `head?` / `getLast?`; since `cs ≠ []` they are `some`. -/
structure ChainFromTo {P C : Type} (startOf endOf : C → P) (a b : Option P) (cs : List C) : Prop where
  ne : cs ≠ []
  head : cs.head?.map startOf = a
  last : cs.getLast?.map endOf = b
  chain : cs.IsChain (fun c c' => endOf c = startOf c')

theorem ChainFromTo.single {P C : Type} (startOf endOf : C → P) (c : C) :
    ChainFromTo startOf endOf (some (startOf c)) (some (endOf c)) [c] :=
  ⟨by simp, by simp, by simp, List.isChain_singleton _⟩

/-- this is where a shared boundary point is needed -/
theorem ChainFromTo.append {P C : Type} {startOf endOf : C → P} {a m b : Option P} {xs ys : List C}
    (hx : ChainFromTo startOf endOf a m xs) (hy : ChainFromTo startOf endOf m b ys) :
    ChainFromTo startOf endOf a b (xs ++ ys) := by
  obtain ⟨xne, xh, xl, xc⟩ := hx
  obtain ⟨yne, yh, yl, yc⟩ := hy
  refine ⟨List.append_ne_nil_of_left_ne_nil xne _, ?_, ?_, ?_⟩
  · rw [List.head?_append_of_ne_nil _ xne]; exact xh
  · rw [List.getLast?_append_of_ne_nil _ yne]; exact yl
  · rw [List.isChain_append]
    refine ⟨xc, yc, fun x hxm y hym => ?_⟩
    rw [show xs.getLast? = some x from hxm] at xl
    rw [show ys.head? = some y from hym, ← xl] at yh
    exact (Option.some.inj yh).symm

/-- glueing a whole list of chains: block `i` yields a chain from `p i` to `q i`, and consecutive blocks share a point -/
theorem ChainFromTo.flatMap {P C B : Type} {startOf endOf : C → P} (p q : B → Option P) (g : B → List C) :
    ∀ (bs : List B), bs ≠ [] →
      (∀ b ∈ bs, ChainFromTo startOf endOf (p b) (q b) (g b)) →
      bs.IsChain (fun b b' => q b = p b') →
      ChainFromTo startOf endOf (bs.head?.bind p) (bs.getLast?.bind q) (bs.flatMap g)
  | [], h, _, _ => absurd rfl h
  | [b], _, hb, _ => by
    simpa using hb b (by simp)
  | b :: b' :: rest, _, hb, hc => by
    rw [List.isChain_cons_cons] at hc
    have ih := ChainFromTo.flatMap p q g (b' :: rest) (by simp)
      (fun x hx => hb x (List.mem_cons_of_mem _ hx)) hc.2
    have h0 := hb b (by simp)
    rw [hc.1] at h0
    have := ChainFromTo.append h0 (by simpa using ih)
    simpa [List.getLast?_cons_cons] using this

end C08
