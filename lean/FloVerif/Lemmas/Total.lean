/-
For the work-bound theorems of C20: the weights of the stack entries of `tot_section_length` (halvings down to MIN_ERROR) and of
`find_bezier_roots` (depth cap), as sizes of the binary trees of splits still possible below an entry.
-/
import FloVerif.Lemmas.XQFin
import Mathlib.Data.Nat.Log
import Mathlib.Algebra.Order.Floor.Semiring
import Mathlib.Data.Rat.Floor

namespace C20
open Prelude XQ

/-- number of halvings that take a tolerance to `MIN_ERROR = 1e-12` or below -/
noncomputable def halvings (e : XQ) : Nat := Nat.clog 2 ⌈val e * 10 ^ 12⌉₊

theorem halvings_le (e : XQ) (k : Nat) (h : val e ≤ 2 ^ k / 10 ^ 12) : halvings e ≤ k := by
  unfold halvings
  apply Nat.clog_le_of_le_pow
  apply Nat.ceil_le.2
  have : val e * 10 ^ 12 ≤ 2 ^ k := by
    rw [le_div_iff₀ (by positivity)] at h; exact h
  exact_mod_cast this

/-- `clog 2 n = clog 2 ⌈n/2⌉ + 1` for `n ≥ 2` -/
theorem halvings_half (e : XQ) (he : Fin e) (hbig : ¬ e ≤ (1e-12 : XQ)) :
    1 ≤ halvings e ∧ halvings (e / (2.0 : XQ)) ≤ halvings e - 1 := by
  have h12 : val (1e-12 : XQ) = 1 / 10 ^ 12 := by rw [val_ofScientific]; norm_num
  have h2 : val (2.0 : XQ) = 2 := by rw [val_ofScientific]; norm_num
  rw [le_iff he (fin_ofScientific ..), h12, not_le, div_lt_iff₀ (by positivity)] at hbig
  unfold halvings
  rw [val_div he (fin_ofScientific ..) (by rw [h2]; norm_num), h2, div_mul_eq_mul_div]
  generalize val e * 10 ^ 12 = x at hbig
  have hn : 2 ≤ ⌈x⌉₊ := Nat.lt_ceil.2 (by exact_mod_cast hbig)
  rw [Nat.clog_of_two_le one_lt_two hn, Nat.add_sub_cancel]
  refine ⟨Nat.le_add_left 1 _, Nat.clog_mono_right 2 (Nat.ceil_le.2 ?_)⟩
  have h1 : x ≤ ⌈x⌉₊ := Nat.le_ceil x
  have h3 : ((⌈x⌉₊ : ℕ) : ℚ) ≤ 2 * (((⌈x⌉₊ + 2 - 1) / 2 : ℕ) : ℚ) := by
    exact_mod_cast (by omega : ⌈x⌉₊ ≤ 2 * ((⌈x⌉₊ + 2 - 1) / 2))
  linarith

theorem sum_map_of_getLast? {α : Type} (w : α → Nat) {l : List α} {top : α} (h : l.getLast? = some top) :
    (l.map w).sum = (l.dropLast.map w).sum + w top := by
  conv_lhs => rw [← List.dropLast_append_getLast? top h]
  rw [List.map_append, List.sum_append, List.map_singleton, List.sum_singleton]

theorem stack_pop {α : Type} (w : α → Nat) (I : α → Prop) (hw : ∀ x, 1 ≤ w x) {st : List α} {top : α}
    (hl : st.getLast? = some top) (hI : ∀ x ∈ st, I x) :
    (∀ x ∈ st.dropLast, I x) ∧ (st.dropLast.map w).sum < (st.map w).sum := by
  have := hw top
  exact ⟨fun x hx => hI x (List.dropLast_subset _ hx), by rw [sum_map_of_getLast? w hl]; omega⟩

theorem stack_split {α : Type} (w : α → Nat) (I : α → Prop) {st : List α} {top a b : α} (hl : st.getLast? = some top)
    (hI : ∀ x ∈ st, I x) (ha : I a) (hb : I b) (hab : w a + w b + 1 ≤ w top) :
    (∀ x ∈ st.dropLast ++ [a] ++ [b], I x) ∧ ((st.dropLast ++ [a] ++ [b]).map w).sum < (st.map w).sum := by
  refine ⟨fun x hx => ?_, ?_⟩
  · simp only [List.mem_append, List.mem_singleton] at hx
    rcases hx with (hx | rfl) | rfl
    exacts [hI x (List.dropLast_subset _ hx), ha, hb]
  · rw [sum_map_of_getLast? w hl, List.map_append, List.map_append, List.sum_append, List.sum_append, List.map_singleton,
      List.map_singleton, List.sum_singleton, List.sum_singleton]
    omega

/-- size of the full binary tree of height `n` -/
def treeSize (n : Nat) : Nat := 2 ^ (n + 1) - 1

theorem treeSize_pos (n : Nat) : 1 ≤ treeSize n := by
  have : 2 ^ 1 ≤ 2 ^ (n + 1) := Nat.pow_le_pow_right (by omega) (by omega)
  unfold treeSize; omega

theorem treeSize_lt (n : Nat) : treeSize n < 2 ^ (n + 1) := by
  have : 1 ≤ 2 ^ (n + 1) := Nat.one_le_two_pow
  unfold treeSize; omega

theorem treeSize_succ (n : Nat) : treeSize (n + 1) = 2 * treeSize n + 1 := by
  have : 1 ≤ 2 ^ (n + 1) := Nat.one_le_two_pow
  unfold treeSize; rw [pow_succ]; omega

theorem treeSize_mono {m n : Nat} (h : m ≤ n) : treeSize m ≤ treeSize n := by
  have : 2 ^ (m + 1) ≤ 2 ^ (n + 1) := Nat.pow_le_pow_right (by omega) (by omega)
  unfold treeSize; omega

/-- weight of a stack entry of `tot_section_length` with tolerance `e`: the tree of halvings below it -/
noncomputable def lenWeight (e : XQ) : Nat := treeSize (halvings e)

noncomputable def lenMeasure (st : List (T2 (SectionT XQ) XQ)) : Nat := (st.map (fun x => lenWeight x.t1)).sum

theorem lenWeight_half (e : XQ) (he : Fin e) (hbig : ¬ e ≤ (1e-12 : XQ)) :
    2 * lenWeight (e / (2.0 : XQ)) + 1 ≤ lenWeight e := by
  obtain ⟨h1, h2⟩ := halvings_half e he hbig
  have := treeSize_mono h2
  unfold lenWeight
  rw [show halvings e = halvings e - 1 + 1 by omega, treeSize_succ]
  omega

/-- weight of a stack entry of `find_bezier_roots` at `depth`: the tree of subdivisions down to the depth cap below it -/
def rootsWeight (maxDepth depth : Nat) : Nat := treeSize (maxDepth - depth)

def rootsMeasure {S : Type} (maxDepth : Nat) (st : List (S × Nat)) : Nat := (st.map (fun e => rootsWeight maxDepth e.2)).sum

theorem rootsWeight_split (m d : Nat) (h : d < m) : 2 * rootsWeight m (d + 1) + 1 = rootsWeight m d := by
  unfold rootsWeight
  rw [show m - d = m - (d + 1) + 1 by omega, treeSize_succ]

end C20
