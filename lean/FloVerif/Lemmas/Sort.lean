/-
`Prelude.listSortBy`, the stable insertion sort that stands for Rust's `sort_by` (`le a b = (cmp(a, b) != Greater)`): the result is a
permutation of the input, it is sorted when `le` is total and transitive, and sorting commutes with a map that respects `le`.
-/
import FloVerif.Lemmas.Loop
import Mathlib.Data.List.Perm.Basic

namespace Prelude
variable {α β : Type}

theorem insertSorted_perm (le : α → α → Bool) (x : α) : ∀ l : List α, (insertSorted le x l).Perm (x :: l)
  | [] => List.Perm.refl _
  | y :: ys => by
    simp only [insertSorted]
    split_ifs
    · exact ((insertSorted_perm le x ys).cons y).trans (List.Perm.swap x y ys)
    · exact List.Perm.refl _

theorem foldl_insertSorted_perm (le : α → α → Bool) : ∀ (l acc : List α),
    (l.foldl (fun acc x => insertSorted le x acc) acc).Perm (acc ++ l)
  | [], acc => by simp
  | x :: l, acc => by
    simp only [List.foldl_cons]
    refine (foldl_insertSorted_perm le l _).trans ?_
    refine ((insertSorted_perm le x acc).append_right l).trans ?_
    simpa using (List.perm_middle (l₁ := acc) (l₂ := l) (a := x)).symm

theorem listSortBy_perm (le : α → α → Bool) (l : List α) : (listSortBy le l).Perm l := by
  simpa [listSortBy] using foldl_insertSorted_perm le l []

theorem insertSorted_sorted (le : α → α → Bool) (htot : ∀ a b, le a b = true ∨ le b a = true)
    (htr : ∀ a b c, le a b = true → le b c = true → le a c = true) (x : α) :
    ∀ l : List α, l.Pairwise (fun a b => le a b = true) → (insertSorted le x l).Pairwise (fun a b => le a b = true)
  | [], _ => by simp [insertSorted]
  | y :: ys, h => by
    have hy := (List.pairwise_cons.1 h)
    simp only [insertSorted]
    split_ifs with hle
    · refine List.pairwise_cons.2 ⟨?_, insertSorted_sorted le htot htr x ys hy.2⟩
      intro z hz
      rcases List.mem_cons.1 ((insertSorted_perm le x ys).subset hz) with rfl | hz
      · exact hle
      · exact hy.1 z hz
    · have hxy : le x y = true := (htot x y).resolve_right hle
      refine List.pairwise_cons.2 ⟨?_, h⟩
      intro z hz
      rcases List.mem_cons.1 hz with rfl | hz
      · exact hxy
      · exact htr _ _ _ hxy (hy.1 z hz)

theorem listSortBy_sorted (le : α → α → Bool) (htot : ∀ a b, le a b = true ∨ le b a = true)
    (htr : ∀ a b c, le a b = true → le b c = true → le a c = true) (l : List α) :
    (listSortBy le l).Pairwise (fun a b => le a b = true) :=
  foldl_inv (fun acc => acc.Pairwise (fun a b => le a b = true)) _ l []
    (fun acc x _ h => insertSorted_sorted le htot htr x acc h) List.Pairwise.nil

theorem map_insertSorted (f : α → β) (le : α → α → Bool) (le' : β → β → Bool) (h : ∀ a b, le a b = le' (f a) (f b)) (x : α) :
    ∀ l : List α, (insertSorted le x l).map f = insertSorted le' (f x) (l.map f)
  | [] => rfl
  | y :: ys => by
    simp only [insertSorted, List.map_cons, h y x]
    split_ifs
    · simp [map_insertSorted f le le' h x ys]
    · simp

/-- sorting records by a key and projecting the key is sorting the keys -/
theorem map_listSortBy (f : α → β) (le : α → α → Bool) (le' : β → β → Bool) (h : ∀ a b, le a b = le' (f a) (f b)) (l : List α) :
    (listSortBy le l).map f = listSortBy le' (l.map f) := by
  rw [listSortBy, listSortBy, List.foldl_map]
  exact (List.foldl_hom (List.map f) fun acc x => (map_insertSorted f le le' h x acc).symm).symm

end Prelude
