/-
List combinatorics for the parity of the number of ray collisions (C14): sign changes along the edges of a balanced
directed multigraph, parity of a sum.
-/
import Mathlib.Data.List.Rotate
import Mathlib.Data.List.Perm.Basic
import Mathlib.Tactic.Common

namespace RayParity

/-- number of list elements whose two components are on different sides -/
def changes (side : Nat → Bool) (edges : List (Nat × Nat)) : Nat :=
  edges.countP fun e => side e.1 != side e.2

/-- a directed multigraph is balanced when every vertex is the start of as many edges as it is the end of -/
def Balanced (edges : List (Nat × Nat)) : Prop :=
  ∀ v : Nat, (edges.map Prod.fst).count v = (edges.map Prod.snd).count v

instance (edges : List (Nat × Nat)) : Decidable (Balanced edges) :=
  decidable_of_iff ((edges.map Prod.fst).Perm (edges.map Prod.snd)) (by
    unfold Balanced; exact List.perm_iff_count)

/-- counting the ends on side `true`: an edge that changes sides has one, an edge that stays has none or two -/
theorem changes_add (side : Nat → Bool) (l : List (Nat × Nat)) :
    changes side l + 2 * l.countP (fun e => side e.1 && side e.2) = l.countP (fun e => side e.1) + l.countP (fun e => side e.2) := by
  unfold changes
  induction l with
  | nil => rfl
  | cons e l ih =>
    simp only [List.countP_cons]
    cases side e.1 <;> cases side e.2 <;> simp <;> omega

/-- the edges of a balanced graph start and end on side `true` equally often -/
theorem changes_even (side : Nat → Bool) (edges : List (Nat × Nat)) (h : Balanced edges) :
    changes side edges % 2 = 0 := by
  have hc := (List.perm_iff_count.2 h).countP_eq side
  rw [List.countP_map, List.countP_map] at hc
  have := changes_add side edges
  rw [← Function.comp_def, ← Function.comp_def, hc] at this
  omega

/-- the edges of a closed path through the vertices `vs` -/
def cyclicEdges (vs : List Nat) : List (Nat × Nat) := vs.zip (vs.rotate 1)

theorem cyclic_balanced (vs : List Nat) : Balanced (cyclicEdges vs) := by
  intro v
  have hlen : vs.length = (vs.rotate 1).length := by simp
  have h1 : (cyclicEdges vs).map Prod.fst = vs := by
    unfold cyclicEdges; rw [List.map_fst_zip]; omega
  have h2 : (cyclicEdges vs).map Prod.snd = vs.rotate 1 := by
    unfold cyclicEdges; rw [List.map_snd_zip]; omega
  rw [h1, h2]
  exact ((List.rotate_perm vs 1).count_eq v).symm

theorem sum_parity {α : Type} (n : α → Nat) (l : List α) :
    (l.map n).sum % 2 = (l.countP fun e => n e % 2 == 1) % 2 := by
  induction l with
  | nil => rfl
  | cons e l ih =>
    simp only [List.map_cons, List.sum_cons, List.countP_cons, beq_iff_eq]
    split_ifs <;> omega

end RayParity
