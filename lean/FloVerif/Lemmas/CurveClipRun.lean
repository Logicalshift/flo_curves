/-
Helper lemmas for C02: what a clip step does to a true intersection (`clipAB_keeps`, `clipAB_ne_none`, …), and the two inductions over
the recursion of `curve_intersects_curve_clip_inner` (loop fuel inside recursion depth): where a reported pair comes from
(`Origin`), and what can happen to a true intersection (`Covered` or `LostCall`).
-/
import FloVerif.Lemmas.CurveClip

set_option linter.unusedSectionVars false
namespace CurveClipLemmas
open Prelude Gen FatLineLemmas ClipExact Model.CurveClip

variable {K : Type} [Field K] [LinearOrder K] [IsStrictOrderedRing K] [Inhabited K] [FSqrt K] [FConsts K]

local instance : FAbs K := ⟨fun a => |a|⟩

variable (cx : Ctx K) (acc acc2 : K)

/-! # the clip step in terms of sections -/

/-- the end points of the section `S` of the first curve are within 1e-7 of each other (`FatLine::from_curve` then takes
    its coincident-end-points branch, for which C13 has no exact containment theorem) -/
def nearEnds1 (S : SectionT K) : Bool :=
  is_near_to (section_start_point cx.a1 cx.a2 cx.a3 cx.a4 S) (section_end_point cx.a1 cx.a2 cx.a3 cx.a4 S) (0.0000001 : K)
def nearEnds2 (S : SectionT K) : Bool :=
  is_near_to (section_start_point cx.b1 cx.b2 cx.b3 cx.b4 S) (section_end_point cx.b1 cx.b2 cx.b3 cx.b4 S) (0.0000001 : K)

/-- clipping the first curve's section against the second curve's section keeps a true intersection -/
theorem clipAB_keeps (hM : 1 ≤ (fmaxval : K)) (hm : (fminval : K) ≤ 0) (c1 c2 : SectionT K) (h1 : Sub01 c1) (h2 : Sub01 c2)
    (s1 s2 : K) (hmeet : ptA cx s1 = ptB cx s2) (i1 : InSec c1 s1) (i2 : InSec c2 s2) (hfar : nearEnds2 cx c2 = false) :
    clipAB cx c1 c2 = ClipResult.SecondCurveIsLinear ∨
    ∃ r, clipAB cx c1 c2 = ClipResult.Some r ∧ InSec (section_subsection c1 r.t0 r.t1) s1 := by
  obtain ⟨u1, a0, a1, rfl⟩ := i1
  obtain ⟨u2, b0, b1, rfl⟩ := i2
  simp only [ptA, ptB, ← sec_point' _ _ _ _ c1 h1 u1, ← sec_point' _ _ _ _ c2 h2 u2] at hmeet
  rcases clip_keeps_exact hM hm _ _ _ _ _ _ _ _ hfar u1 u2 a0 a1 b0 b1 hmeet with h | ⟨r, hr, r0, r1⟩
  · exact Or.inl h
  · exact Or.inr ⟨r, hr, inSec_subsection c1 r.t0 r.t1 u1 r0 r1⟩

/-- only the eight points are exchanged, not the oracles: enough to get `clipBA` from `clipAB` -/
def swapCurves (cx : Ctx K) : Ctx K := { cx with a1 := cx.b1, a2 := cx.b2, a3 := cx.b3, a4 := cx.b4, b1 := cx.a1, b2 := cx.a2, b3 := cx.a3, b4 := cx.a4 }

theorem clipBA_keeps (hM : 1 ≤ (fmaxval : K)) (hm : (fminval : K) ≤ 0) (c1 c2 : SectionT K) (h1 : Sub01 c1) (h2 : Sub01 c2)
    (s1 s2 : K) (hmeet : ptA cx s1 = ptB cx s2) (i1 : InSec c1 s1) (i2 : InSec c2 s2) (hfar : nearEnds1 cx c1 = false) :
    clipBA cx c2 c1 = ClipResult.SecondCurveIsLinear ∨
    ∃ r, clipBA cx c2 c1 = ClipResult.Some r ∧ InSec (section_subsection c2 r.t0 r.t1) s2 :=
  clipAB_keeps (swapCurves cx) hM hm c2 c1 h2 h1 s2 s1 hmeet.symm i2 i1 hfar

theorem clipAB_ne_none (hM : 1 ≤ (fmaxval : K)) (hm : (fminval : K) ≤ 0) (c1 c2 : SectionT K) (h1 : Sub01 c1) (h2 : Sub01 c2)
    (s1 s2 : K) (hmeet : ptA cx s1 = ptB cx s2) (i1 : InSec c1 s1) (i2 : InSec c2 s2) (hfar : nearEnds2 cx c2 = false) :
    clipAB cx c1 c2 ≠ ClipResult.None := by
  rcases clipAB_keeps cx hM hm c1 c2 h1 h2 s1 s2 hmeet i1 i2 hfar with h | ⟨r, hr, _⟩
  · rw [h]; nofun
  · rw [hr]; nofun

theorem clipBA_ne_none (hM : 1 ≤ (fmaxval : K)) (hm : (fminval : K) ≤ 0) (c1 c2 : SectionT K) (h1 : Sub01 c1) (h2 : Sub01 c2)
    (s1 s2 : K) (hmeet : ptA cx s1 = ptB cx s2) (i1 : InSec c1 s1) (i2 : InSec c2 s2) (hfar : nearEnds1 cx c1 = false) :
    clipBA cx c2 c1 ≠ ClipResult.None :=
  clipAB_ne_none (swapCurves cx) hM hm c2 c1 h2 h1 s2 s1 hmeet.symm i2 i1 hfar

theorem boxes_overlap_of_meet (c1 c2 : SectionT K) (h1 : Sub01 c1) (h2 : Sub01 c2) (s1 s2 : K)
    (hmeet : ptA cx s1 = ptB cx s2) (i1 : InSec c1 s1) (i2 : InSec c2 s2) :
    bounds_overlaps (box1 cx c1) (box2 cx c2) = true := by
  have hb1 : InBox (box1 cx c1) (ptA cx s1) := sec_point_in_box cx.a1 cx.a2 cx.a3 cx.a4 c1 h1 s1 i1
  rw [hmeet] at hb1
  exact overlaps_of_common _ _ _ hb1 (sec_point_in_box cx.b1 cx.b2 cx.b3 cx.b4 c2 h2 s2 i2)

theorem clip_subsection (hM : 1 ≤ (fmaxval : K)) (hm : (fminval : K) ≤ 0) {p1 p2 p3 p4 q1 q2 q3 q4 : V2 K} {r : T2 K K}
    (hr : clip p1 p2 p3 p4 q1 q2 q3 q4 = ClipResult.Some r) (S : SectionT K) (hS : Sub01 S) :
    Sub01 (section_subsection S r.t0 r.t1) ∧ (section_subsection S r.t0 r.t1).t_m ≤ S.t_m := by
  obtain ⟨a, b, c⟩ := clip_range hM hm _ _ _ _ _ _ _ _ r hr
  refine ⟨sub01_subsection S hS _ _ a b c, ?_⟩
  rw [subsection_width]
  exact mul_le_of_le_one_left hS.2.1 ((sub_le_self _ a).trans c)

/-! # where a reported pair comes from -/

/-- ORIGIN of a reported pair: (1) the loop's own convergence exit - the mid-parameters of two sections of [0,1] whose
    hull lengths passed the test and whose boxes overlap; (2) the overlap shortcut, taken once for the two whole curves; (3), (4) the linear fall-back, taken
    because `clip` found the fat line of one section flat. -/
inductive Origin : T2 K K → Prop
  | converged (F1 F2 : SectionT K) : Sub01 F1 → Sub01 F2 → len1 cx F1 ≤ acc2 → len2 cx F2 ≤ acc2 →
      bounds_overlaps (box1 cx F1) (box2 cx F2) = true → Origin (T2.mk (midT F1) (midT F2))
  | overlap (o : T2 (T2 K K) (T2 K K)) (h : T2 K K) :
      cx.ovl (section_new (0.0 : K) (1.0 : K)) (section_new (0.0 : K) (1.0 : K)) = some o →
      h ∈ overlapHits (section_new (0.0 : K) (1.0 : K)) (section_new (0.0 : K) (1.0 : K)) o → Origin h
  | linear12 (c1 c2 : SectionT K) (g : T2 K K) : Sub01 c1 → Sub01 c2 → clipBA cx c2 c1 = ClipResult.SecondCurveIsLinear →
      g ∈ cx.lin12 c1 c2 acc → Origin (T2.mk (section_t_for_t c1 g.t0) (section_t_for_t c2 g.t1))
  | linear21 (c1 c2 : SectionT K) (g : T2 K K) : Sub01 c1 → Sub01 c2 → clipAB cx c1 c2 = ClipResult.SecondCurveIsLinear →
      g ∈ cx.lin21 c2 c1 acc → Origin (T2.mk (section_t_for_t c1 g.t1) (section_t_for_t c2 g.t0))

variable (rec_ : SectionT K → SectionT K → K → K → Hits K)

/-- loop invariant of the origin induction -/
def SubInv (st : St K) : Prop := Sub01 st.t1 ∧ Sub01 st.t0 ∧ st.t2 = len1 cx st.t1 ∧ st.t3 = len2 cx st.t0

theorem phase2_sub (hM : 1 ≤ (fmaxval : K)) (hm : (fminval : K) ≤ 0) (st : St K) (hi : SubInv cx st) (c2' : SectionT K) (l2 : K)
    (h : Phase2 cx acc2 st c2' l2) : Sub01 c2' ∧ l2 = len2 cx c2' ∧ c2'.t_m ≤ st.t0.t_m := by
  rcases h with ⟨_, rfl, rfl⟩ | ⟨_, r, hr, rfl, rfl⟩
  · exact ⟨hi.2.1, hi.2.2.2, le_rfl⟩
  · obtain ⟨a, b⟩ := clip_subsection hM hm hr st.t0 hi.2.1
    exact ⟨a, rfl, b⟩

theorem phase1_sub (hM : 1 ≤ (fmaxval : K)) (hm : (fminval : K) ≤ 0) (st : St K) (hi : SubInv cx st) (c2' c1' : SectionT K) (l1 : K)
    (h : Phase1 cx acc2 st c2' c1' l1) : Sub01 c1' ∧ l1 = len1 cx c1' ∧ c1'.t_m ≤ st.t1.t_m := by
  rcases h with ⟨_, rfl, rfl⟩ | ⟨_, r, hr, rfl, rfl⟩
  · exact ⟨hi.1, hi.2.2.1, le_rfl⟩
  · obtain ⟨a, b⟩ := clip_subsection hM hm hr st.t1 hi.1
    exact ⟨a, rfl, b⟩

/-- `Eq.refl` with its argument: from a bare `rfl` the unifier unfolds `len1` before it reduces the projections of the state -/
theorem subInv_start (c1 c2 : SectionT K) (h1 : Sub01 c1) (h2 : Sub01 c2) :
    SubInv cx (T4.mk c2 c1 (len1 cx c1) (len2 cx c2)) :=
  ⟨h1, h2, Eq.refl (len1 cx c1), Eq.refl (len2 cx c2)⟩

theorem convB_iff (l1 l2 : K) : convB acc2 l1 l2 = true ↔ l1 ≤ acc2 ∧ l2 ≤ acc2 := by
  simp only [convB, Bool.and_eq_true, decide_eq_true_eq]

/-- an iteration that goes on keeps `SubInv`, and neither section gets longer -/
theorem step_next (hM : 1 ≤ (fmaxval : K)) (hm : (fminval : K) ≤ 0) (st st' : St K) (hi : SubInv cx st)
    (hs : step rec_ cx acc acc2 st = Sum.inl st') : SubInv cx st' ∧ st'.t1.t_m ≤ st.t1.t_m ∧ st'.t0.t_m ≤ st.t0.t_m := by
  have hso := step_out rec_ cx acc acc2 st
  generalize step rec_ cx acc acc2 st = e at hso hs
  cases hso with
  | tail c2' c1' l2 l1 h2 h1 =>
    obtain ⟨sb2, e2, v2⟩ := phase2_sub cx acc2 hM hm st hi c2' l2 h2
    obtain ⟨sb1, e1, v1⟩ := phase1_sub cx acc2 hM hm st hi c2' c1' l1 h1
    have hto := tail_out rec_ cx acc acc2 c1' c2' l1 l2 st.t2 st.t3
    generalize tail rec_ cx acc acc2 c1' c2' l1 l2 st.t2 st.t3 = e' at hto hs
    cases hto with
    | next _ _ => cases hs; exact ⟨⟨sb1, sb2, e1, e2⟩, v1, v2⟩
    | _ => cases hs
  | _ => cases hs

theorem loop_origin (hM : 1 ≤ (fmaxval : K)) (hm : (fminval : K) ≤ 0)
    (hrec : ∀ k1 k2, Sub01 k1 → Sub01 k2 → ∀ h ∈ rec_ k1 k2 acc acc2, Origin cx acc acc2 h) :
    ∀ (n : Nat) (st : St K), SubInv cx st → ∀ r, loopRun rec_ cx acc acc2 n st = LoopExit.ret r →
      ∀ h ∈ r, Origin cx acc acc2 h := by
  intro n
  induction n with
  | zero => intro st _ r hr; cases hr
  | succ n ih =>
    intro st hi r hr h hh
    rw [loopRun_succ] at hr
    have hso := step_out rec_ cx acc acc2 st
    generalize step rec_ cx acc acc2 st = e at hso hr
    cases hso with
    | none2 _ _ => cases hr; cases hh
    | lin12 hc hl =>
      cases hr
      obtain ⟨g, hg, rfl⟩ := List.mem_map.1 hh
      exact Origin.linear12 st.t1 st.t0 g hi.1 hi.2.1 hl hg
    | none1 _ _ _ _ _ => cases hr; cases hh
    | lin21 c2' l2 h2 hc hl =>
      cases hr
      obtain ⟨g, hg, rfl⟩ := List.mem_map.1 hh
      exact Origin.linear21 st.t1 c2' g hi.1 (phase2_sub cx acc2 hM hm st hi c2' l2 h2).1 hl hg
    | tail c2' c1' l2 l1 h2 h1 =>
      obtain ⟨s2, e2, _⟩ := phase2_sub cx acc2 hM hm st hi c2' l2 h2
      obtain ⟨s1, e1, _⟩ := phase1_sub cx acc2 hM hm st hi c2' c1' l1 h1
      have hto := tail_out rec_ cx acc acc2 c1' c2' l1 l2 st.t2 st.t3
      generalize tail rec_ cx acc acc2 c1' c2' l1 l2 st.t2 st.t3 = e' at hto hr
      cases hto with
      | hit hconv hov =>
        cases hr
        cases List.mem_singleton.1 hh
        obtain ⟨a, b⟩ := (convB_iff acc2 l1 l2).1 hconv
        exact Origin.converged c1' c2' s1 s2 (e1 ▸ a) (e2 ▸ b) hov
      | reject _ _ => cases hr; cases hh
      | split1 _ _ _ =>
        cases hr
        obtain ⟨sl, sr⟩ := sub01_halves c1' s1
        rcases join_subset _ _ _ _ _ _ _ _ h hh with hl | hr'
        · exact hrec _ _ sl s2 h hl
        · exact hrec _ _ sr s2 h hr'
      | split2 _ _ _ =>
        cases hr
        obtain ⟨sl, sr⟩ := sub01_halves c2' s2
        rcases join_subset _ _ _ _ _ _ _ _ h hh with hl | hr'
        · exact hrec _ _ s1 sl h hl
        · exact hrec _ _ s1 sr h hr'
      | next _ _ =>
        simp only at hr
        exact ih _ ⟨s1, s2, e1, e2⟩ r hr h hh

/-- ORIGIN THEOREM for the model with recursion depth `d` -/
theorem clipInner_origin (hM : 1 ≤ (fmaxval : K)) (hm : (fminval : K) ≤ 0) (d : Nat) :
    ∀ c1 c2, Sub01 c1 → Sub01 c2 → ∀ h ∈ clipInner cx d c1 c2 acc acc2, Origin cx acc acc2 h := by
  induction d with
  | zero => intro c1 c2 _ _ h hh; exact absurd hh List.not_mem_nil
  | succ d ih =>
    intro c1 c2 h1 h2 h hh
    rw [clipInner_succ] at hh
    by_cases z : len1 cx c1 = 0 ∨ len2 cx c2 = 0
    · rw [innerSpec_zero _ cx acc acc2 _ c1 c2 z] at hh; exact absurd hh List.not_mem_nil
    · rw [not_or] at z
      rw [innerSpec_loop _ cx acc acc2 _ c1 c2 z.1 z.2] at hh
      split at hh
      · exact absurd hh List.not_mem_nil
      · next r hl => exact loop_origin cx acc acc2 _ hM hm ih genFuel _ (subInv_start cx c1 c2 h1 h2) r hl h hh

/-! # what can happen to a true intersection -/

variable (s1 s2 : K)

/-- the result COVERS the intersection `(s1, s2)`: it contains the pair of mid-parameters of two sections of [0,1] that
    contain `s1` resp. `s2` and whose hull lengths passed the convergence test -/
def Covered (res : Hits K) : Prop :=
  ∃ F1 F2 : SectionT K, T2.mk (midT F1) (midT F2) ∈ res ∧ Sub01 F1 ∧ Sub01 F2 ∧ InSec F1 s1 ∧ InSec F2 s2 ∧
    len1 cx F1 ≤ acc2 ∧ len2 cx F2 ≤ acc2

/-- the children of a split -/
def IsChild (c1' c2' : SectionT K) (l1 l2 last1 last2 : K) (k1 k2 : SectionT K) : Prop :=
  (l1 / last1 > l2 / last2 ∧ k2 = c2' ∧
    (k1 = section_subsection c1' (0.0 : K) (0.5 : K) ∨ k1 = section_subsection c1' (0.5 : K) (1.0 : K))) ∨
  (¬ l1 / last1 > l2 / last2 ∧ k1 = c1' ∧
    (k2 = section_subsection c2' (0.0 : K) (0.5 : K) ∨ k2 = section_subsection c2' (0.5 : K) (1.0 : K)))

/-- THE NAMED WAYS THE LOOP CAN LOSE THE INTERSECTION `(s1, s2)`, following the actual execution from the loop state `st`
    with `n` iterations of fuel.  `LC k1 k2` says that the recursive call on `(k1, k2)` may lose it. -/
inductive LostLoop (LC : SectionT K → SectionT K → Prop) : Nat → St K → Prop
  /-- the loop does not terminate within the fuel (in Rust: does not terminate) -/
  | loopFuel (st : St K) : LostLoop LC 0 st
  /-- the first curve's section is flat: the answer comes from `intersections_with_linear_section(&curve1, &curve2)` -/
  | linear12 (n : Nat) (st : St K) : st.t3 > acc2 → clipBA cx st.t0 st.t1 = ClipResult.SecondCurveIsLinear →
      LostLoop LC (n + 1) st
  /-- the second curve's section is flat: the answer comes from `intersections_with_linear_section(&curve2, &curve1)` -/
  | linear21 (n : Nat) (st : St K) (c2' : SectionT K) (l2 : K) : Phase2 cx acc2 st c2' l2 → st.t2 > acc2 →
      clipAB cx st.t1 c2' = ClipResult.SecondCurveIsLinear → LostLoop LC (n + 1) st
  /-- the second curve is clipped against a section of the first whose end points are within 1e-7 of each other -/
  | nearEnds1 (n : Nat) (st : St K) : st.t3 > acc2 → nearEnds1 cx st.t1 = true → LostLoop LC (n + 1) st
  /-- the first curve is clipped against a section of the second whose end points are within 1e-7 of each other -/
  | nearEnds2 (n : Nat) (st : St K) (c2' : SectionT K) (l2 : K) : Phase2 cx acc2 st c2' l2 → st.t2 > acc2 →
      nearEnds2 cx c2' = true → LostLoop LC (n + 1) st
  /-- the iteration continues with the clipped sections, and the intersection is lost later -/
  | next (n : Nat) (st : St K) (c2' c1' : SectionT K) (l2 l1 : K) : Phase2 cx acc2 st c2' l2 → Phase1 cx acc2 st c2' c1' l1 →
      convB acc2 l1 l2 = false → stuckB l1 l2 st.t2 st.t3 = false → LostLoop LC n (T4.mk c2' c1' l1 l2) →
      LostLoop LC (n + 1) st
  /-- a section is split, and the recursive call on the half that contains the intersection loses it -/
  | descend (n : Nat) (st : St K) (c2' c1' : SectionT K) (l2 l1 : K) (k1 k2 : SectionT K) : Phase2 cx acc2 st c2' l2 →
      Phase1 cx acc2 st c2' c1' l1 → convB acc2 l1 l2 = false → stuckB l1 l2 st.t2 st.t3 = true →
      IsChild c1' c2' l1 l2 st.t2 st.t3 k1 k2 → InSec k1 s1 → InSec k2 s2 → LC k1 k2 → LostLoop LC (n + 1) st
  /-- a section is split, the call on the second half covers the intersection, and `join_subsections` drops that hit -/
  | joinDrop (n : Nat) (st : St K) (c2' c1' : SectionT K) (l2 l1 : K) (left right : Hits K) : Phase2 cx acc2 st c2' l2 →
      Phase1 cx acc2 st c2' c1' l1 → convB acc2 l1 l2 = false → stuckB l1 l2 st.t2 st.t3 = true →
      step rec_ cx acc acc2 st = Sum.inr (LoopExit.ret (join_subsections cx.a1 cx.a2 cx.a3 cx.a4 c1' left right acc2)) →
      Covered cx acc2 s1 s2 right → ¬ Covered cx acc2 s1 s2 (join_subsections cx.a1 cx.a2 cx.a3 cx.a4 c1' left right acc2) →
      LostLoop LC (n + 1) st

/-- loop invariant of the completeness induction: both sections are sections of [0,1] that contain the intersection,
    and the two remembered lengths are the hull lengths of the current sections -/
def Inv (st : St K) : Prop :=
  Sub01 st.t1 ∧ Sub01 st.t0 ∧ InSec st.t1 s1 ∧ InSec st.t0 s2 ∧ st.t2 = len1 cx st.t1 ∧ st.t3 = len2 cx st.t0

theorem Inv.sub {st : St K} (h : Inv cx s1 s2 st) : SubInv cx st := ⟨h.1, h.2.1, h.2.2.2.2.1, h.2.2.2.2.2⟩

/-- COMPLETENESS OF THE SEARCH STRUCTURE, loop level: from a state whose two sections contain the intersection the loop
    returns a result that covers it, or loses it in one of the named ways -/
theorem loop_complete (hM : 1 ≤ (fmaxval : K)) (hm : (fminval : K) ≤ 0) (hmeet : ptA cx s1 = ptB cx s2)
    (LC : SectionT K → SectionT K → Prop)
    (hrec : ∀ k1 k2, Sub01 k1 → Sub01 k2 → InSec k1 s1 → InSec k2 s2 →
      Covered cx acc2 s1 s2 (rec_ k1 k2 acc acc2) ∨ LC k1 k2) :
    ∀ (n : Nat) (st : St K), Inv cx s1 s2 st →
      (∃ r, loopRun rec_ cx acc acc2 n st = LoopExit.ret r ∧ Covered cx acc2 s1 s2 r) ∨
      LostLoop cx acc acc2 rec_ s1 s2 LC n st := by
  intro n
  induction n with
  | zero => intro st _; exact Or.inr (LostLoop.loopFuel st)
  | succ n ih =>
    intro st hi
    have hsub := hi.sub
    obtain ⟨sb1, sb2, in1, in2, -, -⟩ := hi
    -- a clip against a section with coincident end points is a named loss; otherwise the clip phases keep the intersection
    by_cases hbad1 : st.t3 > acc2 ∧ nearEnds1 cx st.t1 = true
    · exact Or.inr (LostLoop.nearEnds1 n st hbad1.1 hbad1.2)
    have hfar1 : st.t3 > acc2 → nearEnds1 cx st.t1 = false := fun hc => Bool.eq_false_iff.2 fun e => hbad1 ⟨hc, e⟩
    have keep2 : ∀ c2' l2, Phase2 cx acc2 st c2' l2 → InSec c2' s2 := by
      rintro c2' l2 (⟨_, rfl, rfl⟩ | ⟨hc, r, hr, rfl, rfl⟩)
      · exact in2
      · rcases clipBA_keeps cx hM hm st.t1 st.t0 sb1 sb2 s1 s2 hmeet in1 in2 (hfar1 hc) with h | ⟨r', hr', hin⟩
        · rw [h] at hr; cases hr
        · rw [hr'] at hr; cases hr; exact hin
    rw [loopRun_succ]
    have hso := step_out rec_ cx acc acc2 st
    generalize hstep : step rec_ cx acc acc2 st = e at hso
    cases hso with
    | none2 hc hn => exact absurd hn (clipBA_ne_none cx hM hm st.t1 st.t0 sb1 sb2 s1 s2 hmeet in1 in2 (hfar1 hc))
    | lin12 hc hl => exact Or.inr (LostLoop.linear12 n st hc hl)
    | none1 c2' l2 h2 hc hn =>
      cases hne2 : nearEnds2 cx c2' with
      | true => exact Or.inr (LostLoop.nearEnds2 n st c2' l2 h2 hc hne2)
      | false =>
        exact absurd hn (clipAB_ne_none cx hM hm st.t1 c2' sb1 (phase2_sub cx acc2 hM hm st hsub c2' l2 h2).1 s1 s2 hmeet in1
          (keep2 c2' l2 h2) hne2)
    | lin21 c2' l2 h2 hc hl => exact Or.inr (LostLoop.linear21 n st c2' l2 h2 hc hl)
    | tail c2' c1' l2 l1 h2 h1 =>
      obtain ⟨sb2', e2, _⟩ := phase2_sub cx acc2 hM hm st hsub c2' l2 h2
      obtain ⟨sb1', e1, _⟩ := phase1_sub cx acc2 hM hm st hsub c2' c1' l1 h1
      have in2' : InSec c2' s2 := keep2 c2' l2 h2
      by_cases hbad2 : st.t2 > acc2 ∧ nearEnds2 cx c2' = true
      · exact Or.inr (LostLoop.nearEnds2 n st c2' l2 h2 hbad2.1 hbad2.2)
      have in1' : InSec c1' s1 := by
        rcases h1 with ⟨_, rfl, rfl⟩ | ⟨hc, r, hr, rfl, rfl⟩
        · exact in1
        · rcases clipAB_keeps cx hM hm st.t1 c2' sb1 sb2' s1 s2 hmeet in1 in2'
              (Bool.eq_false_iff.2 fun e => hbad2 ⟨hc, e⟩) with h | ⟨r', hr', hin⟩
          · rw [h] at hr; cases hr
          · rw [hr'] at hr; cases hr; exact hin
      have hto := tail_out rec_ cx acc acc2 c1' c2' l1 l2 st.t2 st.t3
      generalize htail : tail rec_ cx acc acc2 c1' c2' l1 l2 st.t2 st.t3 = e' at hto
      cases hto with
      | hit hconv hov =>
        left
        obtain ⟨a, b⟩ := (convB_iff acc2 l1 l2).1 hconv
        exact ⟨_, rfl, c1', c2', List.mem_singleton.2 rfl, sb1', sb2', in1', in2', e1 ▸ a, e2 ▸ b⟩
      | reject hconv hov =>
        rw [boxes_overlap_of_meet cx c1' c2' sb1' sb2' s1 s2 hmeet in1' in2'] at hov
        cases hov
      | split1 hconv hst hgt =>
        obtain ⟨sl, sr⟩ := sub01_halves c1' sb1'
        rcases inSec_halves c1' s1 in1' with hl | hr
        · rcases hrec _ _ sl sb2' hl in2' with ⟨F1, F2, hmem, rest⟩ | hlc
          · left
            exact ⟨_, rfl, F1, F2, join_mem_left _ _ _ _ _ _ _ _ _ hmem, rest⟩
          · exact Or.inr (LostLoop.descend n st c2' c1' l2 l1 _ _ h2 h1 hconv hst (Or.inl ⟨hgt, rfl, Or.inl rfl⟩) hl in2' hlc)
        · rcases hrec _ _ sr sb2' hr in2' with hcov | hlc
          · by_cases hj : Covered cx acc2 s1 s2 (split1 rec_ cx acc acc2 c1' c2')
            · exact Or.inl ⟨_, rfl, hj⟩
            · exact Or.inr (LostLoop.joinDrop n st c2' c1' l2 l1 _ _ h2 h1 hconv hst (hstep.trans htail) hcov hj)
          · exact Or.inr (LostLoop.descend n st c2' c1' l2 l1 _ _ h2 h1 hconv hst (Or.inl ⟨hgt, rfl, Or.inr rfl⟩) hr in2' hlc)
      | split2 hconv hst hgt =>
        obtain ⟨sl, sr⟩ := sub01_halves c2' sb2'
        rcases inSec_halves c2' s2 in2' with hl | hr
        · rcases hrec _ _ sb1' sl in1' hl with ⟨F1, F2, hmem, rest⟩ | hlc
          · left
            exact ⟨_, rfl, F1, F2, join_mem_left _ _ _ _ _ _ _ _ _ hmem, rest⟩
          · exact Or.inr (LostLoop.descend n st c2' c1' l2 l1 _ _ h2 h1 hconv hst (Or.inr ⟨hgt, rfl, Or.inl rfl⟩) in1' hl hlc)
        · rcases hrec _ _ sb1' sr in1' hr with hcov | hlc
          · by_cases hj : Covered cx acc2 s1 s2 (split2 rec_ cx acc acc2 c1' c2')
            · exact Or.inl ⟨_, rfl, hj⟩
            · exact Or.inr (LostLoop.joinDrop n st c2' c1' l2 l1 _ _ h2 h1 hconv hst (hstep.trans htail) hcov hj)
          · exact Or.inr (LostLoop.descend n st c2' c1' l2 l1 _ _ h2 h1 hconv hst (Or.inr ⟨hgt, rfl, Or.inr rfl⟩) in1' hr hlc)
      | next hconv hst =>
        simp only
        rcases ih (T4.mk c2' c1' l1 l2) ⟨sb1', sb2', in1', in2', e1, e2⟩ with h | h
        · exact Or.inl h
        · exact Or.inr (LostLoop.next n st c2' c1' l2 l1 h2 h1 hconv hst h)

/-- THE NAMED WAYS A CALL OF `curve_intersects_curve_clip_inner` (recursion depth `d`) CAN LOSE THE INTERSECTION:
    depth exhausted (in Rust: unbounded recursion); one of the two sections has hull length 0 at entry, i.e. is `is_tiny`
    (parameter length below 0.001) or a point; or the loop loses it (`LostLoop`). -/
def LostCall : Nat → SectionT K → SectionT K → Prop
  | 0, _, _ => True
  | d + 1, c1, c2 =>
    (len1 cx c1 = 0 ∨ len2 cx c2 = 0) ∨
    LostLoop cx acc acc2 (clipInner cx d) s1 s2 (LostCall d) genFuel (T4.mk c2 c1 (len1 cx c1) (len2 cx c2))

/-- COMPLETENESS OF THE SEARCH STRUCTURE, call level -/
theorem clipInner_complete (hM : 1 ≤ (fmaxval : K)) (hm : (fminval : K) ≤ 0) (hmeet : ptA cx s1 = ptB cx s2) (d : Nat) :
    ∀ c1 c2, Sub01 c1 → Sub01 c2 → InSec c1 s1 → InSec c2 s2 →
      Covered cx acc2 s1 s2 (clipInner cx d c1 c2 acc acc2) ∨ LostCall cx acc acc2 s1 s2 d c1 c2 := by
  induction d with
  | zero => intro c1 c2 _ _ _ _; exact Or.inr trivial
  | succ d ih =>
    intro c1 c2 h1 h2 i1 i2
    by_cases z : len1 cx c1 = 0 ∨ len2 cx c2 = 0
    · exact Or.inr (Or.inl z)
    rw [not_or] at z
    rw [clipInner_succ, innerSpec_loop _ cx acc acc2 _ c1 c2 z.1 z.2]
    have hs := subInv_start cx c1 c2 h1 h2
    rcases loop_complete cx acc acc2 _ s1 s2 hM hm hmeet _ ih genFuel
        (T4.mk c2 c1 (len1 cx c1) (len2 cx c2)) ⟨h1, h2, i1, i2, hs.2.2⟩ with ⟨r, hr, hcov⟩ | hl
    · left; rw [hr]; exact hcov
    · exact Or.inr (Or.inr hl)

end CurveClipLemmas
