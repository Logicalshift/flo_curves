/-
Helper lemmas for C02, part 1: the snapping of `round_y_value` never makes `clip` lose a parameter.

C13 proves `clip_t_sound` with a slack of 0.00001 at either end of the range (the window in which `round_y_value`
moves an ordinate to 0 or 1).  The recursion of `curve_intersects_curve_clip_inner` needs the statement without slack
(an intersection that slips out of a section by 1e-5 of its length is outside the hull of the next section, and
nothing can be said about it any more).  The slack disappears at the level of `clip`:

* `round_y_value` only ever moves an ordinate to 0 or to 1 (`FatLineLemmas.round_y_cases`), and the values the loop of
  `clip_t` collects are 0, 1, or lie in [0.00001, 0.99999] (`Grid`, `clipLoop_tight` with `Grid`);
* so the upper end of the range can be below a parameter it should contain only if the whole range is `[0,0]`, and the
  lower end above it only if the range is `[1,1]` (`clip_t_exact`);
* and `clip` widens a range of zero length by 0.005 to either side (`clip_keeps_exact`).
-/
import FloVerif.Lemmas.FatLine
import FloVerif.Props.C13

set_option linter.unusedSectionVars false
namespace ClipExact
open Prelude Gen FatLineLemmas C13

variable {K : Type} [Field K] [LinearOrder K] [IsStrictOrderedRing K] [Inhabited K]

local instance : FAbs K := ⟨fun a => |a|⟩

/-- the values `clip_t` can collect: 0, 1, or something in [0.00001, 0.99999] -/
def Grid (y : K) : Prop := y = 0 ∨ y = 1 ∨ (1/100000 ≤ y ∧ y ≤ 99999/100000)

theorem grid_zero : Grid (0 : K) := Or.inl rfl
theorem grid_one : Grid (1 : K) := Or.inr (Or.inl rfl)

theorem grid_range (y : K) (h : Grid y) : 0 ≤ y ∧ y ≤ 1 := by
  rcases h with rfl | rfl | ⟨lo, hi⟩
  exacts [⟨le_rfl, zero_le_one⟩, ⟨zero_le_one, le_rfl⟩, ⟨le_trans (by norm_num) lo, le_trans hi (by norm_num)⟩]

/-- whatever its argument: a value of `round_y_value` that passes the `[0,1]` test is on the grid -/
theorem round_y_grid (y : K) (h0 : 0 ≤ round_y_value y) (h1 : round_y_value y ≤ 1) : Grid (round_y_value y) := by
  rcases round_y_cases y with ⟨_, _, e⟩ | ⟨_, _, e⟩ | ⟨n1, n2, e⟩ <;> rw [e] at h0 h1 ⊢
  · exact grid_zero
  · exact grid_one
  · exact Or.inr (Or.inr ⟨not_lt.1 fun h => n1 ⟨h, lt_of_lt_of_le (by norm_num) h0⟩,
      not_lt.1 fun h => n2 ⟨h, lt_of_le_of_lt h1 (by norm_num)⟩⟩)

/-- the hull vertices of a distance curve have ordinates 0, 1/3, 2/3 or 1: all on the grid -/
theorem hull_grid (fl : FatLineT K) (w1 w2 w3 w4 : V2 K) :
    ∀ p ∈ distance_curve_convex_hull (fat_distance_curve fl w1 w2 w3 w4), Grid p.y := by
  intro p hp
  have h := C13.hull_subset _ p hp
  rw [C13.distance_curve_points] at h
  rcases h with rfl | rfl | rfl | rfl
  · exact grid_zero
  · exact Or.inr (Or.inr ⟨by norm_num, by norm_num⟩)
  · exact Or.inr (Or.inr ⟨by norm_num, by norm_num⟩)
  · exact grid_one

section
variable [FConsts K]

/-- a range is *lossless* for the parameter `t`: it contains `t`, or it is `[0,0]` with `t` below 0.00001, or `[1,1]`
    with `t` above 0.99999 (the two cases `clip` repairs by widening a range of zero length) -/
def Lossless (r : T2 K K) (t : K) : Prop :=
  (r.t0 ≤ t ∧ t ≤ r.t1) ∨ (r.t0 = 0 ∧ r.t1 = 0 ∧ 0 ≤ t ∧ t < 1/100000) ∨ (r.t0 = 1 ∧ r.t1 = 1 ∧ 99999/100000 < t ∧ t ≤ 1)

/-- CLIP_T, SHARP FORM: a parameter whose curve point lies inside the strip is inside the returned range, unless the range
    is `[0,0]` (parameter below 0.00001) or `[1,1]` (parameter above 0.99999); and the range is a sub-range of [0,1].
    Sentinels: `1 ≤ f64::MAX`, `f64::MIN ≤ 0`. -/
theorem clip_t_exact (hM : 1 ≤ (fmaxval : K)) (hm : (fminval : K) ≤ 0)
    (fl : FatLineT K) (w1 w2 w3 w4 : V2 K) (t : K) (h0 : 0 ≤ t) (h1 : t ≤ 1)
    (hin : fl.d_min ≤ fat_distance fl (de_casteljau4 t w1 w2 w3 w4) ∧
           fat_distance fl (de_casteljau4 t w1 w2 w3 w4) ≤ fl.d_max) :
    ∃ r, clip_t fl w1 w2 w3 w4 = some r ∧ 0 ≤ r.t0 ∧ r.t0 ≤ r.t1 ∧ r.t1 ≤ 1 ∧ Lossless r t := by
  have htight := clipLoop_tight hM hm grid_range fl _ round_y_grid (hull_grid fl w1 w2 w3 w4)
  obtain ⟨⟨cU, hU, u0, u1, hu⟩, cL, hL, l0, l1, hl⟩ := C13.clip_t_candidates fl w1 w2 w3 w4 t h0 h1 hin
  rw [clip_t_eq]
  generalize clipLoop fl _ = st at hU hL htight ⊢
  -- the loop has seen a candidate, so it is past the sentinels
  obtain ⟨g0, g1, a1⟩ := htight.resolve_left fun ⟨e0, e1⟩ =>
    absurd (le_trans hM (le_trans (e0 ▸ le_trans hU.1 hU.2) (e1 ▸ hm))) (not_le.2 zero_lt_one)
  obtain ⟨a0, a2⟩ : 0 ≤ st.t0 ∧ st.t1 ≤ 1 := ⟨(grid_range _ g0).1, (grid_range _ g1).2⟩
  refine ⟨st, clipDecide_inside fl _ st a0 a1 a2, a0, a1, a2, ?_⟩
  rcases hu with hu | ⟨eU, hlt⟩
  · rcases hl with hl | ⟨eL, hgt⟩
    · exact Or.inl ⟨le_trans hL.1 hl, le_trans hu hU.2⟩
    · -- the lower candidate was snapped to 1: the range ends at 1, and starts at a grid value, above `t` only if that is 1
      have e1 : st.t1 = 1 := le_antisymm a2 (by rw [← eL]; exact hL.2)
      by_cases hc : st.t0 ≤ t
      · exact Or.inl ⟨hc, by rw [e1]; exact h1⟩
      · refine Or.inr (Or.inr ⟨?_, e1, hgt, h1⟩)
        rcases g0 with z | o | ⟨_, hi⟩
        · exact absurd (by rw [z]; exact h0) hc
        · exact o
        · exact absurd (hi.trans hgt.le) hc
  · -- the upper candidate was snapped to 0: the range starts at 0, and ends at a grid value, below `t` only if that is 0
    have e0 : st.t0 = 0 := le_antisymm (by rw [← eU]; exact hU.1) a0
    by_cases hc : t ≤ st.t1
    · exact Or.inl ⟨by rw [e0]; exact h0, hc⟩
    · refine Or.inr (Or.inl ⟨e0, ?_, h0, hlt⟩)
      rcases g1 with z | o | ⟨lo, _⟩
      · exact z
      · exact absurd (by rw [o]; exact h1) hc
      · exact absurd (hlt.le.trans lo) hc

end

section
variable [FSqrt K] [FConsts K]

theorem widen_lossless (q : T2 K K) (t : K) (h : Lossless q t) (hq0 : 0 ≤ q.t0) (hq1 : q.t1 ≤ 1) :
    (widen q).t0 ≤ t ∧ t ≤ (widen q).t1 := by
  rcases h with ⟨a, b⟩ | ⟨e0, e1, t0, tl⟩ | ⟨e0, e1, tg, t1⟩
  · obtain ⟨w0, w1⟩ := widen_wider_of q fun _ => ⟨hq0, hq1⟩
    exact ⟨w0.trans a, b.trans w1⟩
  · refine widen_degenerate q (e0.trans e1.symm) t t0 (tl.le.trans (by norm_num)) ?_ ?_
    · rw [e0]; exact (sub_nonpos.2 widen_step).trans t0
    · rw [e1]; exact tl.le.trans (by norm_num)
  · refine widen_degenerate q (e0.trans e1.symm) t (le_trans (by norm_num) tg.le) t1 ?_ ?_
    · rw [e0]; exact le_trans (by norm_num) tg.le
    · rw [e1]; exact t1.trans (le_add_of_nonneg_right widen_step)

theorem widen_range (q : T2 K K) (h : 0 ≤ q.t0 ∧ q.t0 ≤ q.t1 ∧ q.t1 ≤ 1) :
    0 ≤ (widen q).t0 ∧ (widen q).t0 ≤ (widen q).t1 ∧ (widen q).t1 ≤ 1 := by
  obtain ⟨w0, w1⟩ := widen_wider_of q fun _ => ⟨h.1, h.2.2⟩
  have ends : 0 ≤ (widen q).t0 ∧ (widen q).t1 ≤ 1 := by
    simp only [widen]
    split_ifs
    · exact ⟨le_max_right _ _, min_le_right _ _⟩
    · exact ⟨h.1, h.2.2⟩
  exact ⟨ends.1, w0.trans (h.2.1.trans w1), ends.2⟩

/-- every range `clip` returns is a sub-range of [0,1] (`0 ≤ t1 ≤ t2 ≤ 1`); sentinels `1 ≤ f64::MAX`, `f64::MIN ≤ 0` -/
theorem clip_range (hM : 1 ≤ (fmaxval : K)) (hm : (fminval : K) ≤ 0) (c1 c2 c3 c4 a1 a2 a3 a4 : V2 K) (r : T2 K K)
    (h : clip c1 c2 c3 c4 a1 a2 a3 a4 = ClipResult.Some r) : 0 ≤ r.t0 ∧ r.t0 ≤ r.t1 ∧ r.t1 ≤ 1 := by
  obtain ⟨qa, qb, hA, hB, rfl⟩ := C13.clip_some h
  have shape : ∀ {fl : FatLineT K} {q : T2 K K}, clip_t fl c1 c2 c3 c4 = some q → 0 ≤ q.t0 ∧ q.t0 ≤ q.t1 ∧ q.t1 ≤ 1 := by
    intro fl q hq
    rcases C13.clip_t_shape hM hm fl c1 c2 c3 c4 with hn | h01 | ⟨q', hq', hb⟩
    · rw [hn] at hq; exact absurd hq (by simp)
    · rw [h01] at hq; cases hq; exact ⟨le_rfl, zero_le_one, le_rfl⟩
    · rw [hq'] at hq; cases hq; exact hb
  split_ifs
  exacts [widen_range qa (shape hA), widen_range qb (shape hB)]

/-- CLIP NEVER LOSES A MEETING POINT, WITHOUT SLACK.  If the point of the first curve at parameter `t ∈ [0,1]` lies on the
    second curve (at a parameter `s ∈ [0,1]`; end points of the second curve more than 1e-7 apart), then `clip` answers
    `SecondCurveIsLinear`, or a range `0 ≤ t1 ≤ t ≤ t2 ≤ 1`; it does not answer `None`.
    (C13's `clip_keeps_intersections` has a slack of 0.00001 here; the widening of zero-length ranges removes it.) -/
theorem clip_keeps_exact (hM : 1 ≤ (fmaxval : K)) (hm : (fminval : K) ≤ 0) (c1 c2 c3 c4 a1 a2 a3 a4 : V2 K)
    (hfar : is_near_to a1 a4 (0.0000001 : K) = false) (t s : K) (ht0 : 0 ≤ t) (ht1 : t ≤ 1) (hs0 : 0 ≤ s) (hs1 : s ≤ 1)
    (hmeet : de_casteljau4 t c1 c2 c3 c4 = de_casteljau4 s a1 a2 a3 a4) :
    clip c1 c2 c3 c4 a1 a2 a3 a4 = ClipResult.SecondCurveIsLinear ∨
    ∃ r, clip c1 c2 c3 c4 a1 a2 a3 a4 = ClipResult.Some r ∧ r.t0 ≤ t ∧ t ≤ r.t1 := by
  have hA := C13.strip_contains_curve a1 a2 a3 a4 hfar s hs0 hs1
  have hB := C13.perp_strip_contains_curve a1 a2 a3 a4 hfar s hs0 hs1
  simp only at hA hB
  rw [← hmeet] at hA hB
  obtain ⟨qa, hqa, qa0, qa01, qa1, la⟩ := clip_t_exact hM hm _ c1 c2 c3 c4 t ht0 ht1 hA
  obtain ⟨qb, hqb, qb0, qb01, qb1, lb⟩ := clip_t_exact hM hm _ c1 c2 c3 c4 t ht0 ht1 hB
  rcases clip_of_some hqa hqb with h | h | h
  · exact Or.inl h
  · exact Or.inr ⟨_, h, widen_lossless qa t la qa0 qa1⟩
  · exact Or.inr ⟨_, h, widen_lossless qb t lb qb0 qb1⟩

end

end ClipExact
