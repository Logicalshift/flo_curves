import FloVerif.Lemmas.Graph
/-! `remove_edge` (mod.rs:436) applied to a self-loop keeps the invariant; the `while` loop of `remove_all_very_short_edges`
(mod.rs:516) for one point. -/
namespace Model.Graph

theorem countP_or_disjoint {α : Type} (a b : α → Bool) (l : List α) (h : ∀ x ∈ l, ¬ (a x = true ∧ b x = true)) :
    l.countP (fun x => a x || b x) = l.countP a + l.countP b := by
  induction l with
  | nil => rfl
  | cons x l ih =>
    rw [List.countP_cons, List.countP_cons, List.countP_cons, ih fun y hy => h y (List.mem_cons_of_mem _ hy)]
    have hx := h x List.mem_cons_self
    cases ha : a x <;> cases hb : b x
    · rfl
    · simp only [Bool.false_or, if_true, Bool.false_eq_true, if_false]; omega
    · simp only [Bool.true_or, if_true, Bool.false_eq_true, if_false]; omega
    · exact absurd ⟨ha, hb⟩ hx

theorem cntP_or_disjoint (a b : Edge → Bool) (g : Graph) (h : ∀ x, ¬ (a x = true ∧ b x = true)) :
    cntP (fun x => a x || b x) g = cntP a g + cntP b g :=
  countP_or_disjoint a b _ (fun x _ => h x)

theorem cntP_and_const (a : Edge → Bool) (c : Bool) (g : Graph) :
    cntP (fun x => a x && c) g = if c then cntP a g else 0 := by
  cases c
  · simp [cntP]
  · simp

theorem cntP_eraseIdx (q : Edge → Bool) (g : Graph) (p e : Nat) (old : Edge) (h : edgeAt g p e = some old) :
    cntP q (updEdges g p (·.eraseIdx e)) + (if q old then 1 else 0) = cntP q g := by
  have hp := lt_of_edgeAt h
  have h1 := cntP_updEdges q g p (·.eraseIdx e) hp
  have h2 := countP_eraseIdx q (edgesAt g p) e old h
  omega

theorem findPrev_some {g : Graph} {s e : Nat} {prev : Nat × Nat} (h : findPrev g s e = some prev) :
    prev.1 ∈ connAt g s ∧ ∃ pe, edgeAt g prev.1 prev.2 = some pe ∧ pe.endIdx = s ∧ pe.fol = e := by
  unfold findPrev at h
  obtain ⟨c, hc, hf⟩ := List.exists_of_findSome?_eq_some h
  rw [Option.map_eq_some_iff] at hf
  obtain ⟨x, hx, rfl⟩ := hf
  exact ⟨hc, x.1, List.mem_zipIdx_iff_getElem?.mp (List.mem_of_find?_eq_some hx), by simpa using List.find?_some hx⟩

theorem findPrev_isSome {g : Graph} {s e a : Nat} {x : Edge} (ha : a ∈ connAt g s) (hx : x ∈ edgesAt g a)
    (h1 : x.endIdx = s) (h2 : x.fol = e) : ∃ prev, findPrev g s e = some prev := by
  unfold findPrev
  rw [← Option.isSome_iff_exists, List.findSome?_isSome_iff]
  refine ⟨a, ha, ?_⟩
  rw [Option.isSome_map, List.find?_isSome]
  obtain ⟨i, hi⟩ := List.mem_iff_getElem?.mp hx
  exact ⟨(x, i), List.mem_zipIdx_iff_getElem?.mpr hi, by simp [h1, h2]⟩

theorem adjustFol_end (s e : Nat) (x : Edge) : (adjustFol s e x).endIdx = x.endIdx := by
  unfold adjustFol; split_ifs <;> rfl

theorem pointsTo_adjustFol (s e f : Nat) (x : Edge) : (pointsTo s f ∘ adjustFol s e) x =
    ((pointsTo s (f + 1) x && decide (e < f + 1)) || (pointsTo s f x && decide (f ≤ e))) := by
  rw [Bool.eq_iff_iff]
  simp only [Function.comp, adjustFol, Bool.or_eq_true, Bool.and_eq_true, pointsTo_iff, decide_eq_true_eq]
  by_cases hs : x.endIdx = s
  · by_cases hc : x.fol > e
    · rw [if_pos ⟨hs, hc⟩]
      simp only [hs, true_and]
      omega
    · rw [if_neg fun h => hc h.2]
      simp only [hs, true_and]
      omega
  · rw [if_neg fun h => hs h.1]
    simp only [hs, false_and, or_false]

theorem pointsTo_adjustFol_ne {s p : Nat} (e f : Nat) (x : Edge) (h : p ≠ s) :
    (pointsTo p f ∘ adjustFol s e) x = pointsTo p f x := by
  simp only [Function.comp, adjustFol]
  split_ifs with hc
  · have : (x.endIdx == p) = false := by
      rw [beq_eq_false_iff_ne, hc.1]; exact fun hh => h hh.symm
    simp only [pointsTo, this, Bool.false_and]
  · rfl

/-- after the adjustment slot `f` of `s` is named by the edges that named `f + 1` (if that lies behind `e`) or `f` (if not) -/
theorem cntP_pointsTo_adjust (s e f : Nat) (g : Graph) : cntP (pointsTo s f ∘ adjustFol s e) g =
    (if e < f + 1 then cntP (pointsTo s (f + 1)) g else 0) + (if f ≤ e then cntP (pointsTo s f) g else 0) := by
  rw [cntP_congr fun a x _ => pointsTo_adjustFol s e f x, cntP_or_disjoint _ _ _ (by
    intro x
    simp only [Bool.and_eq_true, pointsTo_iff, decide_eq_true_eq]
    omega), cntP_and_const, cntP_and_const]
  simp only [decide_eq_true_eq]

theorem cntP_adjust_blind (s e : Nat) {q : Edge → Bool} (hq : IndexBlind q) (g : Graph) :
    cntP (q ∘ adjustFol s e) g = cntP q g := by
  apply cntP_congr
  intro a x _
  simp only [Function.comp, adjustFol]
  split_ifs
  · exact hq x x.endIdx (x.fol - 1)
  · rfl

theorem edgesAt_updEdges_map (g : Graph) (c : Nat) (f : Edge → Edge) (a : Nat) :
    edgesAt (updEdges g c (·.map f)) a = if a = c then (edgesAt g a).map f else edgesAt g a := by
  rw [edgesAt_updEdges]
  by_cases hac : a = c
  · subst hac
    by_cases hl : a < g.length
    · simp [hl]
    · simp [hl, edgesAt_of_ge (Nat.le_of_not_lt hl)]
  · simp [hac]

theorem adjust_fold (s e : Nat) (L : List Nat) (hL : L.Nodup) : ∀ (g : Graph) (b : Bool),
    let r := L.foldl (fun (st : Graph × Bool) c =>
      (updEdges st.1 c (·.map (adjustFol s e)), st.2 || (edgesAt st.1 c).any (·.endIdx == s))) (g, b)
    r.1.length = g.length ∧ (∀ a, connAt r.1 a = connAt g a) ∧
    (∀ a, edgesAt r.1 a = if a ∈ L then (edgesAt g a).map (adjustFol s e) else edgesAt g a) ∧
    (r.2 = true ↔ b = true ∨ ∃ c ∈ L, ∃ x ∈ edgesAt g c, x.endIdx = s) := by
  induction L with
  | nil => intro g b; simp
  | cons c L ih =>
    intro g b
    simp only [List.foldl_cons]
    rw [List.nodup_cons] at hL
    have := ih hL.2 (updEdges g c (·.map (adjustFol s e))) (b || (edgesAt g c).any (·.endIdx == s))
    simp only at this
    obtain ⟨h1, h2, h3, h4⟩ := this
    refine ⟨by rw [h1]; simp, fun a => by rw [h2, connAt_updEdges], ?_, ?_⟩
    · intro a
      rw [h3, edgesAt_updEdges_map]
      by_cases hac : a = c
      · subst hac; simp [hL.1]
      · simp [hac]
    · -- the points still to come are different from `c`: their edges are as before
      have hst : ∀ c' ∈ L, edgesAt (updEdges g c (·.map (adjustFol s e))) c' = edgesAt g c' := fun c' hc' => by
        rw [edgesAt_updEdges_map, if_neg fun hh : c' = c => hL.1 (hh ▸ hc')]
      rw [h4]
      simp only [Bool.or_eq_true, List.any_eq_true, beq_iff_eq, List.mem_cons, exists_eq_or_imp, or_assoc]
      exact or_congr_right (or_congr_right (exists_congr fun c' => and_congr_right fun hc' => by rw [hst c' hc']))

/-- the last part of `remove_edge`: the loop that adjusts the following indices, and the pruning of `connected_from` of `s` -/
def adjustStage (s e : Nat) (g : Graph) : Graph :=
  let r := (connAt g s).foldl (fun (st : Graph × Bool) c =>
      (updEdges st.1 c (·.map (adjustFol s e)), st.2 || (edgesAt st.1 c).any (·.endIdx == s))) (g, false)
  if !r.2 then updConn r.1 s (·.filter (· != s)) else r.1

theorem map_adjust_id {s e : Nat} {l : List Edge} (h : ∀ x ∈ l, x.endIdx ≠ s) : l.map (adjustFol s e) = l := by
  conv_rhs => rw [← List.map_id l]
  apply List.map_congr_left
  intro x hx
  unfold adjustFol
  rw [if_neg (by intro hh; exact h x hx hh.1)]
  rfl

/-- `connected_from` of `s` may be rearranged or pruned as long as every point with an edge to `s` stays listed -/
theorem connOk_updConn {g : Graph} (h : ConnOk g) (s : Nat) {f : List Nat → List Nat}
    (hsub : ∀ c ∈ f (connAt g s), c ∈ connAt g s) (hn : (f (connAt g s)).Nodup)
    (hc : ∀ a, ∀ x ∈ edgesAt g a, x.endIdx = s → a ∈ f (connAt g s)) : ConnOk (updConn g s f) := by
  refine ⟨fun a c hc' => ?_, fun a => ?_, fun a x hx => ?_⟩
  · rw [length_updConn]
    rw [connAt_updConn] at hc'
    split_ifs at hc'
    · exact h.valid s c (hsub c hc')
    · exact h.valid a c hc'
  · rw [connAt_updConn]
    split_ifs
    · exact hn
    · exact h.nodup a
  · rw [edgesAt_updConn] at hx
    rw [connAt_updConn]
    split_ifs with has
    · exact hc a x hx has.1
    · exact h.complete a x hx

/-- Where `connected_from` is complete the loop reaches every edge that ends at `s`, so all edges of the graph are adjusted; and
the list of `s` is pruned only if no edge ends at `s` any more. -/
theorem adjustStage_connOk (s e : Nat) {g : Graph} (h : ConnOk g) :
    (adjustStage s e g).length = g.length ∧ (∀ a, edgesAt (adjustStage s e g) a = (edgesAt g a).map (adjustFol s e)) ∧
    ConnOk (adjustStage s e g) := by
  have hf := adjust_fold s e (connAt g s) (h.nodup s) g false
  unfold adjustStage
  simp only [] at hf ⊢
  generalize List.foldl _ (g, false) (connAt g s) = r at hf ⊢
  obtain ⟨r1, r2, r3, r4⟩ := hf
  have hedges : ∀ a, edgesAt r.1 a = (edgesAt g a).map (adjustFol s e) := by
    intro a
    rw [r3]
    split_ifs with ha
    · rfl
    · exact (map_adjust_id (s := s) fun x hx hxs => ha (hxs ▸ h.complete a x hx)).symm
  have hr : ConnOk r.1 := by
    refine ⟨fun a c hc => ?_, fun a => ?_, fun a x hx => ?_⟩
    · rw [r1]
      exact h.valid a c (r2 a ▸ hc)
    · rw [r2]
      exact h.nodup a
    · rw [hedges, List.mem_map] at hx
      obtain ⟨y, hy, rfl⟩ := hx
      rw [adjustFol_end, r2]
      exact h.complete a y hy
  cases hb : r.2
  · rw [Bool.not_false, if_pos rfl]
    refine ⟨by rw [length_updConn, r1], fun a => by rw [edgesAt_updConn, hedges],
      connOk_updConn hr s (fun c hc => (List.mem_filter.mp hc).1) ((hr.nodup s).filter _) fun a x hx hxs => ?_⟩
    -- the flag is unset, so no edge ends at `s`
    rw [hedges, List.mem_map] at hx
    obtain ⟨y, hy, rfl⟩ := hx
    rw [adjustFol_end] at hxs
    rw [r4.mpr (Or.inr ⟨a, hxs ▸ h.complete a y hy, y, hy, hxs⟩)] at hb
    cases hb
  · exact ⟨r1, hedges, hr⟩

/-- `x` takes over the end and the following index of `ed` -/
def redirectTo (ed x : Edge) : Edge := { x with endIdx := ed.endIdx, fol := ed.fol }

/-- the first part of `remove_edge`: the preceding edge `prev` is redirected to where `ed` leads, and `ed` is erased -/
def eraseRedirected (g : Graph) (s e : Nat) (ed : Edge) (prev : Nat × Nat) : Graph :=
  updEdges (updEdge g prev.1 prev.2 (redirectTo ed)) s (·.eraseIdx e)

/-- The edge erased is `ed` itself even if `ed` is its own predecessor: redirecting `ed` to where it leads changes nothing. -/
theorem cntP_eraseRedirected {g : Graph} {s e : Nat} {ed pe : Edge} {prev : Nat × Nat} (he : edgeAt g s e = some ed)
    (hpe : edgeAt g prev.1 prev.2 = some pe) (q : Edge → Bool) :
    cntP q (eraseRedirected g s e ed prev) + (if q ed then 1 else 0) + (if q pe then 1 else 0) =
      cntP q g + (if q (redirectTo ed pe) then 1 else 0) := by
  have hed : edgeAt (updEdge g prev.1 prev.2 (redirectTo ed)) s e = some ed := by
    rw [edgeAt_updEdge, he]
    split_ifs <;> rfl
  have c1 := cntP_eraseIdx q _ s e ed hed
  have c2 := cntP_updEdge q g prev.1 prev.2 (redirectTo ed) pe hpe
  unfold eraseRedirected
  omega

theorem edgesAt_eraseRedirected {g : Graph} {s : Nat} (hs : s < g.length) (e : Nat) (ed : Edge) (prev : Nat × Nat) (a : Nat) :
    edgesAt (eraseRedirected g s e ed prev) a = if a = s then (edgesAt (updEdge g prev.1 prev.2 (redirectTo ed)) s).eraseIdx e
      else edgesAt (updEdge g prev.1 prev.2 (redirectTo ed)) a := by
  unfold eraseRedirected
  rw [edgesAt_updEdges, length_updEdge]
  by_cases has : a = s
  · rw [if_pos ⟨has, hs⟩, if_pos has]
  · rw [if_neg fun hh => has hh.1, if_neg has]

/-- the redirected edge ends where `ed` ends, at `s`, and starts at `prev.1`, which is listed at `s` -/
theorem eraseRedirected_connOk {g : Graph} (h : ConnOk g) {s : Nat} (hs : s < g.length) (e : Nat) {ed : Edge}
    (hloop : ed.endIdx = s) {prev : Nat × Nat} (hpc : prev.1 ∈ connAt g s) : ConnOk (eraseRedirected g s e ed prev) := by
  have hconn : ∀ a, connAt (eraseRedirected g s e ed prev) a = connAt g a := fun a => by
    rw [eraseRedirected, connAt_updEdges, connAt_updEdge]
  refine ⟨fun a c hc => ?_, fun a => ?_, fun a x hx => ?_⟩
  · rw [eraseRedirected, length_updEdges, length_updEdge]
    exact h.valid a c (hconn a ▸ hc)
  · rw [hconn]
    exact h.nodup a
  · rw [hconn]
    rw [edgesAt_eraseRedirected hs] at hx
    have hx1 : x ∈ edgesAt (updEdge g prev.1 prev.2 (redirectTo ed)) a := by
      split_ifs at hx with hc
      · exact hc ▸ (List.eraseIdx_sublist _ _).subset hx
      · exact hx
    rcases mem_edgesAt_updEdge hx1 with hx2 | ⟨old, _, rfl, ha⟩
    · exact h.complete a x hx2
    · rw [ha]
      exact hloop ▸ hpc

theorem eraseRedirected_spec {g : Graph} (h : FolWf g) {s e : Nat} {ed pe : Edge} {prev : Nat × Nat}
    (he : edgeAt g s e = some ed) (hpe : edgeAt g prev.1 prev.2 = some pe) (hpe1 : pe.endIdx = s) (hpe2 : pe.fol = e) :
    let g2 := eraseRedirected g s e ed prev
    g2.length = g.length ∧
    (∀ a, (edgesAt g2 a).length + (if a = s then 1 else 0) = (edgesAt g a).length) ∧
    (∀ p f, p < g.length →
      cntP (pointsTo p f) g2 + (if s = p ∧ e = f then 1 else 0) = if f < (edgesAt g p).length then 1 else 0) ∧
    (∀ q : Edge → Bool, IndexBlind q → cntP q g2 + (if q ed then 1 else 0) = cntP q g) := by
  refine ⟨by simp [eraseRedirected], fun a => ?_, fun p f hp => ?_, fun q hq => ?_⟩
  · rw [edgesAt_eraseRedirected (lt_of_edgeAt he)]
    split_ifs with hc
    · have := idx_lt_of_edgeAt he
      rw [List.length_eraseIdx, length_edgesAt_updEdge, hc, if_pos this]
      omega
    · rw [length_edgesAt_updEdge]; rfl
  · have c := cntP_eraseRedirected he hpe (pointsTo p f)
    have hsl := h.slot p f hp
    rw [slotCount_eq] at hsl
    simp only [pointsTo_iff, redirectTo, hpe1, hpe2] at c
    omega
  · have c := cntP_eraseRedirected he hpe q
    rw [redirectTo, hq pe ed.endIdx ed.fol] at c
    omega

/-- the body of `remove_edge` once the edge and its preceding edge are known -/
def removeEdgeBody (g : Graph) (s e : Nat) (ed : Edge) (prev : Nat × Nat) : Graph :=
  adjustStage s e (updConn (eraseRedirected g s e ed prev) s fun c => dedupAdj (sortNat c))

theorem removeEdge_eq {g : Graph} {s e : Nat} {ed : Edge} {prev : Nat × Nat} (he : edgeAt g s e = some ed)
    (hprev : findPrev g s e = some prev) : removeEdge g s e = some (removeEdgeBody g s e ed prev) := by
  unfold removeEdge removeEdgeBody adjustStage eraseRedirected redirectTo
  rw [he]
  simp only [hprev]

/-- renumbering after index `e` was removed from `n = m + 1` slots: if every slot `f < n` other than `e` is named once
(`A0`, `A1`: how often `f` and `f + 1` are named), every slot `f < m` is named once afterwards -/
theorem count_renumbered {e n m f A0 A1 : Nat} (he : e < n) (hm : m + 1 = n)
    (a : A1 + (if e = f + 1 then 1 else 0) = if f + 1 < n then 1 else 0)
    (b : A0 + (if e = f then 1 else 0) = if f < n then 1 else 0) :
    (if e < f + 1 then A1 else 0) + (if f ≤ e then A0 else 0) = if f < m then 1 else 0 := by
  subst hm
  rcases Nat.lt_trichotomy f e with h | rfl | h
  · rw [if_neg (by omega), if_pos (Nat.le_of_lt h), if_pos (by omega), Nat.zero_add]
    rw [if_neg (by omega), if_pos (by omega)] at b
    exact b
  · rw [if_pos (Nat.lt_succ_self _), if_pos (Nat.le_refl _)]
    rw [if_pos rfl, if_pos he] at b
    rw [if_neg (by omega)] at a
    simp only [Nat.succ_lt_succ_iff] at a
    omega
  · rw [if_pos (by omega), if_neg (by omega), Nat.add_zero]
    rw [if_neg (by omega)] at a
    simpa only [Nat.succ_lt_succ_iff, Nat.add_zero] using a

theorem removeEdgeBody_wf {g : Graph} (h : Wf g) {s e : Nat} {ed pe : Edge} {prev : Nat × Nat}
    (he : edgeAt g s e = some ed) (hloop : ed.endIdx = s) (hpc : prev.1 ∈ connAt g s)
    (hpe : edgeAt g prev.1 prev.2 = some pe) (hpe1 : pe.endIdx = s) (hpe2 : pe.fol = e) :
    Wf (removeEdgeBody g s e ed prev) ∧ (removeEdgeBody g s e ed prev).length = g.length ∧
      (∀ a, (edgesAt (removeEdgeBody g s e ed prev) a).length + (if a = s then 1 else 0) = (edgesAt g a).length) ∧
      (∀ q : Edge → Bool, IndexBlind q →
        cntP q (removeEdgeBody g s e ed prev) + (if q ed then 1 else 0) = cntP q g) := by
  have hs := lt_of_edgeAt he
  obtain ⟨c1, c3, c5, c6⟩ := eraseRedirected_spec h.fol he hpe hpe1 hpe2
  have hconn2 := eraseRedirected_connOk h.conn hs e hloop hpc
  obtain ⟨hlenF, hedgesF, hconnF⟩ := adjustStage_connOk s e
    (connOk_updConn hconn2 s (f := fun c => dedupAdj (sortNat c)) (fun c => (mem_sortDedup _ c).mp) (nodup_sortDedup _)
      fun a x hx hxs => (mem_sortDedup _ a).mpr (hxs ▸ hconn2.complete a x hx))
  unfold removeEdgeBody
  generalize adjustStage s e _ = G at hlenF hedgesF hconnF ⊢
  rw [length_updConn, c1] at hlenF
  simp only [edgesAt_updConn] at hedgesF
  have hcnt : ∀ q, cntP q G = cntP (q ∘ adjustFol s e) (eraseRedirected g s e ed prev) :=
    cntP_of_edgesAt_map (adjustFol s e) (by rw [hlenF, c1]) hedgesF
  refine ⟨⟨⟨fun a x hx => mem_connAt_lt (hconnF.complete a x hx), ?_⟩, hconnF⟩, hlenF, ?_, ?_⟩
  · intro p f hp
    rw [hlenF] at hp
    rw [slotCount_eq, hcnt, hedgesF, List.length_map]
    have hl := c3 p
    by_cases hps : p = s
    · subst hps
      have a := c5 p (f + 1) hp
      have b := c5 p f hp
      simp only [true_and] at a b
      rw [if_pos rfl] at hl
      rw [cntP_pointsTo_adjust]
      exact count_renumbered (idx_lt_of_edgeAt he) hl a b
    · have b := c5 p f hp
      rw [if_neg fun hh : s = p ∧ _ => hps hh.1.symm, Nat.add_zero] at b
      rw [if_neg hps, Nat.add_zero] at hl
      rw [cntP_congr fun a x _ => pointsTo_adjustFol_ne e f x hps, hl]
      exact b
  · intro a
    rw [hedgesF, List.length_map]
    exact c3 a
  · intro q hq
    rw [hcnt, cntP_adjust_blind s e hq]
    exact c6 q hq

theorem removeEdge_wf {g : Graph} (h : Wf g) {s e : Nat} {ed : Edge} (he : edgeAt g s e = some ed) (hloop : ed.endIdx = s) :
    ∃ g', removeEdge g s e = some g' ∧ Wf g' ∧ g'.length = g.length ∧
      (∀ a, (edgesAt g' a).length + (if a = s then 1 else 0) = (edgesAt g a).length) ∧
      (∀ q : Edge → Bool, IndexBlind q →
        cntP q g' + (if q ed then 1 else 0) = cntP q g) := by
  have hs := lt_of_edgeAt he
  have hem := idx_lt_of_edgeAt he
  have hex : ∃ prev, findPrev g s e = some prev := by
    have hsl := h.fol.slot s e hs
    rw [if_pos hem, slotCount_eq, cntP] at hsl
    have : 0 < List.countP (pointsTo s e) (allEdges g) := by omega
    obtain ⟨x, hx, hxp⟩ := List.countP_pos_iff.mp this
    obtain ⟨a, ha⟩ := mem_allEdges.mp hx
    rw [pointsTo_iff] at hxp
    exact findPrev_isSome (by have := h.conn.complete a x ha; rwa [hxp.1] at this) ha hxp.1 hxp.2
  obtain ⟨prev, hprev⟩ := hex
  obtain ⟨hpc, pe, hpe, hpe1, hpe2⟩ := findPrev_some hprev
  exact ⟨_, removeEdge_eq he hprev, removeEdgeBody_wf h he hloop hpc hpe hpe1 hpe2⟩

/-- the `while` loop for one point: every removal is the removal of a self-loop, so the invariant is kept and the loop
never meets a missing preceding edge -/
theorem removeShortAt_wf (p : Nat) : ∀ (k : Nat) (g : Graph) (e : Nat) (dec : List (Nat × Nat)), Wf g →
    ∃ g' dec', removeShortAt p k g e dec = some (g', dec') ∧ Wf g' ∧ g'.length = g.length := by
  intro k
  induction k with
  | zero => intro g e dec h; exact ⟨g, dec, rfl, h, rfl⟩
  | succ k ih =>
    intro g e dec h
    unfold removeShortAt
    cases he : edgeAt g p e with
    | none => exact ⟨g, dec, rfl, h, rfl⟩
    | some ed =>
      simp only
      split_ifs with hc
      · obtain ⟨g', hg', hw, hl, _, _⟩ := removeEdge_wf h he hc.1
        rw [hg']
        simp only
        obtain ⟨g'', dec'', h1, h2, h3⟩ := ih g' e dec.tail hw
        exact ⟨g'', dec'', h1, h2, by rw [h3, hl]⟩
      · exact ih g (e + 1) dec h

theorem removeShortAt_fuel (p : Nat) : ∀ (k : Nat) (g : Graph) (e : Nat) (dec : List (Nat × Nat)), Wf g →
    k + e = (edgesAt g p).length → ∀ j, removeShortAt p (k + j) g e dec = removeShortAt p k g e dec := by
  intro k
  induction k with
  | zero =>
    intro g e dec _ hk j
    cases j with
    | zero => rfl
    | succ j =>
      have : edgeAt g p e = none := by
        unfold edgeAt
        apply List.getElem?_eq_none
        omega
      simp only [Nat.zero_add]
      unfold removeShortAt
      rw [this]
  | succ k ih =>
    intro g e dec h hk j
    have hkj : k + 1 + j = (k + j) + 1 := by omega
    rw [hkj]
    unfold removeShortAt
    cases he : edgeAt g p e with
    | none => rfl
    | some ed =>
      simp only
      split_ifs with hc
      · obtain ⟨g', hg', hw, _, hlen, _⟩ := removeEdge_wf h he hc.1
        rw [hg']
        simp only
        have := hlen p
        simp only [if_true] at this
        exact ih g' e dec.tail hw (by omega) j
      · exact ih g (e + 1) dec h (by omega) j

theorem foldlM_option_inv {α β : Type} (P : β → Prop) (f : β → α → Option β) (l : List α) :
    ∀ (init : β), (∀ b a, a ∈ l → P b → ∃ b', f b a = some b' ∧ P b') → P init →
      ∃ r, l.foldlM f init = some r ∧ P r := by
  induction l with
  | nil => intro init _ h0; exact ⟨init, rfl, h0⟩
  | cons a l ih =>
    intro init h h0
    obtain ⟨b', hb', hp'⟩ := h init a (by simp) h0
    obtain ⟨r, hr, hpr⟩ := ih b' (fun b a' ha' => h b a' (by simp [ha'])) hp'
    refine ⟨r, ?_, hpr⟩
    rw [List.foldlM_cons, hb']
    exact hr

end Model.Graph
