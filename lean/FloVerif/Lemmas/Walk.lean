/-
`EvenWalkIterator::next` (walk.rs:175-272): its inner loop named, the generated function in three cases, the loop's invariant rule,
and that 32 passes are never exceeded; over the bare operation classes, for the exact fields of C15 and the numbers of C20 alike.
-/
import FloVerif.Gen.Total
import FloVerif.Lemmas.Loop
import Mathlib.Logic.Basic
import Mathlib.Tactic.SplitIfs

namespace Walk
open Prelude Gen

variable {K : Type} [Add K] [Sub K] [Mul K] [Div K] [LT K] [LE K] [DecidableLT K] [DecidableLE K] [OfScientific K]
  [Inhabited K] [FAbs K] [FSqrt K]
  (w1 w2 w3 w4 : V2 K) (d : T3 (V2 K) (V2 K) (V2 K)) (dist err lastT : K) (lastP : V2 K)

/-- the step controller, walk.rs:223-245 -/
def incUpdate (inc dist nd speed : K) : K :=
  if fabs speed < 0.00000001 then
    if dist / nd < 0.5 then inc * 0.5 else if dist / nd > 1.5 then inc * 1.5 else inc * (dist / nd)
  else if (nd - dist) / speed ≥ inc then inc * 0.3333333 else inc - (nd - dist) / speed

def reached (st : T4 (V2 K) K K Nat) : V2 K := curve_point_at_pos w1 w2 w3 w4 st.t2

def adjusted (st : T4 (V2 K) K K Nat) : T4 (V2 K) K K Nat :=
  let p := reached w1 w2 w3 w4 st
  let inc := incUpdate st.t1 dist (coord2_distance_to lastP p) (magnitude (de_casteljau3 st.t2 d.t0 d.t1 d.t2))
  T4.mk p inc (lastT + inc) (st.t3 + 1)

/-- one pass of the inner loop, on (point, increment, candidate parameter, count) -/
def loopStep (st : T4 (V2 K) K K Nat) : Sum (T4 (V2 K) K K Nat) (T4 (V2 K) K K Nat) :=
  if fabs (dist - coord2_distance_to lastP (reached w1 w2 w3 w4 st)) < err then .inr (T4.mk (reached w1 w2 w3 w4 st) st.t1 st.t2 st.t3)
  else if st.t3 + 1 ≥ 32 then .inr (adjusted w1 w2 w3 w4 d dist lastT lastP st) else .inl (adjusted w1 w2 w3 w4 d dist lastT lastP st)

def evenLoop (fuel : Nat) (lastInc : K) : T4 (V2 K) K K Nat :=
  iterFuel fuel (loopStep w1 w2 w3 w4 d dist err lastT lastP) (fun st => st) (T4.mk default lastInc (lastT + lastInc) 0)

theorem even_walk_next_fuel_eq (fuel : Nat) (lastInc : K) :
    even_walk_next_fuel fuel w1 w2 w3 w4 d dist err lastT lastP lastInc =
      let upd := evenLoop w1 w2 w3 w4 d dist err lastT lastP fuel lastInc
      if lastT ≥ 1.0 then T2.mk none (T3.mk lastT lastP lastInc)
      else if (lastT + lastInc ≥ 1.0 ∧ coord2_distance_to lastP (curve_point_at_pos w1 w2 w3 w4 (1.0 : K)) < dist) ∨ upd.t2 > 1.0 then
        T2.mk (some (T2.mk lastT 1.0)) (T3.mk 1.0 lastP lastInc)
      else T2.mk (some (T2.mk lastT upd.t2)) (T3.mk upd.t2 upd.t0 upd.t1) := by
  unfold even_walk_next_fuel evenLoop loopStep adjusted reached incUpdate
  simp only [decide_eq_true_eq]
  generalize iterFuel fuel _ _ _ = upd
  rw [ite_or, ite_and]

theorem even_walk_next_eq (lastInc : K) :
    even_walk_next w1 w2 w3 w4 d dist err lastT lastP lastInc =
      even_walk_next_fuel 64 w1 w2 w3 w4 d dist err lastT lastP lastInc := rfl

theorem evenLoop_inv (P : T4 (V2 K) K K Nat → Prop) (fuel : Nat) (lastInc : K) (h0 : P (T4.mk default lastInc (lastT + lastInc) 0))
    (haccept : ∀ st, P st → P (T4.mk (reached w1 w2 w3 w4 st) st.t1 st.t2 st.t3))
    (hadjust : ∀ st, P st → ¬ fabs (dist - coord2_distance_to lastP (reached w1 w2 w3 w4 st)) < err →
      P (adjusted w1 w2 w3 w4 d dist lastT lastP st)) :
    P (evenLoop w1 w2 w3 w4 d dist err lastT lastP fuel lastInc) := by
  have hstep : ∀ st st', P st → (loopStep w1 w2 w3 w4 d dist err lastT lastP st = .inl st' ∨
      loopStep w1 w2 w3 w4 d dist err lastT lastP st = .inr st') → P st' := by
    intro st st' hs h
    unfold loopStep at h
    split_ifs at h with hacc
    · rcases h with h | h <;> cases h
      exact haccept st hs
    all_goals
      rcases h with h | h <;> cases h
      exact hadjust st hs hacc
  exact iterFuel_inv P P _ _ (fun s s' hs h => hstep s s' hs (.inl h)) (fun s r hs h => hstep s r hs (.inr h)) (fun _ hs => hs) fuel _ h0

/-- MAX_ITERATIONS = 32, walk.rs:176 -/
theorem evenLoop_fuel (fuel : Nat) (hf : 32 ≤ fuel) (lastInc : K) :
    evenLoop w1 w2 w3 w4 d dist err lastT lastP fuel lastInc = evenLoop w1 w2 w3 w4 d dist err lastT lastP 32 lastInc := by
  refine iterFuel_stable (fun s : T4 (V2 K) K K Nat => 31 - s.t3) _ _ (fun s s' hs => ?_) fuel 32 _
    (Nat.lt_of_lt_of_le (Nat.lt_succ_self 31) hf) (Nat.lt_succ_self 31)
  unfold loopStep at hs
  split_ifs at hs with h1 h2
  -- only the last branch is `inl`; there `count + 1 < 32`
  obtain ⟨⟩ := hs
  show 31 - (s.t3 + 1) < 31 - s.t3
  omega

end Walk
