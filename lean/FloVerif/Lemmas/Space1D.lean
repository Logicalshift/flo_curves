/-
The proof behind C18Space.  `Space1D::from_data` (model `Model.Space1D`): the specification `Good` and the invariant
`LoopInv` of the main loop.  The queries, on any sorted list of non-empty pieces.
-/
import FloVerif.Model.Space1D
import Mathlib.Order.Basic
import Mathlib.Order.Lattice
import Mathlib.Data.List.TakeWhile

namespace C18Space
open Model.Space1D

variable {K : Type} [LinearOrder K]

def Contig : List (Piece K) → Prop
  | [] => True
  | p :: l => (∀ q ∈ l.head?, p.e = q.s) ∧ Contig l

/-- the specification relative to a list of processed `(range, handle)` pairs -/
structure Good (done : List ((K × K) × Nat)) (sp : List (Piece K)) : Prop where
  nonempty : ∀ p ∈ sp, p.s < p.e
  sorted   : sp.Pairwise (fun p q => p.e ≤ q.s)
  handles  : ∀ p ∈ sp, ∀ x, p.s ≤ x → x < p.e → ∀ i, i ∈ p.hs ↔ ∃ r, (r, i) ∈ done ∧ r.1 ≤ x ∧ x < r.2
  nodup    : ∀ p ∈ sp, p.hs.Nodup
  cover    : ∀ r i x, (r, i) ∈ done → r.1 ≤ x → x < r.2 → ∃ p ∈ sp, p.s ≤ x ∧ x < p.e

theorem forall_mem_head_cons {α : Type} {P : α → Prop} {a : α} {l : List α} : (∀ q ∈ (a :: l).head?, P q) ↔ P a :=
  ⟨fun h => h a rfl, fun h _ hq => Option.some.inj hq ▸ h⟩

theorem lower_of_head {L : List (Piece K)} {m : K} (hne : ∀ p ∈ L, p.s < p.e)
    (hs : L.Pairwise (fun p q => p.e ≤ q.s)) (hh : ∀ a ∈ L.head?, m ≤ a.s) : ∀ p ∈ L, m ≤ p.s := by
  cases L with
  | nil => exact fun p hp => nomatch hp
  | cons a l =>
    have ha : m ≤ a.s := hh a rfl
    exact List.forall_mem_cons.2 ⟨ha, fun p hp =>
      ha.trans ((hne a List.mem_cons_self).le.trans (List.rel_of_pairwise_cons hs hp))⟩

/-- The invariant of the main loop of `from_data` (DESIGN §6 C18) when `done` has been processed and every later range starts
at or after `m`: `good` is I1 and I3, `finished` the half of I2 about `combined`, `contig` I4, `head` I5. -/
structure LoopInv (done : List ((K × K) × Nat)) (st : St K) (m : K) : Prop where
  good : Good done (st.combinedRev.reverse ++ st.rem)
  contig : Contig st.rem
  finished : ∀ p ∈ st.combinedRev, p.e ≤ m
  head : ∀ a ∈ st.rem.head?, a.s ≤ m

theorem LoopInv.mono {done : List ((K × K) × Nat)} {st : St K} {m m' : K} (hi : LoopInv done st m) (hm : m ≤ m') :
    LoopInv done st m' :=
  ⟨hi.good, hi.contig, fun p hp => (hi.finished p hp).trans hm, fun a ha => (hi.head a ha).trans hm⟩

theorem pushCombined_eq (cr : List (Piece K)) (top : Piece K) (h : ∀ l ∈ cr, l.s ≠ top.s) :
    pushCombined cr top = top :: cr := by
  cases cr with
  | nil => rfl
  | cons last more => exact if_neg (fun e => h last List.mem_cons_self (of_decide_eq_true e))

/-- under I1 the merge in `pushCombined` is unreachable -/
theorem popLoop_spec {done : List ((K × K) × Nat)} {rs : K} {rem cr : List (Piece K)} (hi : LoopInv done ⟨cr, rem⟩ rs) :
    LoopInv done ⟨(popLoop rs cr rem).1, (popLoop rs cr rem).2⟩ rs ∧
      ∀ a ∈ (popLoop rs cr rem).2.head?, rs < a.e := by
  induction rem generalizing cr with
  | nil => exact ⟨hi, fun a ha => nomatch ha⟩
  | cons top rest ih =>
    rw [popLoop]
    split_ifs with hlt
    · exact ⟨hi, forall_mem_head_cons.2 hlt⟩
    · have hle : top.e ≤ rs := not_lt.1 hlt
      have hg : Good done (cr.reverse ++ top :: rest) := hi.good
      have hpush : ∀ l ∈ cr, l.s ≠ top.s := fun l hl =>
        ((hg.nonempty l (List.mem_append_left _ (List.mem_reverse.2 hl))).trans_le
          ((List.pairwise_append.1 hg.sorted).2.2 l (List.mem_reverse.2 hl) top List.mem_cons_self)).ne
      rw [pushCombined_eq cr top hpush]
      refine ih ⟨?_, hi.contig.2, List.forall_mem_cons.2 ⟨hle, hi.finished⟩, fun a ha => hi.contig.1 a ha ▸ hle⟩
      show Good done ((top :: cr).reverse ++ rest)
      rwa [List.reverse_cons, List.append_assoc, List.singleton_append]

theorem drain_nil (h : Nat) (rs re : K) : drain h rs re ([] : List (Piece K)) = ([], [], rs) := rfl

/-- the new `remaining` list of an iteration: drained pieces plus the uncovered tail -/
def drainOut (h : Nat) (rs re : K) (L : List (Piece K)) : List (Piece K) :=
  (drain h rs re L).2.1 ++
    (if (drain h rs re L).2.2 != re then [{ s := (drain h rs re L).2.2, e := re, hs := [h] }] else [])

theorem drain_eq_self (h : Nat) (rs : K) (L : List (Piece K)) (hl : ∀ p ∈ L, rs ≤ p.s) :
    drain h rs rs L = ([], L, rs) := by
  induction L with
  | nil => rfl
  | cons a rest ih =>
    obtain ⟨ha, hrest⟩ := List.forall_mem_cons.1 hl
    simp [drain, not_lt.2 ha, ih hrest]

theorem drainOut_self (h : Nat) (rs : K) (L : List (Piece K)) (hl : ∀ p ∈ L, rs ≤ p.s) :
    drainOut h rs rs L = L := by
  rw [drainOut, drain_eq_self h rs L hl]
  simp

theorem drainOut_nil (h : Nat) {rs re : K} (hne : rs ≠ re) :
    drainOut h rs re [] = [{ s := rs, e := re, hs := [h] }] := by
  simp [drainOut, drain, hne]

theorem drain_le (h : Nat) {rs re : K} (a : Piece K) (rest : List (Piece K)) (hnc : ¬ a.s < rs)
    (hne : rs ≠ re) (hle : a.e ≤ re) :
    (drain h rs re (a :: rest)).1 = (drain h a.e re rest).1 ∧
    drainOut h rs re (a :: rest) = { a with hs := a.hs ++ [h] } :: drainOut h a.e re rest := by
  simp [drainOut, drain, hnc, hne, hle]

theorem drain_gt (h : Nat) {rs re : K} (a : Piece K) (rest : List (Piece K)) (hnc : ¬ a.s < rs)
    (hne : rs ≠ re) (hgt : re < a.e) (hall : ∀ p ∈ rest, re ≤ p.s) :
    (drain h rs re (a :: rest)).1 = [] ∧
    drainOut h rs re (a :: rest) =
      { s := rs, e := re, hs := a.hs ++ [h] } :: { a with s := re } :: rest := by
  simp [drainOut, drain, hnc, hne, not_le.2 hgt, drain_eq_self h re rest hall]

theorem drain_cut_step (h : Nat) (rs re : K) (a : Piece K) (rest cr : List (Piece K)) (hc1 : rs < a.e)
    (hc2 : a.s < rs) :
    (drain h rs re (a :: rest)).1.reverse ++ cr =
      (drain h rs re ({ a with s := rs } :: rest)).1.reverse ++ { s := a.s, e := rs, hs := a.hs } :: cr ∧
    drainOut h rs re (a :: rest) = drainOut h rs re ({ a with s := rs } :: rest) := by
  by_cases h1 : rs = re
  · subst h1
    simp [drainOut, drain, hc1, hc2]
  · by_cases h2 : a.e ≤ re <;> simp [drainOut, drain, hc1, hc2, h1, h2]

/-- the drain loop on an in-flight list `L` that starts at `rs`: each piece of `out` is part of a piece of `L`, with `h`
added below `re`, or lies in the gap between `L` and `re` -/
structure DrainPost (h : Nat) (rs re : K) (L out : List (Piece K)) : Prop where
  nonempty : ∀ q ∈ out, q.s < q.e
  sorted : out.Pairwise (fun p q => p.e ≤ q.s)
  contig : Contig out
  lower : ∀ q ∈ out, rs ≤ q.s
  head_cons : ∀ q ∈ out.head?, ∀ a ∈ L.head?, q.s = a.s
  head_nil : L = [] → ∀ q ∈ out.head?, q.s = rs
  hs : ∀ q ∈ out, ∀ x, q.s ≤ x → x < q.e →
        (∃ p ∈ L, p.s ≤ x ∧ x < p.e ∧ q.hs = if x < re then p.hs ++ [h] else p.hs) ∨
        ((∀ p ∈ L, p.e ≤ x) ∧ x < re ∧ q.hs = [h])
  cover : ∀ x, ((∃ p ∈ L, p.s ≤ x ∧ x < p.e) ∨ (rs ≤ x ∧ x < re)) → ∃ q ∈ out, q.s ≤ x ∧ x < q.e

theorem drain_spec_self (h : Nat) {rs : K} {L : List (Piece K)} (hne : ∀ p ∈ L, p.s < p.e)
    (hs : L.Pairwise (fun p q => p.e ≤ q.s)) (hct : Contig L) (hh : ∀ a ∈ L.head?, a.s = rs) :
    (drain h rs rs L).1 = [] ∧ DrainPost h rs rs L (drainOut h rs rs L) := by
  have hall := lower_of_head hne hs fun a ha => (hh a ha).ge
  rw [drainOut_self h rs L hall, drain_eq_self h rs L hall]
  exact ⟨rfl,
    { nonempty := hne
      sorted := hs
      contig := hct
      lower := hall
      head_cons := fun q hq a ha => congrArg Piece.s (Option.some.inj (hq.symm.trans ha))
      head_nil := fun hL q hq => by subst hL; exact nomatch hq
      hs := fun q hq x h1 h2 => Or.inl ⟨q, hq, h1, h2, (if_neg (not_lt.2 ((hall q hq).trans h1))).symm⟩
      cover := fun x hx => hx.elim id fun hx => absurd (hx.1.trans_lt hx.2) (lt_irrefl _) }⟩

theorem drain_spec (h : Nat) {rs re : K} {L : List (Piece K)} (hle : rs ≤ re) (hne : ∀ p ∈ L, p.s < p.e)
    (hs : L.Pairwise (fun p q => p.e ≤ q.s)) (hct : Contig L) (hh : ∀ a ∈ L.head?, a.s = rs) :
    (drain h rs re L).1 = [] ∧ DrainPost h rs re L (drainOut h rs re L) := by
  induction L generalizing rs with
  | nil =>
    rcases hle.eq_or_lt with rfl | hlt
    · exact drain_spec_self h hne hs hct hh
    rw [drainOut_nil h hlt.ne]
    exact ⟨rfl,
      { nonempty := List.forall_mem_singleton.2 hlt
        sorted := List.pairwise_singleton _ _
        contig := ⟨fun q hq => (nomatch hq), trivial⟩
        lower := List.forall_mem_singleton.2 le_rfl
        head_cons := fun q _ a ha => nomatch ha
        head_nil := fun _ => forall_mem_head_cons.2 rfl
        hs := List.forall_mem_singleton.2 fun x _ h2 => Or.inr ⟨fun p hp => (nomatch hp), h2, rfl⟩
        cover := fun x hx => hx.elim (fun ⟨p, hp, _⟩ => nomatch hp)
          fun hx => ⟨_, List.mem_singleton_self _, hx⟩ }⟩
  | cons a rest ih =>
    rcases hle.eq_or_lt with rfl | hlt
    · exact drain_spec_self h hne hs hct hh
    obtain ⟨hane, hrest_ne⟩ := List.forall_mem_cons.1 hne
    obtain ⟨ha_le, hrest_s⟩ := List.pairwise_cons.1 hs
    obtain rfl : a.s = rs := hh a rfl
    have hnc : ¬ a.s < a.s := lt_irrefl _
    rcases le_or_gt a.e re with hae | hgt
    · obtain ⟨e1, e⟩ := drain_le h a rest hnc hlt.ne hae
      rw [e1, e]
      obtain ⟨ih1, ih⟩ := ih hae hrest_ne hrest_s hct.2 fun b hb => (hct.1 b hb).symm
      refine ⟨ih1,
        { nonempty := List.forall_mem_cons.2 ⟨hane, ih.nonempty⟩
          sorted := List.pairwise_cons.2 ⟨ih.lower, ih.sorted⟩
          contig := ⟨fun q hq => ?_, ih.contig⟩
          lower := List.forall_mem_cons.2 ⟨le_rfl, fun q hq => hane.le.trans (ih.lower q hq)⟩
          head_cons := forall_mem_head_cons.2 (forall_mem_head_cons.2 rfl)
          head_nil := fun hL => nomatch hL
          hs := List.forall_mem_cons.2 ⟨fun x h1 h2 =>
              Or.inl ⟨a, List.mem_cons_self, h1, h2, (if_pos (h2.trans_le hae)).symm⟩,
            fun q hq x h1 h2 => (ih.hs q hq x h1 h2).imp
              (fun ⟨p, hp, h⟩ => ⟨p, List.mem_cons_of_mem _ hp, h⟩)
              fun ⟨h3, h4⟩ => ⟨List.forall_mem_cons.2 ⟨(ih.lower q hq).trans h1, h3⟩, h4⟩⟩
          cover := fun x hx => ?_ }⟩
      · cases rest with
        | nil => exact (ih.head_nil rfl q hq).symm
        | cons b rest' => exact (hct.1 b rfl).trans (ih.head_cons q hq b rfl).symm
      · rcases hx with ⟨p, hp, h1, h2⟩ | ⟨h1, h2⟩
        · rcases List.mem_cons.1 hp with rfl | hp
          · exact ⟨_, List.mem_cons_self, h1, h2⟩
          · exact (ih.cover x (Or.inl ⟨p, hp, h1, h2⟩)).imp fun q hq => ⟨List.mem_cons_of_mem _ hq.1, hq.2⟩
        · rcases lt_or_ge x a.e with hx | hx
          · exact ⟨_, List.mem_cons_self, h1, hx⟩
          · exact (ih.cover x (Or.inr ⟨hx, h2⟩)).imp fun q hq => ⟨List.mem_cons_of_mem _ hq.1, hq.2⟩
    · have hall : ∀ p ∈ rest, re ≤ p.s := fun p hp => hgt.le.trans (ha_le p hp)
      obtain ⟨e1, e⟩ := drain_gt h a rest hnc hlt.ne hgt hall
      rw [e1, e]
      refine ⟨rfl,
        { nonempty := List.forall_mem_cons.2 ⟨hlt, List.forall_mem_cons.2 ⟨hgt, hrest_ne⟩⟩
          sorted := List.pairwise_cons.2 ⟨List.forall_mem_cons.2 ⟨le_rfl, hall⟩,
            List.pairwise_cons.2 ⟨ha_le, hrest_s⟩⟩
          contig := ⟨forall_mem_head_cons.2 rfl, hct⟩
          lower := List.forall_mem_cons.2 ⟨le_rfl,
            List.forall_mem_cons.2 ⟨hle, fun q hq => hle.trans (hall q hq)⟩⟩
          head_cons := forall_mem_head_cons.2 (forall_mem_head_cons.2 rfl)
          head_nil := fun hL => nomatch hL
          hs := List.forall_mem_cons.2 ⟨fun x h1 h2 =>
              Or.inl ⟨a, List.mem_cons_self, h1, h2.trans hgt, (if_pos h2).symm⟩,
            List.forall_mem_cons.2 ⟨fun x h1 h2 =>
              Or.inl ⟨a, List.mem_cons_self, hle.trans h1, h2, (if_neg (not_lt.2 h1)).symm⟩,
            fun q hq x h1 h2 => Or.inl ⟨q, List.mem_cons_of_mem _ hq, h1, h2,
              (if_neg (not_lt.2 ((hall q hq).trans h1))).symm⟩⟩⟩
          cover := fun x hx => ?_ }⟩
      rcases hx with ⟨p, hp, h1, h2⟩ | ⟨h1, h2⟩
      · rcases List.mem_cons.1 hp with rfl | hp
        · rcases lt_or_ge x re with hx | hx
          · exact ⟨_, List.mem_cons_self, h1, hx⟩
          · exact ⟨_, List.mem_cons_of_mem _ List.mem_cons_self, hx, h2⟩
        · exact ⟨p, List.mem_cons_of_mem _ (List.mem_cons_of_mem _ hp), h1, h2⟩
      · exact ⟨_, List.mem_cons_self, h1, h2⟩

theorem Good.split {done : List ((K × K) × Nat)} {A B : List (Piece K)} {a : Piece K} {m : K}
    (hg : Good done (A ++ a :: B)) (h1 : a.s < m) (h2 : m < a.e) :
    Good done (A ++ { s := a.s, e := m, hs := a.hs } :: { s := m, e := a.e, hs := a.hs } :: B) := by
  have hall : ∀ {P : Piece K → Prop}, (∀ p ∈ A ++ a :: B, P p) → P { s := a.s, e := m, hs := a.hs } →
      P { s := m, e := a.e, hs := a.hs } →
      ∀ p ∈ A ++ { s := a.s, e := m, hs := a.hs } :: { s := m, e := a.e, hs := a.hs } :: B, P p := by
    intro P hP p1 p2
    rw [List.forall_mem_append, List.forall_mem_cons] at hP
    exact List.forall_mem_append.2 ⟨hP.1, List.forall_mem_cons.2 ⟨p1, List.forall_mem_cons.2 ⟨p2, hP.2.2⟩⟩⟩
  have ha : a ∈ A ++ a :: B := List.mem_append_right _ List.mem_cons_self
  obtain ⟨hsA, hsB, hsAB⟩ := List.pairwise_append.1 hg.sorted
  obtain ⟨haB, hsB⟩ := List.pairwise_cons.1 hsB
  refine ⟨hall hg.nonempty h1 h2, ?_,
    hall hg.handles (fun x hx1 hx2 => hg.handles a ha x hx1 (hx2.trans h2))
      (fun x hx1 hx2 => hg.handles a ha x (h1.le.trans hx1) hx2),
    hall hg.nodup (hg.nodup a ha) (hg.nodup a ha), fun r i x hr hx1 hx2 => ?_⟩
  · refine List.pairwise_append.2 ⟨hsA, List.pairwise_cons.2
      ⟨List.forall_mem_cons.2 ⟨le_rfl, fun q hq => h2.le.trans (haB q hq)⟩, List.pairwise_cons.2 ⟨haB, hsB⟩⟩,
      fun p hp => ?_⟩
    have hpa := hsAB p hp a List.mem_cons_self
    exact List.forall_mem_cons.2 ⟨hpa, List.forall_mem_cons.2
      ⟨hpa.trans h1.le, fun q hq => hsAB p hp q (List.mem_cons_of_mem _ hq)⟩⟩
  · obtain ⟨p, hp, h3, h4⟩ := hg.cover r i x hr hx1 hx2
    rcases List.mem_append.1 hp with hp | hp
    · exact ⟨p, List.mem_append_left _ hp, h3, h4⟩
    refine (?_ : ∃ q ∈ _ :: _ :: B, _).imp fun q hq => ⟨List.mem_append_right _ hq.1, hq.2⟩
    rcases List.mem_cons.1 hp with rfl | hp
    · rcases lt_or_ge x m with hxm | hxm
      · exact ⟨_, List.mem_cons_self, h3, hxm⟩
      · exact ⟨_, List.mem_cons_of_mem _ List.mem_cons_self, hxm, h4⟩
    · exact ⟨p, List.mem_cons_of_mem _ (List.mem_cons_of_mem _ hp), h3, h4⟩

theorem exists_done_snoc {done : List ((K × K) × Nat)} {rs re x : K} {h i : Nat} :
    (∃ r, (r, i) ∈ done ++ [((rs, re), h)] ∧ r.1 ≤ x ∧ x < r.2) ↔
      (∃ r, (r, i) ∈ done ∧ r.1 ≤ x ∧ x < r.2) ∨ (i = h ∧ rs ≤ x ∧ x < re) := by
  constructor
  · rintro ⟨r, hr, hx⟩
    rcases List.mem_append.1 hr with hr | hr
    · exact Or.inl ⟨r, hr, hx⟩
    · obtain ⟨rfl, rfl⟩ := Prod.mk.inj (List.mem_singleton.1 hr)
      exact Or.inr ⟨rfl, hx⟩
  · rintro (⟨r, hr, hx⟩ | ⟨rfl, hx⟩)
    · exact ⟨r, List.mem_append_left _ hr, hx⟩
    · exact ⟨(rs, re), List.mem_append_right _ (List.mem_singleton_self _), hx⟩

theorem addRange_inv {done : List ((K × K) × Nat)} {cr L : List (Piece K)} {rs re : K} {h : Nat}
    (hg : Good done (cr.reverse ++ L)) (hct : Contig L) (hC : ∀ p ∈ cr, p.e ≤ rs)
    (hH : ∀ a ∈ L.head?, a.s = rs) (hle : rs ≤ re) (hfresh : ∀ d ∈ done, d.2 ≠ h) :
    LoopInv (done ++ [((rs, re), h)]) ⟨(drain h rs re L).1.reverse ++ cr, drainOut h rs re L⟩ rs := by
  have hneL : ∀ p ∈ L, p.s < p.e := fun p hp => hg.nonempty p (List.mem_append_right _ hp)
  obtain ⟨hsC, hsL, hsCL⟩ := List.pairwise_append.1 hg.sorted
  obtain ⟨hd1, hd⟩ := drain_spec h hle hneL hsL hct hH
  rw [hd1]
  refine ⟨⟨?_, ?_, ?_, ?_, ?_⟩, hd.contig, hC, ?_⟩
  · exact List.forall_mem_append.2 ⟨fun p hp => hg.nonempty p (List.mem_append_left _ hp), hd.nonempty⟩
  · exact List.pairwise_append.2 ⟨hsC, hd.sorted, fun p hp q hq =>
      (hC p (List.mem_reverse.1 hp)).trans (hd.lower q hq)⟩
  · intro p hp x hx1 hx2 i
    rw [exists_done_snoc]
    rcases List.mem_append.1 hp with hp | hp
    · have hxr : x < rs := hx2.trans_le (hC p (List.mem_reverse.1 hp))
      rw [hg.handles p (List.mem_append_left _ hp) x hx1 hx2 i]
      exact (or_iff_left fun h' => absurd (h'.2.1.trans_lt hxr) (lt_irrefl _)).symm
    · have hrx : rs ≤ x := (hd.lower p hp).trans hx1
      rcases hd.hs p hp x hx1 hx2 with ⟨q, hq, h3, h4, h5⟩ | ⟨h3, h4, h5⟩
      · rw [h5, ← hg.handles q (List.mem_append_right _ hq) x h3 h4 i]
        split_ifs with hxe
        · rw [List.mem_append, List.mem_singleton]
          exact or_congr_right (and_iff_left ⟨hrx, hxe⟩).symm
        · exact (or_iff_left fun h' => hxe h'.2.2).symm
      · have hno : ¬ ∃ r, (r, i) ∈ done ∧ r.1 ≤ x ∧ x < r.2 := fun ⟨r, hr, h1, h2⟩ => by
          obtain ⟨q, hq, _, h7⟩ := hg.cover r i x hr h1 h2
          rcases List.mem_append.1 hq with hq | hq
          · exact absurd (h7.trans_le (hC q (List.mem_reverse.1 hq))) (not_lt.2 hrx)
          · exact absurd (h7.trans_le (h3 q hq)) (lt_irrefl _)
        rw [h5, List.mem_singleton, or_iff_right hno]
        exact (and_iff_left ⟨hrx, h4⟩).symm
  · refine List.forall_mem_append.2 ⟨fun p hp => hg.nodup p (List.mem_append_left _ hp), fun p hp => ?_⟩
    rcases hd.hs p hp p.s le_rfl (hd.nonempty p hp) with ⟨q, hq, _, _, h5⟩ | ⟨_, _, h5⟩
    · have hqn := hg.nodup q (List.mem_append_right _ hq)
      rw [h5]
      split_ifs
      · refine List.nodup_append.2 ⟨hqn, List.pairwise_singleton _ h, fun i hi j hj => ?_⟩
        obtain ⟨r, hr, _⟩ :=
          (hg.handles q (List.mem_append_right _ hq) q.s le_rfl (hneL q hq) i).1 hi
        exact List.mem_singleton.1 hj ▸ hfresh _ hr
      · exact hqn
    · rw [h5]
      exact List.pairwise_singleton _ h
  · intro r i x hr h1 h2
    rcases (exists_done_snoc.1 ⟨r, hr, h1, h2⟩).imp_left
      (fun ⟨r', hr', hx⟩ => hg.cover r' i x hr' hx.1 hx.2) with ⟨q, hq, h6⟩ | ⟨_, hx⟩
    · rcases List.mem_append.1 hq with hq | hq
      · exact ⟨q, List.mem_append_left _ hq, h6⟩
      · exact (hd.cover x (Or.inl ⟨q, hq, h6⟩)).imp fun q' hq' => ⟨List.mem_append_right _ hq'.1, hq'.2⟩
    · exact (hd.cover x (Or.inr hx)).imp fun q' hq' => ⟨List.mem_append_right _ hq'.1, hq'.2⟩
  · intro a ha
    cases L with
    | nil => exact (hd.head_nil rfl a ha).le
    | cons b L' => exact ((hd.head_cons a ha b rfl).trans (hH b rfl)).le

theorem step_eq (st : St K) (rs re : K) (h : Nat) :
    step st ((rs, re), h) =
      ⟨(drain h rs re (popLoop rs st.combinedRev st.rem).2).1.reverse ++ (popLoop rs st.combinedRev st.rem).1,
        drainOut h rs re (popLoop rs st.combinedRev st.rem).2⟩ := by
  simp only [step, drainOut]
  split <;> simp

theorem step_spec {done : List ((K × K) × Nat)} {st : St K} {rs re : K} {h : Nat} (hi : LoopInv done st rs)
    (hle : rs ≤ re) (hfresh : ∀ d ∈ done, d.2 ≠ h) :
    LoopInv (done ++ [((rs, re), h)]) (step st ((rs, re), h)) rs := by
  rw [step_eq]
  obtain ⟨hp, hp4⟩ := popLoop_spec hi
  generalize (popLoop rs st.combinedRev st.rem).1 = cr1 at *
  generalize (popLoop rs st.combinedRev st.rem).2 = rem1 at *
  cases rem1 with
  | nil => exact addRange_inv hp.good hp.contig hp.finished (fun a ha => nomatch ha) hle hfresh
  | cons a rest =>
    rcases (hp.head a rfl).lt_or_eq with hcut | has
    · -- split `a` at `rs` (no change of meaning), then the in-flight list starts at `rs`
      obtain ⟨e1, e2⟩ := drain_cut_step h rs re a rest cr1 (hp4 a rfl) hcut
      rw [e1, e2]
      refine addRange_inv (L := { a with s := rs } :: rest) ?_ hp.contig (List.forall_mem_cons.2 ⟨le_rfl, hp.finished⟩)
        (forall_mem_head_cons.2 rfl) hle hfresh
      rw [List.reverse_cons, List.append_assoc]
      exact Good.split hp.good hcut (hp4 a rfl)
    · exact addRange_inv hp.good hp.contig hp.finished (forall_mem_head_cons.2 has) hle hfresh

theorem mainLoop_good (todo done : List ((K × K) × Nat)) (st : St K) :
    (done ++ todo).Pairwise (fun a b => a.1.1 ≤ b.1.1) → (done ++ todo).Pairwise (fun a b => a.2 ≠ b.2) →
    (∀ r ∈ todo, r.1.1 ≤ r.1.2) → Good done (st.combinedRev.reverse ++ st.rem) →
    (∀ r ∈ todo, LoopInv done st r.1.1) →
    Good (done ++ todo) ((todo.foldl step st).combinedRev.reverse ++ (todo.foldl step st).rem) := by
  induction todo generalizing done st with
  | nil => exact fun _ _ _ hg _ => by rwa [List.append_nil]
  | cons r rest ih =>
    obtain ⟨⟨rs, re⟩, h⟩ := r
    intro hsort hnd hle _ hB
    have hrest : ∀ r' ∈ rest, rs ≤ r'.1.1 := fun r' hr' =>
      List.rel_of_pairwise_cons (List.pairwise_append.1 hsort).2.1 hr'
    have hs := step_spec (re := re) (h := h) (hB _ List.mem_cons_self) (hle _ List.mem_cons_self)
      fun d hd => (List.pairwise_append.1 hnd).2.2 d hd _ List.mem_cons_self
    rw [List.append_cons] at hsort hnd ⊢
    exact ih (done ++ [((rs, re), h)]) (step st ((rs, re), h)) hsort hnd
      (fun r hr => hle r (List.mem_cons_of_mem _ hr)) hs.good fun r' hr' => hs.mono (hrest r' hr')

theorem mem_sortByStart {data : List (K × K)} {r : K × K} {i : Nat} :
    (r, i) ∈ sortByStart data.zipIdx ↔ data[i]? = some r := by
  unfold sortByStart
  rw [(List.mergeSort_perm _ _).mem_iff, List.mem_zipIdx_iff_getElem?]

theorem fromData_good (data : List (K × K)) (hle : ∀ r ∈ data, r.1 ≤ r.2) :
    Good (sortByStart data.zipIdx) (fromData data) := by
  have hsort : (sortByStart data.zipIdx).Pairwise (fun a b => a.1.1 ≤ b.1.1) :=
    (List.pairwise_mergeSort (le := fun (a b : (K × K) × Nat) => decide (a.1.1 ≤ b.1.1))
      (fun a b c hab hbc => decide_eq_true ((of_decide_eq_true hab).trans (of_decide_eq_true hbc)))
      (fun a b => by
        simp only [Bool.or_eq_true, decide_eq_true_eq]
        exact le_total _ _)
      data.zipIdx).imp of_decide_eq_true
  have hnd : (sortByStart data.zipIdx).Pairwise (fun a b => a.2 ≠ b.2) := by
    have hperm : (sortByStart data.zipIdx).Perm data.zipIdx := List.mergeSort_perm _ _
    refine List.pairwise_map.1 (?_ : ((sortByStart data.zipIdx).map Prod.snd).Nodup)
    rw [(hperm.map Prod.snd).nodup_iff, List.zipIdx_map_snd]
    exact List.nodup_range' _
  have hnil : Good ([] : List ((K × K) × Nat)) ([] : List (Piece K)) :=
    ⟨fun p hp => (nomatch hp), List.Pairwise.nil, fun p hp => (nomatch hp), fun p hp => (nomatch hp),
      fun r i x hr => (nomatch hr)⟩
  exact mainLoop_good (sortByStart data.zipIdx) [] ⟨[], []⟩ hsort hnd
    (fun r hr => hle r.1 (List.mem_of_getElem? (mem_sortByStart.1 hr)))
    hnil fun r _ => ⟨hnil, trivial, fun p hp => (nomatch hp), fun a ha => (nomatch ha)⟩

section Query
variable {sp : List (Piece K)} (hne : ∀ p ∈ sp, p.s < p.e) (hs : sp.Pairwise (fun p q => p.e ≤ q.s))
include hne hs

theorem dropWhile_lower (x : K) : ∀ p ∈ sp.dropWhile (fun p => decide (p.s < x)), x ≤ p.s := by
  induction sp with
  | nil => exact fun p hp => nomatch hp
  | cons a l ih =>
    rw [List.dropWhile_cons]
    split_ifs with ha
    · exact ih (fun p hp => hne p (List.mem_cons_of_mem _ hp)) (List.pairwise_cons.1 hs).2
    · exact lower_of_head hne hs (forall_mem_head_cons.2 (not_lt.1 fun h => ha (decide_eq_true h)))

theorem takeWhile_eq_filter_of_sorted (x : K) :
    sp.takeWhile (fun p => decide (p.s < x)) = sp.filter (fun p => decide (p.s < x)) := by
  conv_rhs =>
    rw [← List.takeWhile_append_dropWhile (p := fun p : Piece K => decide (p.s < x)) (l := sp), List.filter_append]
  rw [List.filter_eq_self.2 fun _ hp => List.mem_takeWhile_imp (p := fun p : Piece K => decide (p.s < x)) hp,
    List.filter_eq_nil_iff.2 fun p hp h => absurd (of_decide_eq_true h) (not_lt.2 (dropWhile_lower hne hs x p hp)),
    List.append_nil]

theorem pivot_spec {i : Nat} {p : Piece K} {x : K} (hp : sp[i]? = some p) (h1 : p.s ≤ x) (h2 : x < p.e) :
    (∀ q ∈ sp.take i, q.e ≤ x) ∧ ∀ q ∈ sp.drop i, x < q.e := by
  obtain ⟨hlt, rfl⟩ := List.getElem?_eq_some_iff.1 hp
  have hs' := hs
  rw [← List.take_append_drop i sp, List.drop_eq_getElem_cons hlt] at hs'
  obtain ⟨_, hpB, hAp⟩ := List.pairwise_append.1 hs'
  rw [List.drop_eq_getElem_cons hlt]
  exact ⟨fun q hq => (hAp q hq _ List.mem_cons_self).trans h1, List.forall_mem_cons.2 ⟨h2, fun q hq =>
    (h2.trans_le (List.rel_of_pairwise_cons hpB hq)).trans (hne q (List.mem_of_mem_drop hq))⟩⟩

theorem search_cases (x : K) :
    (∃ i p, search sp x = .inl i ∧ sp[i]? = some p ∧ p.s ≤ x ∧ x < p.e) ∨
    (∃ k, search sp x = .inr k ∧ (∀ q ∈ sp.take k, q.e ≤ x) ∧ ∀ q ∈ sp.drop k, x < q.s) := by
  cases hf : sp.findIdx? (fun p => p.s == x) with
  | some i =>
    obtain ⟨hlt, hp, _⟩ := List.findIdx?_eq_some_iff_getElem.1 hf
    have hpx : sp[i].s = x := of_decide_eq_true hp
    exact Or.inl ⟨i, sp[i], by simp [search, hf], List.getElem?_eq_getElem hlt, hpx.le,
      hpx ▸ hne _ (List.getElem_mem hlt)⟩
  | none =>
    have happ := (List.takeWhile_append_dropWhile (p := fun p : Piece K => decide (p.s < x)) (l := sp)).symm
    have htw : ∀ p ∈ sp.takeWhile (fun p => decide (p.s < x)), p.s < x :=
      fun _ hp => of_decide_eq_true (List.mem_takeWhile_imp (p := fun p : Piece K => decide (p.s < x)) hp)
    have hdw' := dropWhile_lower hne hs x
    generalize htwdef : sp.takeWhile (fun p => decide (p.s < x)) = tw at happ htw
    generalize sp.dropWhile (fun p => decide (p.s < x)) = dw at happ hdw'
    have hdw : ∀ p ∈ dw, x < p.s := fun p hp => lt_of_le_of_ne (hdw' p hp)
      (Ne.symm (of_decide_eq_false (List.findIdx?_eq_none_iff.1 hf p (happ ▸ List.mem_append_right _ hp))))
    rcases List.eq_nil_or_concat tw with rfl | ⟨tw', last, rfl⟩
    · refine Or.inr ⟨0, by simp [search, hf, htwdef], fun q hq => (nomatch hq), ?_⟩
      rw [List.drop_zero, happ]
      exact hdw
    · rw [List.concat_eq_append] at htw htwdef happ
      rw [List.append_assoc, List.singleton_append] at happ
      have hget : sp[tw'.length]? = some last := by
        rw [happ, List.getElem?_append_right le_rfl, Nat.sub_self]
        rfl
      have hl1 : last.s < x := htw last (List.mem_append_right _ (List.mem_singleton_self _))
      by_cases hx : x < last.e
      · exact Or.inl ⟨tw'.length, last, by simp [search, hf, htwdef, hget, hx], hget, hl1.le, hx⟩
      · refine Or.inr ⟨tw'.length + 1, by simp [search, hf, htwdef, hget, hx], ?_, ?_⟩
        · have hle := (pivot_spec hne hs hget le_rfl (hne last (List.mem_of_getElem? hget))).1
          rw [List.take_add_one, hget]
          exact List.forall_mem_append.2 ⟨fun q hq => (hle q hq).trans hl1.le,
            List.forall_mem_singleton.2 (not_lt.1 hx)⟩
        · rw [happ, List.drop_length_add_append]
          exact hdw

theorem startIdx_spec (x : K) :
    (∀ p ∈ sp.take (startIdx sp x), p.e ≤ x) ∧ (∀ p ∈ sp.drop (startIdx sp x), x < p.e) := by
  rcases search_cases hne hs x with ⟨i, p, hsr, hpi, h1, h2⟩ | ⟨k, hsr, h1, h2⟩
  · rw [startIdx, hsr]
    exact pivot_spec hne hs hpi h1 h2
  · rw [startIdx, hsr]
    exact ⟨h1, fun p hp => (h2 p hp).trans (hne p (List.mem_of_mem_drop hp))⟩

theorem regionsInRange_eq (rs re : K) :
    regionsInRange sp rs re = sp.filter (fun p => decide (rs < p.e) && decide (p.s < re)) := by
  obtain ⟨h1, h2⟩ := startIdx_spec hne hs rs
  unfold regionsInRange
  generalize startIdx sp rs = k at h1 h2 ⊢
  rw [takeWhile_eq_filter_of_sorted (fun p hp => hne p (List.mem_of_mem_drop hp))
    (hs.sublist (List.drop_sublist _ _)) re]
  conv_rhs => rw [← List.take_append_drop k sp, List.filter_append]
  have e1 : (sp.take k).filter (fun p => decide (rs < p.e) && decide (p.s < re)) = [] :=
    List.filter_eq_nil_iff.2 fun p hp => by
      simp only [decide_eq_false (not_lt.2 (h1 p hp)), Bool.false_and, Bool.false_eq_true, not_false_eq_true]
  rw [e1, List.nil_append]
  exact List.filter_congr fun p hp => by simp only [decide_eq_true (h2 p hp), Bool.true_and]

theorem dataAtPoint_cases (x : K) :
    (∃ p ∈ sp, p.s ≤ x ∧ x < p.e ∧ dataAtPoint sp x = p.hs) ∨
    ((∀ p ∈ sp, ¬ (p.s ≤ x ∧ x < p.e)) ∧ dataAtPoint sp x = []) := by
  rcases search_cases hne hs x with ⟨i, p, hsr, hpi, h1, h2⟩ | ⟨k, hsr, h1, h2⟩
  · exact Or.inl ⟨p, List.mem_of_getElem? hpi, h1, h2, by simp [dataAtPoint, hsr, hpi]⟩
  · refine Or.inr ⟨fun p hp hx => ?_, by simp [dataAtPoint, hsr]⟩
    rw [← List.take_append_drop k sp] at hp
    rcases List.mem_append.1 hp with hp | hp
    · exact absurd hx.2 (not_lt.2 (h1 p hp))
    · exact absurd hx.1 (not_le.2 (h2 p hp))

end Query

theorem dedup_spec (l seen : List Nat) :
    (∀ i, i ∈ dedup seen l ↔ i ∈ l ∧ i ∉ seen) ∧ (dedup seen l).Nodup := by
  induction l generalizing seen with
  | nil => exact ⟨fun i => ⟨fun h => (nomatch h), fun h => (nomatch h.1)⟩, List.nodup_nil⟩
  | cons h t ih =>
    by_cases hc : h ∈ seen
    · obtain ⟨ih1, ih2⟩ := ih seen
      have e : dedup seen (h :: t) = dedup seen t := by simp [dedup, hc]
      rw [e]
      refine ⟨fun i => ?_, ih2⟩
      rw [ih1, List.mem_cons]
      exact ⟨fun ⟨a, b⟩ => ⟨Or.inr a, b⟩, fun ⟨a, b⟩ => ⟨a.resolve_left fun e => b (e ▸ hc), b⟩⟩
    · obtain ⟨ih1, ih2⟩ := ih (h :: seen)
      have e : dedup seen (h :: t) = h :: dedup (h :: seen) t := by simp [dedup, hc]
      rw [e]
      refine ⟨fun i => ?_, List.nodup_cons.2 ⟨fun hm => ((ih1 h).1 hm).2 List.mem_cons_self, ih2⟩⟩
      rw [List.mem_cons, ih1, List.mem_cons, List.mem_cons, not_or]
      by_cases hi : i = h
      · simp [hi, hc]
      · simp [hi]

end C18Space
