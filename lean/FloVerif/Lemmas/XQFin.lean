/-
Finiteness algebra of `XQ` (IEEE-shaped exact numbers): which operations keep finite numbers finite, what the value of
the result is, and how comparisons behave on finite and on non-finite numbers; what the theorems assume of `f64::sqrt` (`SqrtFn`);
a rule for taking a cascade of conditionals apart with the property given; the tactic `xq_fin`.  Used by Props/C20.
-/
import FloVerif.Prelude.XQExt
import FloVerif.Lemmas.Basics
import Mathlib.Tactic.Ring
import Mathlib.Tactic.Linarith
import Mathlib.Tactic.NormNum.OfScientific
import Mathlib.Tactic.FieldSimp
import Mathlib.Algebra.Order.Field.Basic
import Mathlib.Algebra.Order.Field.Rat

namespace Prelude
namespace XQ

theorem add_def (a b : XQ) : a + b = XQ.add a b := rfl
theorem sub_def (a b : XQ) : a - b = XQ.add a (XQ.neg b) := rfl
theorem mul_def (a b : XQ) : a * b = XQ.mul a b := rfl
theorem div_def (a b : XQ) : a / b = XQ.div a b := rfl
theorem neg_def (a : XQ) : -a = XQ.neg a := rfl
theorem lt_def (a b : XQ) : (a < b) = (XQ.lt a b = true) := rfl
theorem le_def (a b : XQ) : (a ≤ b) = (XQ.le a b = true) := rfl
theorem beq_def (a b : XQ) : (a == b) = XQ.feq a b := rfl

theorem fin_cases {a : XQ} (h : Fin a) : (∃ q, a = fin q) ∨ a = nzero := by
  cases a <;> simp_all [Fin, isFinite]

@[simp] theorem fin_fin (q : ℚ) : Fin (fin q) := rfl
@[simp] theorem fin_nzero : Fin nzero := rfl
@[simp] theorem not_fin_pinf : ¬ Fin pinf := by simp [Fin, isFinite]
@[simp] theorem not_fin_ninf : ¬ Fin ninf := by simp [Fin, isFinite]
@[simp] theorem not_fin_nan : ¬ Fin nan := by simp [Fin, isFinite]
@[simp] theorem val_fin (q : ℚ) : val (fin q) = q := rfl
@[simp] theorem val_nzero : val nzero = 0 := rfl

/-! ### negation, addition, subtraction, multiplication: finite iff both operands are -/

theorem fin_neg_iff (a : XQ) : Fin (-a) ↔ Fin a := by
  cases a <;> simp only [neg_def, XQ.neg] <;> (try split_ifs) <;> simp [Fin, isFinite]

theorem val_neg (a : XQ) : val (-a) = - val a := by
  cases a <;> simp only [neg_def, XQ.neg] <;> (try split_ifs) <;> simp_all [val, toRat?]

theorem fin_add_iff (a b : XQ) : Fin (a + b) ↔ Fin a ∧ Fin b := by
  cases a <;> cases b <;> simp [add_def, XQ.add, Fin, isFinite]

theorem fin_add {a b : XQ} (ha : Fin a) (hb : Fin b) : Fin (a + b) := (fin_add_iff a b).2 ⟨ha, hb⟩

theorem val_add {a b : XQ} (ha : Fin a) (hb : Fin b) : val (a + b) = val a + val b := by
  rcases fin_cases ha with ⟨x, rfl⟩ | rfl <;> rcases fin_cases hb with ⟨y, rfl⟩ | rfl <;>
    first | rfl | exact (add_zero _).symm

theorem fin_sub_iff (a b : XQ) : Fin (a - b) ↔ Fin a ∧ Fin b := by
  have : a - b = a + -b := rfl
  rw [this, fin_add_iff, fin_neg_iff]

theorem fin_sub {a b : XQ} (ha : Fin a) (hb : Fin b) : Fin (a - b) := (fin_sub_iff a b).2 ⟨ha, hb⟩

theorem val_sub {a b : XQ} (ha : Fin a) (hb : Fin b) : val (a - b) = val a - val b := by
  have : a - b = a + -b := rfl
  rw [this, val_add ha ((fin_neg_iff b).2 hb), val_neg]; ring

theorem fin_mul_iff (a b : XQ) : Fin (a * b) ↔ Fin a ∧ Fin b := by
  cases a <;> cases b <;> simp only [mul_def, XQ.mul, toRat?, mkZero, mkInf] <;>
    (try split_ifs) <;> simp [Fin, isFinite]

theorem fin_mul {a b : XQ} (ha : Fin a) (hb : Fin b) : Fin (a * b) := (fin_mul_iff a b).2 ⟨ha, hb⟩

/-- the two ways a finite result is formed: a signed zero (value 0), or `fin` of the exact value -/
theorem fin_mkZero (s : Bool) : Fin (mkZero s) := by cases s <;> rfl
theorem val_mkZero (s : Bool) : val (mkZero s) = 0 := by cases s <;> rfl
theorem mkInf_cases (s : Bool) : mkInf s = pinf ∨ mkInf s = ninf := by cases s <;> simp [mkInf]
theorem not_fin_mkInf (s : Bool) : ¬ Fin (mkInf s) := by cases s <;> simp [mkInf]

theorem mul_of_fin {a b : XQ} (ha : Fin a) (hb : Fin b) :
    a * b = if val a * val b = 0 then mkZero (a.signNeg != b.signNeg) else fin (val a * val b) := by
  rcases fin_cases ha with ⟨x, rfl⟩ | rfl <;> rcases fin_cases hb with ⟨y, rfl⟩ | rfl <;>
    simp only [mul_def, XQ.mul, toRat?, val, Option.getD_some, beq_iff_eq, mul_zero, zero_mul, if_true]
  congr

theorem val_mul {a b : XQ} (ha : Fin a) (hb : Fin b) : val (a * b) = val a * val b := by
  rw [mul_of_fin ha hb]
  split_ifs with h
  · rw [val_mkZero, h]
  · rfl

/-! ### division: the only arithmetic operation that turns finite numbers into non-finite ones -/

/-- finite / finite, by the IEEE cases: x/0 is NaN (x = 0) or ±∞, 0/y is a signed zero, otherwise the exact quotient -/
theorem div_of_fin {a b : XQ} (ha : Fin a) (hb : Fin b) :
    a / b = if val b = 0 then (if val a = 0 then nan else mkInf (a.signNeg != b.signNeg))
      else if val a = 0 then mkZero (a.signNeg != b.signNeg) else fin (val a / val b) := by
  rcases fin_cases ha with ⟨x, rfl⟩ | rfl <;> rcases fin_cases hb with ⟨y, rfl⟩ | rfl <;>
    simp only [div_def, XQ.div, toRat?, val, Option.getD_some, beq_iff_eq, if_true] <;> congr

theorem fin_div_iff {a b : XQ} (ha : Fin a) (hb : Fin b) : Fin (a / b) ↔ val b ≠ 0 := by
  rw [div_of_fin ha hb]
  split_ifs <;> simp only [ne_eq, not_true, not_false_iff, *, fin_mkZero, not_fin_mkInf, not_fin_nan, fin_fin]

theorem fin_div {a b : XQ} (ha : Fin a) (hb : Fin b) (h : val b ≠ 0) : Fin (a / b) := (fin_div_iff ha hb).2 h

theorem val_div {a b : XQ} (ha : Fin a) (hb : Fin b) (h : val b ≠ 0) : val (a / b) = val a / val b := by
  rw [div_of_fin ha hb, if_neg h]
  split_ifs with h0
  · rw [val_mkZero, h0, zero_div]
  · rfl

theorem fin_div_left {a b : XQ} (h : Fin (a / b)) : Fin a := by
  cases a with
  | fin q => exact fin_fin q
  | nzero => exact fin_nzero
  | nan => exact h
  | _ => cases b <;> first | exact h | exact absurd h (not_fin_mkInf _)   -- ±∞ / b is NaN or ±∞

theorem not_fin_div_zero {a b : XQ} (hb : val b = 0) (hbf : Fin b) : ¬ Fin (a / b) :=
  fun h => (fin_div_iff (fin_div_left h) hbf).1 h hb

theorem div_zero_inf {a b : XQ} (ha : Fin a) (hb : Fin b) (ha0 : val a ≠ 0) (hb0 : val b = 0) : a / b = pinf ∨ a / b = ninf := by
  rw [div_of_fin ha hb, if_pos hb0, if_neg ha0]; exact mkInf_cases _

/-! ### comparisons -/

theorem lt_iff {a b : XQ} (ha : Fin a) (hb : Fin b) : a < b ↔ val a < val b := by
  rcases fin_cases ha with ⟨x, rfl⟩ | rfl <;> rcases fin_cases hb with ⟨y, rfl⟩ | rfl <;>
    simp only [lt_def, XQ.lt, val, decide_eq_true_eq]

theorem le_iff {a b : XQ} (ha : Fin a) (hb : Fin b) : a ≤ b ↔ val a ≤ val b := by
  rcases fin_cases ha with ⟨x, rfl⟩ | rfl <;> rcases fin_cases hb with ⟨y, rfl⟩ | rfl <;>
    simp only [le_def, XQ.le, val, decide_eq_true_eq]

theorem beq_iff {a b : XQ} (ha : Fin a) (hb : Fin b) : (a == b) = true ↔ val a = val b := by
  rcases fin_cases ha with ⟨x, rfl⟩ | rfl <;> rcases fin_cases hb with ⟨y, rfl⟩ | rfl <;>
    simp only [beq_def, XQ.feq, val, toRat?, Option.getD_some, beq_iff_eq]

theorem bne_iff {a b : XQ} (ha : Fin a) (hb : Fin b) : (a != b) = true ↔ val a ≠ val b := by
  simp only [bne, Bool.not_eq_true', ne_eq, ← beq_iff ha hb]
  cases (a == b) <;> simp

theorem not_lt_nan_left (b : XQ) : ¬ (nan < b) := by cases b <;> simp [lt_def, XQ.lt]
theorem not_lt_nan_right (a : XQ) : ¬ (a < nan) := by cases a <;> simp [lt_def, XQ.lt]
theorem not_le_nan_left (b : XQ) : ¬ (nan ≤ b) := by cases b <;> simp [le_def, XQ.le]
theorem not_le_nan_right (a : XQ) : ¬ (a ≤ nan) := by cases a <;> simp [le_def, XQ.le]

/-- something between two finite numbers (closed range test as in `0.0 <= t && t <= 1.0`) is finite:
    range tests filter NaN and both infinities -/
theorem fin_of_le_of_le {lo a hi : XQ} (hlo : Fin lo) (hhi : Fin hi) (h1 : lo ≤ a) (h2 : a ≤ hi) : Fin a := by
  cases a with
  | fin q => exact fin_fin q
  | nzero => exact fin_nzero
  | nan => exact absurd h2 (not_le_nan_left hi)
  | pinf => rcases fin_cases hhi with ⟨q, rfl⟩ | rfl <;> cases h2
  | ninf => rcases fin_cases hlo with ⟨q, rfl⟩ | rfl <;> cases h1

/-- open range test as in `t > 0.0 && t < 1.0` -/
theorem fin_of_lt_of_lt {lo a hi : XQ} (hlo : Fin lo) (hhi : Fin hi) (h1 : lo < a) (h2 : a < hi) : Fin a := by
  cases a with
  | fin q => exact fin_fin q
  | nzero => exact fin_nzero
  | nan => exact absurd h2 (not_lt_nan_left hi)
  | pinf => rcases fin_cases hhi with ⟨q, rfl⟩ | rfl <;> cases h2
  | ninf => rcases fin_cases hlo with ⟨q, rfl⟩ | rfl <;> cases h1

/-! ### abs, min, max, signum, sqrt, literals, integers -/

theorem fin_abs_iff (a : XQ) : Fin (fabs a) ↔ Fin a := by
  cases a <;> simp [fabs, Fin, isFinite]

theorem val_abs (a : XQ) : val (fabs a) = |val a| := by
  cases a <;> simp [fabs, val, toRat?]
  rename_i q
  split_ifs with h
  · rw [abs_of_neg h]
  · rw [abs_of_nonneg (not_lt.1 h)]

/-- `|x| < c` can only hold for a finite `x` (|±∞| = +∞ and NaN compare false) -/
theorem fin_of_abs_lt {a c : XQ} (h : fabs a < c) : Fin a := by
  cases a with
  | fin q => exact fin_fin q
  | nzero => exact fin_nzero
  | nan => exact absurd h (not_lt_nan_left c)
  | _ => cases c <;> cases h

theorem fin_of_abs_lt' {a c : XQ} (h : fabs a < c) : Fin c ∨ c = pinf := by
  cases c with
  | fin q => exact .inl (fin_fin q)
  | nzero => exact .inl fin_nzero
  | pinf => exact .inr rfl
  | nan => exact absurd h (not_lt_nan_right _)
  | ninf => cases a <;> cases h

theorem fin_fmin {a b : XQ} (ha : Fin a) (hb : Fin b) : Fin (fmin a b) := by
  unfold fmin; split_ifs <;> assumption

theorem fin_fmax {a b : XQ} (ha : Fin a) (hb : Fin b) : Fin (fmax a b) := by
  unfold fmax; split_ifs <;> assumption

theorem beq_self_of_fin {a : XQ} (ha : Fin a) : (a == a) = true := (beq_iff ha ha).2 rfl

theorem val_fmin {a b : XQ} (ha : Fin a) (hb : Fin b) : val (fmin a b) = min (val a) (val b) := by
  unfold fmin
  rw [beq_self_of_fin ha]
  by_cases h : b < a
  · rw [if_pos h, min_eq_right (le_of_lt ((lt_iff hb ha).1 h))]
  · rw [if_neg h, if_pos rfl, min_eq_left (not_lt.1 (fun h' => h ((lt_iff hb ha).2 h')))]

theorem val_fmax {a b : XQ} (ha : Fin a) (hb : Fin b) : val (fmax a b) = max (val a) (val b) := by
  unfold fmax
  rw [beq_self_of_fin ha]
  by_cases h : a < b
  · rw [if_pos h, max_eq_right (le_of_lt ((lt_iff ha hb).1 h))]
  · rw [if_neg h, if_pos rfl, max_eq_left (not_lt.1 (fun h' => h ((lt_iff ha hb).2 h')))]

theorem ninf_lt_of_fin {a : XQ} (h : Fin a) : ninf < a := by rcases fin_cases h with ⟨q, rfl⟩ | rfl <;> rfl
theorem lt_pinf_of_fin {a : XQ} (h : Fin a) : a < pinf := by rcases fin_cases h with ⟨q, rfl⟩ | rfl <;> rfl

/-- `x.max(lo).min(hi)` with finite bounds is finite WHATEVER `x` is (NaN is replaced by `lo`, ±∞ are clamped) -/
theorem fin_clamp (x : XQ) {lo hi : XQ} (hlo : Fin lo) (hhi : Fin hi) : Fin (fmin (fmax x lo) hi) := by
  have h1 : Fin (fmax x lo) ∨ fmax x lo = pinf := by
    cases x with
    | fin q => exact .inl (fin_fmax (fin_fin q) hlo)
    | nzero => exact .inl (fin_fmax fin_nzero hlo)
    | pinf => right; rcases fin_cases hlo with ⟨q, rfl⟩ | rfl <;> rfl
    | ninf => left; unfold fmax; rwa [if_pos (ninf_lt_of_fin hlo)]
    | nan => left; unfold fmax; rwa [if_neg (not_lt_nan_left _), if_neg (by decide)]
  rcases h1 with h1 | h1
  · exact fin_fmin h1 hhi
  · rw [h1]; unfold fmin; rwa [if_pos (lt_pinf_of_fin hhi)]

theorem fin_signum {a : XQ} (ha : Fin a) : Fin (fsignum a) := by
  rcases fin_cases ha with ⟨x, rfl⟩ | rfl
  · show Fin (if _ then _ else _); split_ifs <;> rfl
  · rfl

theorem fin_ofScientific (m : Nat) (s : Bool) (e : Nat) : Fin (OfScientific.ofScientific m s e : XQ) := rfl
theorem val_ofScientific (m : Nat) (s : Bool) (e : Nat) :
    val (OfScientific.ofScientific m s e : XQ) = (OfScientific.ofScientific m s e : ℚ) := rfl
theorem fin_ofNat (n : Nat) : Fin (OfNat.ofNat n : XQ) := rfl
theorem val_ofNat (n : Nat) : val (OfNat.ofNat n : XQ) = (n : ℚ) := rfl
theorem fin_ofInt (n : Int) : Fin (ofInt n : XQ) := rfl
theorem val_ofInt (n : Int) : val (ofInt n : XQ) = (n : ℚ) := rfl

section sqrt
variable (s : ℚ → ℚ)

theorem fin_sqrt {a : XQ} (ha : Fin a) (h0 : 0 ≤ val a) : Fin (sqrtWith s a) := by
  rcases fin_cases ha with ⟨q, rfl⟩ | rfl
  · show Fin (if q < 0 then nan else fin (s q)); rw [if_neg (show ¬ q < 0 from not_lt.2 h0)]; rfl
  · rfl

theorem val_sqrt (hs0 : s 0 = 0) {a : XQ} (ha : Fin a) (h0 : 0 ≤ val a) : val (sqrtWith s a) = s (val a) := by
  rcases fin_cases ha with ⟨q, rfl⟩ | rfl
  · show val (if q < 0 then nan else fin (s q)) = s q; rw [if_neg (show ¬ q < 0 from not_lt.2 h0)]; rfl
  · exact hs0.symm

end sqrt

end XQ

/-! ### points -/

theorem V2.smul_x {K} [Mul K] (a : V2 K) (k : K) : (a * k).x = a.x * k := V2.mul_x a k
theorem V2.smul_y {K} [Mul K] (a : V2 K) (k : K) : (a * k).y = a.y * k := V2.mul_y a k
theorem V2.dot_def {K} [Add K] [Mul K] [OfScientific K] (a b : V2 K) : dot a b = ((0.0 : K) + a.x * b.x) + a.y * b.y := rfl

theorem V2.fin_iff (p : V2 XQ) : V2.Fin p ↔ XQ.Fin p.x ∧ XQ.Fin p.y := Iff.rfl
theorem V2.fin_mk (x y : XQ) : V2.Fin ⟨x, y⟩ ↔ XQ.Fin x ∧ XQ.Fin y := Iff.rfl
theorem V2.fin_add_iff (a b : V2 XQ) : V2.Fin (a + b) ↔ V2.Fin a ∧ V2.Fin b := by
  simp only [V2.Fin, V2.add_x, V2.add_y, XQ.fin_add_iff]; tauto
theorem V2.fin_sub_iff (a b : V2 XQ) : V2.Fin (a - b) ↔ V2.Fin a ∧ V2.Fin b := by
  simp only [V2.Fin, V2.sub_x, V2.sub_y, XQ.fin_sub_iff]; tauto
theorem V2.fin_smul_iff (a : V2 XQ) (k : XQ) : V2.Fin (a * k) ↔ V2.Fin a ∧ XQ.Fin k := by
  simp only [V2.Fin, V2.mul_x, V2.mul_y, XQ.fin_mul_iff]; tauto
theorem V2.fin_dot {a b : V2 XQ} (ha : V2.Fin a) (hb : V2.Fin b) : XQ.Fin (dot a b) := by
  simp only [V2.dot_def, XQ.fin_add_iff, XQ.fin_mul_iff, XQ.fin_ofScientific, true_and]
  exact ⟨⟨ha.1, hb.1⟩, ha.2, hb.2⟩

/-! ### guards -/
namespace XQ

theorem val_zero_lit : val (0.0 : XQ) = 0 := by rw [val_ofScientific]; norm_num
theorem val_one_lit : val (1.0 : XQ) = 1 := by rw [val_ofScientific]; norm_num
theorem fin_zero_lit : Fin (0.0 : XQ) := fin_ofScientific ..
theorem fin_one_lit : Fin (1.0 : XQ) := fin_ofScientific ..
theorem val_1e8_pos : (0:ℚ) < val (0.00000001 : XQ) := by rw [val_ofScientific]; norm_num
theorem val_1e10 : val (1e-10 : XQ) = 1/10000000000 := by rw [val_ofScientific]; norm_num

theorem abs_gt_ne {a b : XQ} (ha : Fin a) (hb : Fin b) (h : fabs a > fabs b) : val a ≠ 0 := by
  rw [gt_iff_lt, lt_iff ((fin_abs_iff _).2 hb) ((fin_abs_iff _).2 ha), val_abs, val_abs] at h
  intro h0; rw [h0, abs_zero] at h; exact absurd h (not_lt.2 (abs_nonneg _))

theorem abs_not_gt_ne {a b : XQ} (ha : Fin a) (hb : Fin b) (h : ¬ fabs a > fabs b)
    (hz : ¬ ((a == (0.0 : XQ)) && (b == (0.0 : XQ))) = true) : val b ≠ 0 := by
  rw [gt_iff_lt, lt_iff ((fin_abs_iff _).2 hb) ((fin_abs_iff _).2 ha), val_abs, val_abs, not_lt] at h
  intro h0
  rw [h0, abs_zero] at h
  have ha0 : val a = 0 := abs_eq_zero.1 (le_antisymm h (abs_nonneg _))
  apply hz
  rw [Bool.and_eq_true, beq_iff ha fin_zero_lit, beq_iff hb fin_zero_lit, val_zero_lit]
  exact ⟨ha0, h0⟩

theorem ne_of_not_beq_zero {a : XQ} (ha : Fin a) (h : ¬ (a == (0.0 : XQ)) = true) : val a ≠ 0 := by
  intro h0; apply h; rw [beq_iff ha fin_zero_lit, val_zero_lit]; exact h0

theorem ne_of_abs_gt {a c : XQ} (ha : Fin a) (hc : Fin c) (h0 : 0 ≤ val c) (h : fabs a > c) : val a ≠ 0 := by
  rw [gt_iff_lt, lt_iff hc ((fin_abs_iff _).2 ha), val_abs] at h
  intro hz; rw [hz, abs_zero] at h; exact absurd h (not_lt.2 h0)

theorem ne_of_not_abs_lt {a c : XQ} (ha : Fin a) (hc : Fin c) (h0 : 0 < val c) (h : ¬ fabs a < c) : val a ≠ 0 := by
  rw [lt_iff ((fin_abs_iff _).2 ha) hc, val_abs, not_lt] at h
  intro hz; rw [hz, abs_zero] at h; exact absurd h0 (not_lt.2 h)

end XQ

/-- what the theorems need of `f64::sqrt`: a function on the rationals that is non-negative and vanishes only at 0
    (true of the exact square root and of the correctly rounded one) -/
class SqrtFn where
  s : ℚ → ℚ
  nonneg : ∀ q, 0 ≤ q → 0 ≤ s q
  zero_iff : ∀ q, 0 ≤ q → (s q = 0 ↔ q = 0)

namespace XQ
variable [S : SqrtFn]

/-- `f64::sqrt` of the theorems -/
instance instFSqrtOfSqrtFn : FSqrt XQ := ⟨sqrtWith S.s⟩

theorem fsqrt_def (a : XQ) : fsqrt a = sqrtWith S.s a := rfl

theorem sqrtFn_zero : S.s 0 = 0 := (S.zero_iff 0 le_rfl).2 rfl

theorem fin_fsqrt {a : XQ} (ha : Fin a) (h0 : 0 ≤ val a) : Fin (fsqrt a) := fin_sqrt _ ha h0
theorem val_fsqrt {a : XQ} (ha : Fin a) (h0 : 0 ≤ val a) : val (fsqrt a) = S.s (val a) := val_sqrt _ sqrtFn_zero ha h0
theorem val_fsqrt_nonneg {a : XQ} (ha : Fin a) (h0 : 0 ≤ val a) : 0 ≤ val (fsqrt a) := by
  rw [val_fsqrt ha h0]; exact S.nonneg _ h0
theorem val_fsqrt_eq_zero_iff {a : XQ} (ha : Fin a) (h0 : 0 ≤ val a) : val (fsqrt a) = 0 ↔ val a = 0 := by
  rw [val_fsqrt ha h0]; exact S.zero_iff _ h0

omit S in
theorem val_sq_add_sq {x y : XQ} (hx : Fin x) (hy : Fin y) : val (x * x + y * y) = val x * val x + val y * val y := by
  rw [val_add (fin_mul hx hx) (fin_mul hy hy), val_mul hx hx, val_mul hy hy]

omit S in
theorem sq_add_sq_fin {x y : XQ} (hx : Fin x) (hy : Fin y) : Fin (x * x + y * y) ∧ 0 ≤ val (x * x + y * y) := by
  rw [val_sq_add_sq hx hy]
  exact ⟨fin_add (fin_mul hx hx) (fin_mul hy hy),
    add_nonneg (mul_self_nonneg _) (mul_self_nonneg _)⟩

theorem fin_hypot {x y : XQ} (hx : Fin x) (hy : Fin y) : Fin (fsqrt (x * x + y * y)) :=
  fin_fsqrt (sq_add_sq_fin hx hy).1 (sq_add_sq_fin hx hy).2

theorem val_hypot_nonneg {x y : XQ} (hx : Fin x) (hy : Fin y) : 0 ≤ val (fsqrt (x * x + y * y)) :=
  val_fsqrt_nonneg (sq_add_sq_fin hx hy).1 (sq_add_sq_fin hx hy).2

theorem val_hypot_eq_zero_iff {x y : XQ} (hx : Fin x) (hy : Fin y) : val (fsqrt (x * x + y * y)) = 0 ↔ val x = 0 ∧ val y = 0 := by
  rw [val_fsqrt_eq_zero_iff (sq_add_sq_fin hx hy).1 (sq_add_sq_fin hx hy).2, val_sq_add_sq hx hy]
  constructor
  · intro h
    have h1 := mul_self_nonneg (val x); have h2 := mul_self_nonneg (val y)
    exact ⟨mul_self_eq_zero.1 (by linarith), mul_self_eq_zero.1 (by linarith)⟩
  · rintro ⟨h1, h2⟩; rw [h1, h2]; ring

end XQ

/-! ### conditionals, lists and sentinels -/

/-- what holds of both branches holds of the conditional; with the property given this takes a cascade of `if`s apart without
    looking into the conditions -/
theorem ite_of_both {α : Sort _} (P : α → Prop) (c : Prop) [Decidable c] {a b : α} (ha : P a) (hb : P b) :
    P (if c then a else b) := by
  split_ifs <;> assumption

/-- `v[i]` (the default out of range) has what the default and all members have -/
theorem listGet_of_mem {α : Type} [Inhabited α] (P : α → Prop) (l : List α) (i : Nat) (hd : P default) (hl : ∀ x ∈ l, P x) :
    P (listGet l i) := by
  unfold listGet
  by_cases hi : i < l.length
  · rw [getElem!_pos l i hi]; exact hl _ (List.getElem_mem hi)
  · rw [getElem!_neg l i hi]; exact hd

namespace XQ
/-- `f64::MAX` and `f64::MIN` are finite numbers -/
theorem fin_fmaxval : Fin (fmaxval : XQ) := rfl
theorem fin_fminval : Fin (fminval : XQ) := rfl
theorem fin_feps : Fin (feps : XQ) := rfl

/-- a quotient by a non-zero literal (`e / 2.0`, `3.0 / 4.0`, …) -/
theorem fin_div_lit {a : XQ} (ha : Fin a) (m : Nat) (s : Bool) (e : Nat) (h : (OfScientific.ofScientific m s e : ℚ) ≠ 0) :
    Fin (a / (OfScientific.ofScientific m s e : XQ)) :=
  fin_div ha (fin_ofScientific ..) (by rw [val_ofScientific]; exact h)

/-- one `if guard { t1 = t1.min(v); t2 = t2.max(v) }` keeps the pair finite if the guard passes only finite `v` -/
theorem fin_minmax_if {c : Prop} [Decidable c] {s : T2 XQ XQ} {v : XQ} (hs : Fin s.t0 ∧ Fin s.t1) (hv : c → Fin v) :
    Fin (if c then T2.mk (fmin s.t0 v) (fmax s.t1 v) else T2.mk s.t0 s.t1).t0 ∧
    Fin (if c then T2.mk (fmin s.t0 v) (fmax s.t1 v) else T2.mk s.t0 s.t1).t1 := by
  split_ifs with h
  · exact ⟨fin_fmin hs.1 (hv h), fin_fmax hs.2 (hv h)⟩
  · exact hs
end XQ

theorem V2.fin_x {p : V2 XQ} (h : V2.Fin p) : XQ.Fin p.x := h.1
theorem V2.fin_y {p : V2 XQ} (h : V2.Fin p) : XQ.Fin p.y := h.2

/-- closes goals "this expression built from +, −, ·, unary −, abs, literals and point arithmetic is finite" from the
    finiteness of its leaves (numbers, points or coordinates of points) found among the hypotheses -/
macro "xq_fin" : tactic =>
  `(tactic| simp only [XQ.fin_add_iff, XQ.fin_sub_iff, XQ.fin_mul_iff, XQ.fin_neg_iff, XQ.fin_abs_iff, XQ.fin_ofScientific,
      XQ.fin_ofNat, XQ.fin_ofInt, V2.fin_add_iff, V2.fin_sub_iff, V2.fin_smul_iff, V2.fin_mk, V2.add_x, V2.add_y, V2.sub_x, V2.sub_y,
      V2.mul_x, V2.mul_y, V2.fin_x, V2.fin_y, true_and, and_true, and_self, *])

end Prelude
