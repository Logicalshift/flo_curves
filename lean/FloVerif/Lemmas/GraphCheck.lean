import FloVerif.Lemmas.GraphCombine
import FloVerif.Lemmas.GraphBuild
import Mathlib.Data.List.Range
/-! The executable checkers of `Model/Graph.lean` decide `FolWf`, `ConnOk`, `ConnExact`; a well-formed graph is balanced;
what `reverse_edges_for_point` lists. -/
namespace Model.Graph

theorem folWfCheck_iff (g : Graph) : folWfCheck g = true ↔ FolWf g := by
  unfold folWfCheck
  simp only [Bool.and_eq_true, List.all_eq_true, List.mem_range, decide_eq_true_eq, beq_iff_eq, mem_allEdges]
  constructor
  · rintro ⟨h1, h2⟩
    refine ⟨fun a e he => (h1 e ⟨a, he⟩).1, fun p f hp => ?_⟩
    split_ifs with hf
    · exact h2 p hp f hf
    · rw [slotCount_eq]
      apply cntP_eq_zero
      intro a e he
      have := (h1 e ⟨a, he⟩).2
      simp only [pointsTo, Bool.and_eq_false_imp, beq_iff_eq, beq_eq_false_iff_ne]
      intro h3
      rw [h3] at this
      omega
  · intro h
    refine ⟨fun e ⟨a, ha⟩ => ⟨h.endValid a e ha, h.folValid ha⟩, fun p hp f hf => ?_⟩
    rw [h.slot p f hp, if_pos hf]

theorem nodupCheck_iff (l : List Nat) : nodupCheck l = true ↔ l.Nodup := by
  induction l with
  | nil => simp [nodupCheck]
  | cons a l ih =>
    simp only [nodupCheck, Bool.and_eq_true, Bool.not_eq_true', List.nodup_cons, ih]
    constructor
    · rintro ⟨h1, h2⟩; exact ⟨by simpa using h1, h2⟩
    · rintro ⟨h1, h2⟩; exact ⟨by simpa using h1, h2⟩

theorem connOkCheck_iff (g : Graph) : connOkCheck g = true ↔ ConnOk g := by
  unfold connOkCheck
  simp only [List.all_eq_true, List.mem_range, Bool.and_eq_true, decide_eq_true_eq, nodupCheck_iff, List.contains_iff_mem]
  constructor
  · intro h
    refine ⟨fun p c hc => (h p (mem_connAt_lt hc)).1.1 c hc, fun p => ?_, fun p e he => (h p (mem_edgesAt_lt he)).2 e he⟩
    by_cases hl : p < g.length
    · exact (h p hl).1.2
    · rw [connAt_of_ge (Nat.le_of_not_lt hl)]; exact List.nodup_nil
  · exact fun h p _ => ⟨⟨h.valid p, h.nodup p⟩, h.complete p⟩

theorem connExactCheck_iff (g : Graph) : connExactCheck g = true ↔ ConnExact g := by
  unfold connExactCheck ConnExact
  simp only [List.all_eq_true, List.any_eq_true, List.mem_range, beq_iff_eq]
  exact ⟨fun h p c hc => h p (mem_connAt_lt hc) c hc, fun h p _ c hc => h p c hc⟩

theorem wfCheck_iff (g : Graph) : wfCheck g = true ↔ Wf g := by
  unfold wfCheck
  rw [Bool.and_eq_true, folWfCheck_iff, connOkCheck_iff]
  exact ⟨fun h => ⟨h.1, h.2⟩, fun h => ⟨h.fol, h.conn⟩⟩

theorem cntP_fol_lt (g : Graph) (p : Nat) : ∀ N, cntP (fun e => e.endIdx == p && decide (e.fol < N)) g =
    ((List.range N).map fun f => slotCount g p f).sum := by
  intro N
  induction N with
  | zero =>
    simp only [List.range_zero, List.map_nil, List.sum_nil]
    apply cntP_eq_zero
    intro a e _; simp
  | succ N ih =>
    rw [List.range_succ, List.map_append, List.sum_append, ← ih]
    simp only [List.map_cons, List.map_nil, List.sum_cons, List.sum_nil, Nat.add_zero]
    rw [slotCount_eq, ← cntP_or_disjoint _ _ _ (by
      intro x
      simp only [Bool.and_eq_true, beq_iff_eq, decide_eq_true_eq, pointsTo_iff]
      omega)]
    apply cntP_congr
    intro a e _
    rw [Bool.eq_iff_iff]
    simp only [Bool.and_eq_true, beq_iff_eq, decide_eq_true_eq, Bool.or_eq_true, pointsTo_iff]
    omega

/-- in a well-formed graph every point has as many incoming as outgoing edges -/
theorem FolWf.balanced {g : Graph} (h : FolWf g) (p : Nat) : inDegree g p = outDegree g p := by
  unfold inDegree outDegree
  by_cases hp : p < g.length
  · have h1 : cntP (fun e => e.endIdx == p) g = cntP (fun e => e.endIdx == p && decide (e.fol < (edgesAt g p).length)) g := by
      apply cntP_congr
      intro a e he
      by_cases hep : e.endIdx = p
      · have := h.folValid he
        rw [hep] at this
        simp [hep, this]
      · simp [hep]
    show cntP (fun e => e.endIdx == p) g = _
    rw [h1, cntP_fol_lt]
    have : (List.range (edgesAt g p).length).map (fun f => slotCount g p f) =
        (List.range (edgesAt g p).length).map (fun _ => 1) :=
      List.map_congr_left fun f hf => by rw [h.slot p f hp, if_pos (List.mem_range.mp hf)]
    rw [this]
    simp
  · rw [edgesAt_of_ge (Nat.le_of_not_lt hp)]
    show cntP (fun e => e.endIdx == p) g = _
    simp only [List.length_nil]
    apply cntP_eq_zero
    intro a e he
    have := h.endValid a e he
    simp only [beq_eq_false_iff_ne]
    omega

/-! ### reverse_edges_for_point (mod.rs:353) -/

theorem nodup_flatMap_pair {α β : Type} {l : List α} (hl : l.Nodup) (F : α → List β) (hF : ∀ a ∈ l, (F a).Nodup) :
    (l.flatMap fun a => (F a).map fun b => (a, b)).Nodup := by
  rw [List.nodup_flatMap]
  refine ⟨fun a ha => (hF a ha).map fun b b' h => (Prod.mk.inj h).2, hl.imp ?_⟩
  intro a b hab x hxa hxb
  obtain ⟨_, _, rfl⟩ := List.mem_map.mp hxa
  obtain ⟨_, _, hh⟩ := List.mem_map.mp hxb
  exact hab (Prod.mk.inj hh).1.symm

theorem mem_reverseEdges {g : Graph} {p c i : Nat} :
    (c, i) ∈ reverseEdges g p ↔ c ∈ connAt g p ∧ ∃ e, edgeAt g c i = some e ∧ e.endIdx = p := by
  unfold reverseEdges edgeAt
  simp only [List.mem_flatMap, List.mem_map, List.mem_filter, Prod.mk.injEq, List.mem_zipIdx_iff_getElem?, beq_iff_eq]
  constructor
  · rintro ⟨c', hc', x, ⟨hx, hxp⟩, rfl, rfl⟩
    exact ⟨hc', x.1, hx, hxp⟩
  · rintro ⟨hc, e, he, hep⟩
    exact ⟨c, hc, (e, i), ⟨he, hep⟩, rfl, rfl⟩

theorem nodup_reverseEdges {g : Graph} (h : ∀ p, (connAt g p).Nodup) (p : Nat) : (reverseEdges g p).Nodup := by
  have := nodup_flatMap_pair (h p) (fun c => ((edgesAt g c).zipIdx.filter fun x => x.1.endIdx == p).map Prod.snd)
    fun c _ => by
      refine List.Nodup.sublist (List.filter_sublist.map _) ?_
      rw [List.zipIdx_map_snd]
      exact List.nodup_range' 1
  simpa only [reverseEdges, List.map_map, Function.comp_def] using this

end Model.Graph
