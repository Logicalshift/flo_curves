/-
Lemmas for C19 (arc length).  Section geometry in blossom form: the start / control / end points of a `CurveSection`
are the Bézier points of the restriction of the cubic (`secPts_bl`), and `subdivide4 t` splits them as the blossom's
symmetry and affinity dictate (`subdivide4_bez`), so `subsection(0, 0.5)` / `subsection(0.5, 1)` are the de Casteljau
halves.  The generated `section_length` loop: its body (`lengthStep`, tied to the generated text by `section_length_eq`),
what one iteration does to the stack, the induction principle of the loop, the levels of a tolerance with the potential
they give (`work`, `step_work`), and the recursion the stack unfolds (`recLen`, `lengthLoop_eq_rec`).  In a normed space:
the distance `pdist`, the loop invariant `LoopInv`, and the reversed curve (a section of it is the mirrored section).
-/
import FloVerif.Gen.Length
import FloVerif.Lemmas.Lit
import FloVerif.Lemmas.Loop
import Mathlib.Analysis.Normed.Module.Basic
import Mathlib.Tactic.Ring
import Mathlib.Tactic.NormNum.OfScientific
import Mathlib.Tactic.Linarith
import Mathlib.Tactic.Module
import Mathlib.Tactic.LinearCombination

set_option linter.unusedSectionVars false
namespace LengthL
open Prelude Gen

/-- the loop-invariant rule `Prelude.iterFuel_inv` -/
theorem iterFuel_invariant {σ ρ : Type} (Inv : σ → Prop) (Post : ρ → Prop) (step : σ → Sum σ ρ) (fin : σ → ρ)
    (hcont : ∀ s s', Inv s → step s = Sum.inl s' → Inv s')
    (hexit : ∀ s r, Inv s → step s = Sum.inr r → Post r)
    (hfin : ∀ s, Inv s → Post (fin s)) :
    ∀ (fuel : Nat) (s : σ), Inv s → Post (iterFuel fuel step fin s) :=
  iterFuel_inv Inv Post step fin hcont hexit hfin

/-- `CurveSection::control_points` subdivides twice: at `t_c`, keeping the right part, then that part at `t_m / (1 - t_c)`,
    keeping the left one (section.rs writes the two de Casteljau triangles out) -/
theorem control_points_eq {K P : Type} [Sub K] [Div K] [LE K] [DecidableLE K] [OfScientific K] [Add P] [HMul P K P]
    (w1 w2 w3 w4 : P) (s : SectionT K) :
    section_control_points w1 w2 w3 w4 s =
      let r := (subdivide4 s.t_c w1 w2 w3 w4).t1
      let l := (subdivide4 (if decide (s.t_c ≥ (1.0 : K)) then (0.0 : K) else s.t_m / ((1.0 : K) - s.t_c)) r.t0 r.t1 r.t2 r.t3).t0
      T2.mk l.t1 l.t2 := rfl

/-- a point of the space, as the code's `Coordinate`: `+`, `-` and `p * k` (scalar multiplication) -/
structure Pt (E : Type) where
  v : E

section vec
variable {E : Type} [AddCommGroup E] [Module ℝ E]

instance : Add (Pt E) := ⟨fun a b => ⟨a.v + b.v⟩⟩
instance : Sub (Pt E) := ⟨fun a b => ⟨a.v - b.v⟩⟩
instance : HMul (Pt E) ℝ (Pt E) := ⟨fun a k => ⟨k • a.v⟩⟩

theorem Pt.ext' {a b : Pt E} (h : a.v = b.v) : a = b := by cases a; cases b; exact congrArg _ h
@[simp] theorem add_v (a b : Pt E) : (a + b).v = a.v + b.v := rfl
@[simp] theorem sub_v (a b : Pt E) : (a - b).v = a.v - b.v := rfl
@[simp] theorem mul_v (a : Pt E) (k : ℝ) : (a * k).v = k • a.v := rfl

variable (w1 w2 w3 w4 : Pt E)

/-- blossom (polar form) of the cubic with control points `w1 … w4`: symmetric, affine in each argument,
    `bl t t t` is the curve point at `t` -/
def bl (u v x : ℝ) : Pt E :=
  ⟨((1-u)*(1-v)*(1-x)) • w1.v + (u*(1-v)*(1-x) + (1-u)*v*(1-x) + (1-u)*(1-v)*x) • w2.v
    + (u*v*(1-x) + u*(1-v)*x + (1-u)*v*x) • w3.v + (u*v*x) • w4.v⟩

theorem bl_comm₁₂ (u v x : ℝ) : bl w1 w2 w3 w4 u v x = bl w1 w2 w3 w4 v u x := by
  simp only [bl]; congr 1; module

theorem bl_comm₂₃ (u v x : ℝ) : bl w1 w2 w3 w4 u v x = bl w1 w2 w3 w4 u x v := by
  simp only [bl]; congr 1; module

theorem bl_reverse (u v x : ℝ) : bl w4 w3 w2 w1 u v x = bl w1 w2 w3 w4 (1 - u) (1 - v) (1 - x) := by
  simp only [bl]; congr 1; module

/-- de Casteljau's interpolation step `p * (1 - t) + q * t` on two blossom values that differ in the last argument -/
theorem bl_lerp₃ (t u v x y : ℝ) :
    bl w1 w2 w3 w4 u v x * ((1.0 : ℝ) - t) + bl w1 w2 w3 w4 u v y * t = bl w1 w2 w3 w4 u v ((1 - t) * x + t * y) := by
  apply Pt.ext'; simp only [bl, add_v, mul_v, lit1]; module

theorem bl_lerp₂ (t u v x y : ℝ) :
    bl w1 w2 w3 w4 u x v * ((1.0 : ℝ) - t) + bl w1 w2 w3 w4 u y v * t = bl w1 w2 w3 w4 u ((1 - t) * x + t * y) v := by
  rw [bl_comm₂₃ _ _ _ _ u x, bl_comm₂₃ _ _ _ _ u y, bl_lerp₃, bl_comm₂₃]

theorem bl_lerp₁ (t u v x y : ℝ) :
    bl w1 w2 w3 w4 x u v * ((1.0 : ℝ) - t) + bl w1 w2 w3 w4 y u v * t = bl w1 w2 w3 w4 ((1 - t) * x + t * y) u v := by
  rw [bl_comm₁₂ _ _ _ _ x, bl_comm₁₂ _ _ _ _ y, bl_lerp₂, bl_comm₁₂]

/-- the Bézier points of the cubic restricted to `[a, b]` -/
def bez (a b : ℝ) : T4 (Pt E) (Pt E) (Pt E) (Pt E) :=
  T4.mk (bl w1 w2 w3 w4 a a a) (bl w1 w2 w3 w4 a a b) (bl w1 w2 w3 w4 a b b) (bl w1 w2 w3 w4 b b b)

theorem curve_point_bl (t : ℝ) : curve_point_at_pos w1 w2 w3 w4 t = bl w1 w2 w3 w4 t t t := by
  apply Pt.ext'; simp only [curve_point_at_pos, basis, bl, add_v, mul_v, lit1, lit3]; module

theorem bez_whole : bez w1 w2 w3 w4 0 1 = T4.mk w1 w2 w3 w4 := by
  simp [bez, bl]

/-- SPLIT = DE CASTELJAU: the generated `subdivide4 t` splits the Bézier points over `[a, b]` into those over `[a, c]` and
    `[c, b]`, `c = (1 - t) a + t b` -/
theorem subdivide4_bez (t a b c : ℝ) (hc : c = (1 - t) * a + t * b) :
    subdivide4 t (bez w1 w2 w3 w4 a b).t0 (bez w1 w2 w3 w4 a b).t1 (bez w1 w2 w3 w4 a b).t2 (bez w1 w2 w3 w4 a b).t3 =
      T2.mk (bez w1 w2 w3 w4 a c) (bez w1 w2 w3 w4 c b) := by
  simp only [bez, subdivide4, de_casteljau2]
  -- the de Casteljau triangle, level by level: symmetry brings the two blossom values of an interpolation step to a
  -- common pair of arguments, the step then interpolates the third argument from `a` or `b` to `c`
  rw [bl_lerp₃, bl_lerp₂, bl_lerp₁, ← hc,
    bl_comm₂₃ _ _ _ _ a c b, bl_lerp₂, ← hc,
    bl_comm₁₂ _ _ _ _ c b b, bl_comm₂₃ _ _ _ _ b c b, bl_lerp₁, ← hc,
    bl_comm₂₃ _ _ _ _ c c b, bl_comm₁₂ _ _ _ _ c b c, bl_lerp₁, ← hc]

/-- the four points (start, control 1, control 2, end) of a section exactly as `section_length` obtains them:
    `start_point()`, `control_points()`, `end_point()` of the `CurveSection` -/
noncomputable def secPts (w1 w2 w3 w4 : Pt E) (s : SectionT ℝ) : T4 (Pt E) (Pt E) (Pt E) (Pt E) :=
  T4.mk (section_start_point w1 w2 w3 w4 s) (section_control_points w1 w2 w3 w4 s).t0
    (section_control_points w1 w2 w3 w4 s).t1 (section_end_point w1 w2 w3 w4 s)

/-- a section `[a, b]`, `b = a + m`, with `a < 1` (the branch of `control_points` that divides by `1 - t_c`): its four
    points are `bl a a a`, `bl a a b`, `bl a b b`, `bl b b b`, the Bézier points of the cubic restricted to `[a, b]` -/
theorem secPts_bl (s : SectionT ℝ) (ha : s.t_c < 1) :
    secPts w1 w2 w3 w4 s = bez w1 w2 w3 w4 s.t_c (s.t_c + s.t_m) := by
  have h1 := subdivide4_bez w1 w2 w3 w4 s.t_c 0 1 s.t_c (by ring)
  have h2 := subdivide4_bez w1 w2 w3 w4 (s.t_m / (1 - s.t_c)) s.t_c 1 (s.t_c + s.t_m)
    (by linear_combination -(div_mul_cancel₀ s.t_m (sub_pos.2 ha).ne'))
  simp only [bez_whole] at h1
  simp only [bez] at h2
  simp only [secPts, control_points_eq, section_start_point, section_end_point, section_t_for_t, curve_point_bl, h1,
    if_neg (not_le.2 ha), lit1, lit0, decide_eq_true_eq, h2, zero_mul, zero_add, one_mul, add_comm s.t_m, bez]

/-- what the loop invariant asks of a waiting section; `section_new 0 1` and its dyadic pieces have it. `t_c < 1` puts
    `control_points` in the branch that divides by `1 - t_c` (`secPts_bl`) -/
def Valid (s : SectionT ℝ) : Prop := s.t_c < 1 ∧ 0 ≤ s.t_m ∧ s.t_c + s.t_m ≤ 1

theorem valid_whole : Valid (section_new (0.0 : ℝ) (1.0 : ℝ)) := by
  simp only [Valid, section_new, lit0, lit1]; norm_num

theorem sub_left_eq (s : SectionT ℝ) :
    section_subsection s (0.0 : ℝ) (0.5 : ℝ) = ⟨s.t_c, s.t_m / 2⟩ := by
  obtain ⟨a, m⟩ := s
  simp only [section_subsection, section_new, section_t_for_t, lit0, lit05, SectionT.mk.injEq]
  constructor <;> ring

theorem sub_right_eq (s : SectionT ℝ) :
    section_subsection s (0.5 : ℝ) (1.0 : ℝ) = ⟨s.t_c + s.t_m / 2, s.t_m / 2⟩ := by
  obtain ⟨a, m⟩ := s
  simp only [section_subsection, section_new, section_t_for_t, lit1, lit05, SectionT.mk.injEq]
  constructor <;> ring

theorem valid_left {s : SectionT ℝ} (h : Valid s) : Valid (section_subsection s (0.0 : ℝ) (0.5 : ℝ)) := by
  rw [sub_left_eq]
  exact ⟨h.1, div_nonneg h.2.1 zero_le_two, (add_le_add_right (half_le_self h.2.1) _).trans h.2.2⟩

theorem valid_right {s : SectionT ℝ} (h : Valid s) : Valid (section_subsection s (0.5 : ℝ) (1.0 : ℝ)) := by
  rw [sub_right_eq]
  obtain ⟨h1, h2, h3⟩ := h
  exact ⟨show s.t_c + s.t_m / 2 < 1 by linarith, div_nonneg h2 zero_le_two, by rw [add_assoc, add_halves]; exact h3⟩

/-- `subsection(0, 0.5)` and `subsection(0.5, 1)` of a valid section are the de Casteljau halves of its own four points -/
theorem secPts_halves (s : SectionT ℝ) (h : Valid s) :
    let c := secPts w1 w2 w3 w4 s
    secPts w1 w2 w3 w4 (section_subsection s (0.0 : ℝ) (0.5 : ℝ)) = (subdivide4 (0.5 : ℝ) c.t0 c.t1 c.t2 c.t3).t0 ∧
    secPts w1 w2 w3 w4 (section_subsection s (0.5 : ℝ) (1.0 : ℝ)) = (subdivide4 (0.5 : ℝ) c.t0 c.t1 c.t2 c.t3).t1 := by
  intro c
  have hc : c = _ := secPts_bl w1 w2 w3 w4 s h.1
  rw [hc, subdivide4_bez w1 w2 w3 w4 (0.5 : ℝ) s.t_c (s.t_c + s.t_m) (s.t_c + s.t_m / 2) (by rw [lit05]; ring),
    secPts_bl w1 w2 w3 w4 _ (valid_left h).1, secPts_bl w1 w2 w3 w4 _ (valid_right h).1, sub_left_eq, sub_right_eq]
  simp only [add_assoc, add_halves, and_self]

end vec

section loop
variable {P : Type} [Add P] [Sub P] [HMul P ℝ P]

/-- state of the loop: `(total_length, waiting)`; the top of the stack is the LAST element of the list -/
abbrev St := T2 ℝ (List (T2 (SectionT ℝ) ℝ))

/-- `control_polygon_length(&section)` as `section_length` evaluates it -/
noncomputable def polyOf (dist : P → P → ℝ) (w1 w2 w3 w4 : P) (s : SectionT ℝ) : ℝ :=
  control_polygon_length dist (section_start_point w1 w2 w3 w4 s) (section_control_points w1 w2 w3 w4 s).t0
    (section_control_points w1 w2 w3 w4 s).t1 (section_end_point w1 w2 w3 w4 s)

/-- `chord_length(&section)` as `section_length` evaluates it -/
noncomputable def chordOf (dist : P → P → ℝ) (w1 w2 w3 w4 : P) (s : SectionT ℝ) : ℝ :=
  chord_length dist (section_start_point w1 w2 w3 w4 s) (section_control_points w1 w2 w3 w4 s).t0
    (section_control_points w1 w2 w3 w4 s).t1 (section_end_point w1 w2 w3 w4 s)

/-- the acceptance test `error < max_error || max_error <= MIN_ERROR` -/
def Accept (dist : P → P → ℝ) (w1 w2 w3 w4 : P) (s : SectionT ℝ) (e : ℝ) : Prop :=
  (polyOf dist w1 w2 w3 w4 s - chordOf dist w1 w2 w3 w4 s) * (polyOf dist w1 w2 w3 w4 s - chordOf dist w1 w2 w3 w4 s) < e
    ∨ e ≤ (1e-12 : ℝ)

/-- the value added for an accepted piece, `(2·chord + 2·polygon)/4` -/
noncomputable def estimateOf (dist : P → P → ℝ) (w1 w2 w3 w4 : P) (s : SectionT ℝ) : ℝ :=
  ((2.0 : ℝ) * chordOf dist w1 w2 w3 w4 s + (2.0 : ℝ) * polyOf dist w1 w2 w3 w4 s) / (4.0 : ℝ)

/-- the body of the generated `while let Some((section, max_error)) = waiting.pop()` loop, copied from
    `Gen.section_length`; `section_length_eq` below is checked by the kernel against the regenerated definition, so
    this copy cannot drift from the Rust source unnoticed -/
noncomputable def lengthStep (dist : P → P → ℝ) (w1 w2 w3 w4 : P) : St → Sum St St := fun st_1 =>
  let MIN_ERROR := (1e-12 : ℝ)
  let total_length := st_1.t0
  let waiting := st_1.t1
  (match (List.getLast? waiting) with
  | some popped_ =>
  let waiting := (List.dropLast waiting)
  let section_ := popped_.t0
  let max_error := popped_.t1
  let polygon_length := (control_polygon_length dist (section_start_point w1 w2 w3 w4 section_) (section_control_points w1 w2 w3 w4 section_).t0 (section_control_points w1 w2 w3 w4 section_).t1 (section_end_point w1 w2 w3 w4 section_))
  let chord_length := (chord_length dist (section_start_point w1 w2 w3 w4 section_) (section_control_points w1 w2 w3 w4 section_).t0 (section_control_points w1 w2 w3 w4 section_).t1 (section_end_point w1 w2 w3 w4 section_))
  let error := ((polygon_length - chord_length) * (polygon_length - chord_length))
  (if ((decide (error < max_error)) || (decide (max_error ≤ MIN_ERROR))) then
  let total_length := (total_length + ((((2.0 : ℝ) * chord_length) + ((2.0 : ℝ) * polygon_length)) / (4.0 : ℝ)))
  (Sum.inl (T2.mk total_length waiting))
  else
  let left := (section_subsection section_ (0.0 : ℝ) (0.5 : ℝ))
  let right := (section_subsection section_ (0.5 : ℝ) (1.0 : ℝ))
  let subsection_error := (max_error / (2.0 : ℝ))
  let waiting := (waiting ++ [(T2.mk left subsection_error)])
  let waiting := (waiting ++ [(T2.mk right subsection_error)])
  (Sum.inl (T2.mk total_length waiting)))
  | none =>
  (Sum.inr (T2.mk total_length waiting)))

/-- the state in which the generated loop of `section_length` ends when given `fuel` iterations -/
noncomputable def lengthLoop (fuel : Nat) (dist : P → P → ℝ) (w1 w2 w3 w4 : P) (s : SectionT ℝ) (e : ℝ) : St :=
  iterFuel fuel (lengthStep dist w1 w2 w3 w4) (fun st => st) (T2.mk (0.0 : ℝ) [T2.mk s e])

/-- TIE of the loop lemmas to the generated code: `Gen.section_length` IS the total of `lengthLoop`. Both sides are
    unfolded and the two loop bodies compared by `rfl` in either case of `waiting.pop()`: any change of the Rust loop
    breaks this proof -/
theorem section_length_eq (fuel : Nat) (dist : P → P → ℝ) (w1 w2 w3 w4 : P) (s : SectionT ℝ) (e : ℝ) :
    section_length fuel dist w1 w2 w3 w4 s e = (lengthLoop fuel dist w1 w2 w3 w4 s e).t0 := by
  unfold section_length lengthLoop lengthStep
  simp only []
  congr 2
  funext st
  cases h : st.t1.getLast? <;> rfl

variable (dist : P → P → ℝ) (w1 w2 w3 w4 : P)

theorem step_nil (total : ℝ) :
    lengthStep dist w1 w2 w3 w4 (T2.mk total []) = Sum.inr (T2.mk total []) := rfl

section
open Classical

/-- one iteration on a non-empty stack; of the two halves the right one ends up on top -/
theorem step_concat (total : ℝ) (rest : List (T2 (SectionT ℝ) ℝ)) (s : SectionT ℝ) (e : ℝ) :
    lengthStep dist w1 w2 w3 w4 (T2.mk total (rest ++ [T2.mk s e])) =
      if Accept dist w1 w2 w3 w4 s e then Sum.inl (T2.mk (total + estimateOf dist w1 w2 w3 w4 s) rest)
      else Sum.inl (T2.mk total (rest ++ [T2.mk (section_subsection s (0.0 : ℝ) (0.5 : ℝ)) (e / (2.0 : ℝ))]
              ++ [T2.mk (section_subsection s (0.5 : ℝ) (1.0 : ℝ)) (e / (2.0 : ℝ))])) := by
  simp only [lengthStep, List.getLast?_concat, List.dropLast_concat, Bool.or_eq_true, decide_eq_true_eq]
  split_ifs <;> first | rfl | contradiction

end

theorem step_inl (total : ℝ) (waiting : List (T2 (SectionT ℝ) ℝ)) (st' : St)
    (h : lengthStep dist w1 w2 w3 w4 (T2.mk total waiting) = Sum.inl st') :
    ∃ rest s e, waiting = rest ++ [T2.mk s e] ∧
      (Accept dist w1 w2 w3 w4 s e ∧ st' = T2.mk (total + estimateOf dist w1 w2 w3 w4 s) rest ∨
       ¬ Accept dist w1 w2 w3 w4 s e ∧ st' = T2.mk total (rest ++ [T2.mk (section_subsection s (0.0 : ℝ) (0.5 : ℝ)) (e / (2.0 : ℝ))]
          ++ [T2.mk (section_subsection s (0.5 : ℝ) (1.0 : ℝ)) (e / (2.0 : ℝ))])) := by
  rcases List.eq_nil_or_concat waiting with rfl | ⟨rest, ⟨s, e⟩, rfl⟩
  · cases h
  · rw [List.concat_eq_append, step_concat] at h
    refine ⟨rest, s, e, List.concat_eq_append, ?_⟩
    split_ifs at h with hacc <;> cases h
    · exact .inl ⟨hacc, rfl⟩
    · exact .inr ⟨hacc, rfl⟩

theorem exists_level (e : ℝ) : ∃ n : Nat, e ≤ (1e-12 : ℝ) * 2 ^ n := by
  obtain ⟨n, hn⟩ := pow_unbounded_of_one_lt (e / (1e-12 : ℝ)) (one_lt_two : (1 : ℝ) < 2)
  exact ⟨n, (div_le_iff₀' (by norm_num)).1 hn.le⟩

/-- the least `n` with `e ≤ MIN_ERROR · 2ⁿ`: after `n` halvings a tolerance `e` is at or below the floor -/
noncomputable def lvl (e : ℝ) : Nat := by
  classical exact Nat.find (exists_level e)

theorem lvl_spec (e : ℝ) : e ≤ (1e-12 : ℝ) * 2 ^ lvl e := by
  classical exact Nat.find_spec (exists_level e)

theorem lvl_le {e : ℝ} {n : Nat} (h : e ≤ (1e-12 : ℝ) * 2 ^ n) : lvl e ≤ n := by
  classical exact Nat.find_min' (exists_level e) h

theorem le_floor_of_lvl {e : ℝ} (h : lvl e = 0) : e ≤ (1e-12 : ℝ) := by
  simpa [h] using lvl_spec e

theorem lvl_half {e : ℝ} (h : ¬ e ≤ (1e-12 : ℝ)) : lvl (e / (2.0 : ℝ)) + 1 ≤ lvl e := by
  obtain ⟨j, hk⟩ := Nat.exists_eq_succ_of_ne_zero fun h0 => h (le_floor_of_lvl h0)
  have hs := lvl_spec e
  rw [hk, pow_succ, ← mul_assoc] at hs
  rw [hk]
  exact Nat.succ_le_succ (lvl_le (by rwa [lit2, div_le_iff₀ two_pos]))

/-- work still to do for a stack: `Σ (2^(lvl e + 1) - 1)` over the waiting pieces - the size of the full binary tree
    below each of them -/
noncomputable def work (l : List (T2 (SectionT ℝ) ℝ)) : Nat :=
  (l.map (fun x => 2 ^ (lvl x.t1 + 1) - 1)).sum

theorem work_append (l m : List (T2 (SectionT ℝ) ℝ)) : work (l ++ m) = work l + work m := by
  simp [work, List.map_append, List.sum_append]

theorem work_single (x : T2 (SectionT ℝ) ℝ) : work [x] = 2 ^ (lvl x.t1 + 1) - 1 := by simp [work]

/-- EVERY CONTINUING ITERATION DOES AT LEAST ONE UNIT OF THE WORK: the potential `work(waiting)` strictly decreases
    (accepted piece: its whole subtree is gone; split piece: two subtrees one level lower, `2·(2^k − 1) < 2^(k+1) − 1`).
    Holds for any point type and any distance function: only the tolerances matter. A termination argument of its own,
    beside the count of iterations in `loop_runs_rec`. -/
theorem step_work (st st' : St)
    (h : lengthStep dist w1 w2 w3 w4 st = Sum.inl st') : work st'.t1 < work st.t1 := by
  obtain ⟨total, waiting⟩ := st
  obtain ⟨rest, s, e, rfl, ⟨hacc, rfl⟩ | ⟨hacc, rfl⟩⟩ := step_inl dist w1 w2 w3 w4 total waiting st' h
  · have h2 : 2 ≤ 2 ^ (lvl e + 1) := Nat.le_self_pow (Nat.succ_ne_zero _) 2
    simp only [work_append, work_single]
    omega
  · have hp : 2 ^ (lvl (e / (2.0 : ℝ)) + 1) ≤ 2 ^ lvl e :=
      Nat.pow_le_pow_right two_pos (lvl_half fun hle => hacc (Or.inr hle))
    have h1 : 1 ≤ 2 ^ (lvl (e / (2.0 : ℝ)) + 1) := Nat.one_le_two_pow
    simp only [work_append, work_single, pow_succ]
    omega

theorem step_exit (st r : St)
    (h : lengthStep dist w1 w2 w3 w4 st = Sum.inr r) : r = st ∧ st.t1 = [] := by
  obtain ⟨total, waiting⟩ := st
  rcases List.eq_nil_or_concat waiting with rfl | ⟨rest, ⟨s, e⟩, rfl⟩
  · rw [step_nil] at h; exact ⟨(Sum.inr.inj h).symm, rfl⟩
  · rw [List.concat_eq_append, step_concat] at h
    split at h <;> exact absurd h (by simp)

/-- INDUCTION OVER THE LOOP: what holds of the start state and is kept when the top piece is accepted and when it is replaced
    by its halves holds of the state in which the loop ends, for every fuel and whichever way it ends -/
theorem lengthLoop_induction (fuel : Nat) (dist : P → P → ℝ) (w1 w2 w3 w4 : P) (s0 : SectionT ℝ) (e0 : ℝ) (I : St → Prop)
    (h0 : I (T2.mk (0.0 : ℝ) [T2.mk s0 e0]))
    (hacc : ∀ total rest s e, I (T2.mk total (rest ++ [T2.mk s e])) → Accept dist w1 w2 w3 w4 s e →
      I (T2.mk (total + estimateOf dist w1 w2 w3 w4 s) rest))
    (hsplit : ∀ total rest s e, I (T2.mk total (rest ++ [T2.mk s e])) → ¬ Accept dist w1 w2 w3 w4 s e →
      I (T2.mk total (rest ++ [T2.mk (section_subsection s (0.0 : ℝ) (0.5 : ℝ)) (e / (2.0 : ℝ))]
          ++ [T2.mk (section_subsection s (0.5 : ℝ) (1.0 : ℝ)) (e / (2.0 : ℝ))]))) :
    I (lengthLoop fuel dist w1 w2 w3 w4 s0 e0) := by
  refine iterFuel_invariant I I _ _ (fun st st' hI hst => ?_)
    (fun st r hI hr => (step_exit dist w1 w2 w3 w4 st r hr).1 ▸ hI) (fun _ hI => hI) fuel _ h0
  obtain ⟨total, waiting⟩ := st
  obtain ⟨rest, s, e, rfl, ⟨ha, rfl⟩ | ⟨ha, rfl⟩⟩ := step_inl dist w1 w2 w3 w4 total waiting st' hst
  · exact hacc total rest s e hI ha
  · exact hsplit total rest s e hI ha

open Classical in
/-- the recursion that the explicit stack unfolds (Graphics Gems V IV.7): accept the piece, or add the lengths of
    the two halves at half the tolerance; `n` = levels still allowed (never the limiting factor once `lvl e ≤ n`) -/
noncomputable def recLen (dist : P → P → ℝ) (w1 w2 w3 w4 : P) : Nat → SectionT ℝ → ℝ → ℝ
  | 0, s, _ => estimateOf dist w1 w2 w3 w4 s
  | n + 1, s, e =>
    if Accept dist w1 w2 w3 w4 s e then estimateOf dist w1 w2 w3 w4 s
    else recLen dist w1 w2 w3 w4 n (section_subsection s (0.0 : ℝ) (0.5 : ℝ)) (e / (2.0 : ℝ)) +
         recLen dist w1 w2 w3 w4 n (section_subsection s (0.5 : ℝ) (1.0 : ℝ)) (e / (2.0 : ℝ))

theorem run_nil (t : ℝ) (j : Nat) :
    iterFuel j (lengthStep dist w1 w2 w3 w4) (fun x => x) (T2.mk t []) = T2.mk t [] := by
  cases j with
  | zero => rfl
  | succ j => simp only [iterFuel, step_nil]

/-- `k` iterations of the fuelled loop consume the piece `(s, e)` on top of any stack: the rest of the stack is untouched
    and the total has grown by `v` -/
def Consumes (k : Nat) (s : SectionT ℝ) (e v : ℝ) : Prop :=
  ∀ (total : ℝ) (rest : List (T2 (SectionT ℝ) ℝ)) (j : Nat),
    iterFuel (k + j) (lengthStep dist w1 w2 w3 w4) (fun x => x) (T2.mk total (rest ++ [T2.mk s e]))
      = iterFuel j (lengthStep dist w1 w2 w3 w4) (fun x => x) (T2.mk (total + v) rest)

theorem consumes_accept {s : SectionT ℝ} {e : ℝ} (h : Accept dist w1 w2 w3 w4 s e) :
    Consumes dist w1 w2 w3 w4 1 s e (estimateOf dist w1 w2 w3 w4 s) := by
  intro total rest j
  rw [Nat.add_comm, iterFuel, step_concat, if_pos h]

/-- a split piece is consumed by one iteration, then the right half (on top), then the left one -/
theorem consumes_split {s : SectionT ℝ} {e a b : ℝ} {kl kr : Nat}
    (h : ¬ Accept dist w1 w2 w3 w4 s e)
    (hl : Consumes dist w1 w2 w3 w4 kl (section_subsection s (0.0 : ℝ) (0.5 : ℝ)) (e / (2.0 : ℝ)) a)
    (hr : Consumes dist w1 w2 w3 w4 kr (section_subsection s (0.5 : ℝ) (1.0 : ℝ)) (e / (2.0 : ℝ)) b) :
    Consumes dist w1 w2 w3 w4 (kr + kl + 1) s e (a + b) := by
  intro total rest j
  rw [Nat.add_right_comm _ 1, Nat.add_assoc kr, iterFuel, step_concat, if_neg h]
  exact (hr _ _ _).trans ((hl _ _ _).trans (by rw [add_assoc, add_comm b]))

/-- STACK DISCIPLINE: a piece `(s, e)` on top of the stack is consumed in some `k ≤ 2^(n+1) − 1` iterations (`n ≥ lvl e`)
    and adds exactly `recLen n s e` to the total -/
theorem loop_runs_rec (n : Nat) :
    ∀ (s : SectionT ℝ) (e : ℝ), lvl e ≤ n →
      ∃ k : Nat, k ≤ 2 ^ (n + 1) - 1 ∧ Consumes dist w1 w2 w3 w4 k s e (recLen dist w1 w2 w3 w4 n s e) := by
  induction n with
  | zero =>
    exact fun s e hl => ⟨1, le_rfl, consumes_accept dist w1 w2 w3 w4 (Or.inr (le_floor_of_lvl (Nat.le_zero.1 hl)))⟩
  | succ n ih =>
    intro s e hl
    by_cases hacc : Accept dist w1 w2 w3 w4 s e
    · exact ⟨1, Nat.le_sub_one_of_lt (Nat.one_lt_two_pow (n + 1).succ_ne_zero),
        by simpa only [recLen, if_pos hacc] using consumes_accept dist w1 w2 w3 w4 hacc⟩
    · have hl2 : lvl (e / (2.0 : ℝ)) ≤ n := by have := lvl_half fun hle => hacc (Or.inr hle); omega
      obtain ⟨kr, hkr, hr⟩ := ih (section_subsection s (0.5 : ℝ) (1.0 : ℝ)) (e / (2.0 : ℝ)) hl2
      obtain ⟨kl, hkl, hlft⟩ := ih (section_subsection s (0.0 : ℝ) (0.5 : ℝ)) (e / (2.0 : ℝ)) hl2
      refine ⟨kr + kl + 1, ?_, ?_⟩
      · have : 1 ≤ 2 ^ (n + 1) := Nat.one_le_two_pow
        rw [pow_succ (n := n + 1)]
        omega
      · simpa only [recLen, if_neg hacc] using consumes_split dist w1 w2 w3 w4 hacc hlft hr

/-- THE STACK LOOP IS THE RECURSION: with `e ≤ MIN_ERROR · 2^D`, any fuel `≥ 2^(D+1) − 1` ends the loop with an empty
    stack and the total `recLen D s e` -/
theorem lengthLoop_eq_rec (fuel D : Nat) (dist : P → P → ℝ) (w1 w2 w3 w4 : P) (s : SectionT ℝ) (e : ℝ)
    (hD : e ≤ (1e-12 : ℝ) * 2 ^ D) (hf : 2 ^ (D + 1) - 1 ≤ fuel) :
    lengthLoop fuel dist w1 w2 w3 w4 s e = T2.mk (recLen dist w1 w2 w3 w4 D s e) [] := by
  obtain ⟨k, hk, hrun⟩ := loop_runs_rec dist w1 w2 w3 w4 D s e (lvl_le hD)
  have h := hrun (0.0 : ℝ) [] (fuel - k)
  rw [Nat.add_sub_cancel' (hk.trans hf), run_nil] at h
  exact h.trans (by rw [lit0, zero_add])

end loop

section normed
variable {E : Type} [NormedAddCommGroup E] [NormedSpace ℝ E]

/-- `distance_to` -/
noncomputable def pdist (a b : Pt E) : ℝ := ‖a.v - b.v‖

noncomputable def sumOn (f : SectionT ℝ → ℝ) (l : List (T2 (SectionT ℝ) ℝ)) : ℝ := (l.map fun x => f x.t0).sum

theorem sumOn_concat (f : SectionT ℝ → ℝ) (l : List (T2 (SectionT ℝ) ℝ)) (x : T2 (SectionT ℝ) ℝ) :
    sumOn f (l ++ [x]) = sumOn f l + f x.t0 := by
  simp only [sumOn, List.map_append, List.sum_append, List.map_cons, List.map_nil, List.sum_cons, List.sum_nil, add_zero]

theorem sumOn_nonneg {f : SectionT ℝ → ℝ} (hf : ∀ s, 0 ≤ f s) (l : List (T2 (SectionT ℝ) ℝ)) : 0 ≤ sumOn f l :=
  List.sum_nonneg fun _ hx => by obtain ⟨y, _, rfl⟩ := List.mem_map.1 hx; exact hf y.t0

variable (w1 w2 w3 w4 : Pt E)

/-- the invariant of the `section_length` loop started on the section `s0`:
    every waiting section is valid,
    `U = total + Σ_waiting polygon ≤ polygon(s0)`, `L = total + Σ_waiting chord ≥ chord(s0)`, and `total ≥ 0` -/
def LoopInv (s0 : SectionT ℝ) (st : St) : Prop :=
  (∀ x ∈ st.t1, Valid x.t0) ∧
  st.t0 + sumOn (polyOf pdist w1 w2 w3 w4) st.t1 ≤ polyOf pdist w1 w2 w3 w4 s0 ∧
  chordOf pdist w1 w2 w3 w4 s0 ≤ st.t0 + sumOn (chordOf pdist w1 w2 w3 w4) st.t1 ∧
  0 ≤ st.t0

theorem polyOf_secPts (dist : Pt E → Pt E → ℝ) (s : SectionT ℝ) :
    polyOf dist w1 w2 w3 w4 s = control_polygon_length dist (secPts w1 w2 w3 w4 s).t0 (secPts w1 w2 w3 w4 s).t1
      (secPts w1 w2 w3 w4 s).t2 (secPts w1 w2 w3 w4 s).t3 := rfl

theorem chordOf_secPts (dist : Pt E → Pt E → ℝ) (s : SectionT ℝ) :
    chordOf dist w1 w2 w3 w4 s = chord_length dist (secPts w1 w2 w3 w4 s).t0 (secPts w1 w2 w3 w4 s).t1
      (secPts w1 w2 w3 w4 s).t2 (secPts w1 w2 w3 w4 s).t3 := rfl

theorem polyOf_nonneg (s : SectionT ℝ) : 0 ≤ polyOf pdist w1 w2 w3 w4 s := by
  simp only [polyOf, control_polygon_length, pdist]; positivity

theorem chordOf_nonneg (s : SectionT ℝ) : 0 ≤ chordOf pdist w1 w2 w3 w4 s := by
  simp only [chordOf, chord_length, pdist]; positivity

theorem secPts_whole :
    secPts w1 w2 w3 w4 (section_new (0.0 : ℝ) (1.0 : ℝ)) = T4.mk w1 w2 w3 w4 := by
  rw [secPts_bl w1 w2 w3 w4 _ valid_whole.1]
  simp only [section_new, lit0, lit1, sub_zero, zero_add, bez_whole]

theorem polyOf_whole :
    polyOf pdist w1 w2 w3 w4 (section_new (0.0 : ℝ) (1.0 : ℝ)) = control_polygon_length pdist w1 w2 w3 w4 := by
  rw [polyOf_secPts, secPts_whole]

theorem chordOf_whole :
    chordOf pdist w1 w2 w3 w4 (section_new (0.0 : ℝ) (1.0 : ℝ)) = chord_length pdist w1 w2 w3 w4 := by
  rw [chordOf_secPts, secPts_whole]

/-- the curve of the non-vacuity examples of Props/C19: the 1-D cubic 0, 3, −3, 0 has control polygon 12 … -/
theorem ex_poly : control_polygon_length pdist (⟨0⟩ : Pt ℝ) ⟨3⟩ ⟨-3⟩ ⟨0⟩ = 12 := by
  simp only [control_polygon_length, pdist, Real.norm_eq_abs]; norm_num [abs_of_nonneg, abs_of_nonpos]

/-- … and chord 0 -/
theorem ex_chord : chord_length pdist (⟨0⟩ : Pt ℝ) ⟨3⟩ ⟨-3⟩ ⟨0⟩ = 0 := by
  simp only [chord_length, pdist, Real.norm_eq_abs]; norm_num

end normed

section reversal
variable {E : Type} [NormedAddCommGroup E] [NormedSpace ℝ E]

/-- `[a, a+m]` of the reversed curve covers `[1-a-m, 1-a]` of the curve -/
def mirror (s : SectionT ℝ) : SectionT ℝ := ⟨1 - s.t_c - s.t_m, s.t_m⟩

/-- positive width, inside `[0,1]`: makes a section and its mirror image `Valid`; kept by halving -/
def Inner (s : SectionT ℝ) : Prop := 0 ≤ s.t_c ∧ 0 < s.t_m ∧ s.t_c + s.t_m ≤ 1

theorem Inner.valid {s : SectionT ℝ} (h : Inner s) : Valid s := by
  obtain ⟨h1, h2, h3⟩ := h; exact ⟨by linarith, h2.le, h3⟩

theorem Inner.mirror {s : SectionT ℝ} (h : Inner s) : Inner (mirror s) := by
  obtain ⟨h1, h2, h3⟩ := h; refine ⟨?_, ?_, ?_⟩ <;> simp only [LengthL.mirror] <;> linarith

theorem inner_whole : Inner (section_new (0.0 : ℝ) (1.0 : ℝ)) := by
  simp only [Inner, section_new, lit0, lit1]; norm_num

theorem inner_left {s : SectionT ℝ} (h : Inner s) : Inner (section_subsection s (0.0 : ℝ) (0.5 : ℝ)) := by
  rw [sub_left_eq]
  exact ⟨h.1, half_pos h.2.1, (add_le_add_right (half_le_self h.2.1.le) _).trans h.2.2⟩

theorem inner_right {s : SectionT ℝ} (h : Inner s) : Inner (section_subsection s (0.5 : ℝ) (1.0 : ℝ)) := by
  rw [sub_right_eq]
  exact ⟨add_nonneg h.1 (half_pos h.2.1).le, half_pos h.2.1, by rw [add_assoc, add_halves]; exact h.2.2⟩

theorem mirror_whole : mirror (section_new (0.0 : ℝ) (1.0 : ℝ)) = section_new (0.0 : ℝ) (1.0 : ℝ) := by
  simp only [mirror, section_new, lit0, lit1, SectionT.mk.injEq]; norm_num

theorem mirror_left (s : SectionT ℝ) :
    mirror (section_subsection s (0.0 : ℝ) (0.5 : ℝ)) = section_subsection (mirror s) (0.5 : ℝ) (1.0 : ℝ) := by
  rw [sub_left_eq, sub_right_eq]; simp only [mirror]; congr 1; ring

theorem mirror_right (s : SectionT ℝ) :
    mirror (section_subsection s (0.5 : ℝ) (1.0 : ℝ)) = section_subsection (mirror s) (0.0 : ℝ) (0.5 : ℝ) := by
  rw [sub_left_eq, sub_right_eq]; simp only [mirror]; congr 1; ring

variable (w1 w2 w3 w4 : Pt E)

/-- the points of a section of the reversed curve are the points of the mirrored section, in reverse order -/
theorem secPts_reverse (s : SectionT ℝ) (h : Inner s) :
    secPts w4 w3 w2 w1 s = T4.mk (secPts w1 w2 w3 w4 (mirror s)).t3 (secPts w1 w2 w3 w4 (mirror s)).t2
      (secPts w1 w2 w3 w4 (mirror s)).t1 (secPts w1 w2 w3 w4 (mirror s)).t0 := by
  rw [secPts_bl w4 w3 w2 w1 s h.valid.1, secPts_bl w1 w2 w3 w4 (mirror s) h.mirror.valid.1]
  simp only [bez, mirror, bl_reverse w1 w2 w3 w4, sub_add_cancel, ← sub_sub]
  generalize 1 - s.t_c = e
  generalize e - s.t_m = d
  rw [bl_comm₁₂ _ _ _ _ d e e, bl_comm₂₃ _ _ _ _ e d e, bl_comm₂₃ _ _ _ _ d d e, bl_comm₁₂ _ _ _ _ d e d]

theorem polygon_rev (a b c d : Pt E) :
    control_polygon_length pdist d c b a = control_polygon_length pdist a b c d := by
  simp only [control_polygon_length, pdist]
  rw [norm_sub_rev d.v c.v, norm_sub_rev c.v b.v, norm_sub_rev b.v a.v]
  ring

theorem chord_rev (a b c d : Pt E) : chord_length pdist d c b a = chord_length pdist a b c d :=
  norm_sub_rev _ _

theorem polyOf_reverse (s : SectionT ℝ) (h : Inner s) :
    polyOf pdist w4 w3 w2 w1 s = polyOf pdist w1 w2 w3 w4 (mirror s) := by
  rw [polyOf_secPts, polyOf_secPts, secPts_reverse w1 w2 w3 w4 s h]
  exact polygon_rev _ _ _ _

theorem chordOf_reverse (s : SectionT ℝ) (h : Inner s) :
    chordOf pdist w4 w3 w2 w1 s = chordOf pdist w1 w2 w3 w4 (mirror s) := by
  rw [chordOf_secPts, chordOf_secPts, secPts_reverse w1 w2 w3 w4 s h]
  exact chord_rev _ _ _ _

/-- the recursion on the reversed curve is the recursion on the curve, mirrored (the two halves swap) -/
theorem recLen_reverse :
    ∀ (n : Nat) (s : SectionT ℝ) (e : ℝ), Inner s →
      recLen pdist w4 w3 w2 w1 n s e = recLen pdist w1 w2 w3 w4 n (mirror s) e := by
  intro n
  induction n with
  | zero =>
    intro s e h
    simp only [recLen, estimateOf, polyOf_reverse w1 w2 w3 w4 s h, chordOf_reverse w1 w2 w3 w4 s h]
  | succ n ih =>
    intro s e h
    have hacc : Accept pdist w4 w3 w2 w1 s e ↔ Accept pdist w1 w2 w3 w4 (mirror s) e := by
      simp only [Accept, polyOf_reverse w1 w2 w3 w4 s h, chordOf_reverse w1 w2 w3 w4 s h]
    by_cases ha : Accept pdist w1 w2 w3 w4 (mirror s) e
    · simp only [recLen, if_pos ha, if_pos (hacc.2 ha), estimateOf, polyOf_reverse w1 w2 w3 w4 s h,
        chordOf_reverse w1 w2 w3 w4 s h]
    · simp only [recLen, if_neg ha, if_neg (fun hh => ha (hacc.1 hh))]
      rw [ih _ _ (inner_left h), ih _ _ (inner_right h), mirror_left, mirror_right, add_comm]

end reversal

end LengthL
