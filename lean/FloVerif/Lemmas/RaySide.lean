/-
Helper lemmas for C14 (the per-edge side test `ray_can_intersect`, `curve_is_collinear`, and the signed distance of
a cubic in Bernstein form).  Everything is about the generated definitions in `Gen/Ray.lean`.
-/
import FloVerif.Gen.Ray
import FloVerif.Lemmas.FatLine
import Mathlib.Tactic.Ring
import Mathlib.Tactic.NormNum.OfScientific
import Mathlib.Tactic.SplitIfs
import Mathlib.Algebra.Order.Field.Basic
import Mathlib.Algebra.Order.AbsoluteValue.Basic

set_option linter.unusedSectionVars false
namespace RaySide
open Prelude Gen FatLineLemmas

variable {K : Type} [Field K] [LinearOrder K] [IsStrictOrderedRing K] [Inhabited K] [FSqrt K] [FConsts K]

local instance : FAbs K := ⟨fun a => |a|⟩
/-- `f64::signum` is `1.0` for `+0.0` and every positive number, `-1.0` for `-0.0` and every negative number; an ordered
    field has one zero, which is given the sign `+1` -/
local instance : FSignum K := ⟨fun a => if a < 0 then -1 else 1⟩
local instance : OfInt K := ⟨fun n => (n : K)⟩

/-- `a x + b y + c` for the coefficient triple of a line -/
def sdist (co : T3 K K K) (p : V2 K) : K := co.t0 * p.x + co.t1 * p.y + co.t2

/-- the point of the edge at parameter `t` -/
def pointAt (e : Curve4 K) (t : K) : V2 K := de_casteljau4 t e.t0 e.t1 e.t2 e.t3

theorem dist_pointAt (co : T3 K K K) (e : Curve4 K) (t : K) :
    sdist co (pointAt e t) = bern t (sdist co e.t0) (sdist co e.t1) (sdist co e.t2) (sdist co e.t3) := by
  simp only [sdist, pointAt, dc4_x, dc4_y, dc4_bernstein, bern]
  ring

/-- a Bernstein combination is at most the largest of its four values (the weights are non-negative and sum to 1) -/
theorem bern_le_max (t a b c d : K) (h0 : 0 ≤ t) (h1 : t ≤ 1) : bern t a b c d ≤ max (max a b) (max c d) :=
  (bern_mono t h0 h1 (le_max_of_le_left (le_max_left a b)) (le_max_of_le_left (le_max_right a b))
    (le_max_of_le_right (le_max_left c d)) (le_max_of_le_right (le_max_right c d))).trans_eq (bern_const t _)

/-- what the generated `ray_can_intersect` computes, with the four control distances named -/
theorem rci_unfold (e : Curve4 K) (co : T3 K K K) :
    ray_can_intersect e co =
      if |sdist co e.t0| < (SMALL_DISTANCE : K) ∧ |sdist co e.t3| < (SMALL_DISTANCE : K) ∧ |sdist co e.t1| < (SMALL_DISTANCE : K) ∧
          |sdist co e.t2| < (SMALL_DISTANCE : K) then RayCanIntersect.Collinear
      else if ¬ (-3.99 ≤ fsignum (sdist co e.t0) + fsignum (sdist co e.t3) + fsignum (sdist co e.t1) + fsignum (sdist co e.t2) ∧
          fsignum (sdist co e.t0) + fsignum (sdist co e.t3) + fsignum (sdist co e.t1) + fsignum (sdist co e.t2) ≤ (3.99 : K))
        then RayCanIntersect.WrongSide else RayCanIntersect.CrossesRay := by
  simp only [ray_can_intersect, sdist, fabs, Bool.and_eq_true, decide_eq_true_eq, Bool.not_eq_true', and_assoc, Bool.and_eq_false_imp,
    decide_eq_false_iff_not, not_and]

/-- the sign function takes the values ±1 only: it is an integer -/
theorem sg_int (x : K) : ∃ z : ℤ, fsignum x = z ∧ (z = -1 ∨ z = 1) ∧ (z = -1 → x < 0) ∧ (z = 1 → 0 ≤ x) := by
  by_cases h : x < 0
  · exact ⟨-1, by rw [Int.cast_neg, Int.cast_one]; exact if_pos h, Or.inl rfl, fun _ => h, fun h => absurd h (by decide)⟩
  · exact ⟨1, by rw [Int.cast_one]; exact if_neg h, Or.inr rfl, fun h => absurd h (by decide), fun _ => not_lt.1 h⟩

theorem four_signs (z0 z1 z2 z3 : ℤ) (c0 : z0 = -1 ∨ z0 = 1) (c1 : z1 = -1 ∨ z1 = 1) (c2 : z2 = -1 ∨ z2 = 1) (c3 : z3 = -1 ∨ z3 = 1)
    (h : ¬ (-3 ≤ z0 + z3 + z1 + z2 ∧ z0 + z3 + z1 + z2 ≤ 3)) :
    (z0 = 1 ∧ z1 = 1 ∧ z2 = 1 ∧ z3 = 1) ∨ (z0 = -1 ∧ z1 = -1 ∧ z2 = -1 ∧ z3 = -1) := by
  revert h
  rcases c0 with rfl | rfl <;> rcases c1 with rfl | rfl <;> rcases c2 with rfl | rfl <;> rcases c3 with rfl | rfl <;> decide

/-- `WrongSide` is only reported when the four control distances have one sign (a zero counts as positive) -/
theorem wrong_side_signs (e : Curve4 K) (co : T3 K K K) (h : ray_can_intersect e co = RayCanIntersect.WrongSide) :
    (0 ≤ sdist co e.t0 ∧ 0 ≤ sdist co e.t1 ∧ 0 ≤ sdist co e.t2 ∧ 0 ≤ sdist co e.t3) ∨
    (sdist co e.t0 < 0 ∧ sdist co e.t1 < 0 ∧ sdist co e.t2 < 0 ∧ sdist co e.t3 < 0) := by
  rw [rci_unfold] at h
  split_ifs at h with h1 h2
  obtain ⟨z0, e0, c0, n0, p0⟩ := sg_int (sdist co e.t0)
  obtain ⟨z1, e1, c1, n1, p1⟩ := sg_int (sdist co e.t1)
  obtain ⟨z2, e2, c2, n2, p2⟩ := sg_int (sdist co e.t2)
  obtain ⟨z3, e3, c3, n3, p3⟩ := sg_int (sdist co e.t3)
  -- the sum of the four signs is an integer: beyond ±3.99 it is ±4, and then the four signs agree
  rw [e0, e1, e2, e3, ← Int.cast_add, ← Int.cast_add, ← Int.cast_add] at h2
  have hz : ¬ (-3 ≤ z0 + z3 + z1 + z2 ∧ z0 + z3 + z1 + z2 ≤ 3) := fun hh => h2
    ⟨le_trans (by norm_num) (Int.cast_le.2 hh.1), le_trans (Int.cast_le.2 hh.2) (by norm_num)⟩
  rcases four_signs z0 z1 z2 z3 c0 c1 c2 c3 hz with ⟨a0, a1, a2, a3⟩ | ⟨a0, a1, a2, a3⟩
  · exact Or.inl ⟨p0 a0, p1 a1, p2 a2, p3 a3⟩
  · exact Or.inr ⟨n0 a0, n1 a1, n2 a2, n3 a3⟩

/-- conversely an edge whose control distances do not all have one sign is never `WrongSide` -/
theorem mixed_signs_not_wrong_side (e : Curve4 K) (co : T3 K K K)
    (hneg : sdist co e.t0 < 0 ∨ sdist co e.t1 < 0 ∨ sdist co e.t2 < 0 ∨ sdist co e.t3 < 0)
    (hpos : 0 ≤ sdist co e.t0 ∨ 0 ≤ sdist co e.t1 ∨ 0 ≤ sdist co e.t2 ∨ 0 ≤ sdist co e.t3) :
    ray_can_intersect e co ≠ RayCanIntersect.WrongSide := by
  intro h
  rcases wrong_side_signs e co h with ⟨a0, a1, a2, a3⟩ | ⟨a0, a1, a2, a3⟩
  · rcases hneg with h | h | h | h
    exacts [not_le.2 h a0, not_le.2 h a1, not_le.2 h a2, not_le.2 h a3]
  · rcases hpos with h | h | h | h
    exacts [not_lt.2 h a0, not_lt.2 h a1, not_lt.2 h a2, not_lt.2 h a3]

/-- `curve_is_collinear` is the same four-distance test -/
theorem cic_unfold (e : Curve4 K) (co : T3 K K K) :
    curve_is_collinear e co = true ↔
      |sdist co e.t0| < (SMALL_DISTANCE : K) ∧ |sdist co e.t3| < (SMALL_DISTANCE : K) ∧ |sdist co e.t1| < (SMALL_DISTANCE : K) ∧
          |sdist co e.t2| < (SMALL_DISTANCE : K) := by
  -- the generated test multiplies in the other order (`p.x * a`)
  simp only [curve_is_collinear, sdist, fabs, mul_comm, Bool.if_true_left, Bool.or_false, Bool.and_eq_true, decide_eq_true_eq, and_assoc]

theorem rci_collinear_iff (e : Curve4 K) (co : T3 K K K) :
    ray_can_intersect e co = RayCanIntersect.Collinear ↔ curve_is_collinear e co = true := by
  rw [rci_unfold, cic_unfold]
  constructor
  · intro h
    split_ifs at h with h1 h2
    exact h1
  · intro h
    rw [if_pos h]

theorem not_collinear_of_far_start (e : Curve4 K) (co : T3 K K K) (h : (SMALL_DISTANCE : K) ≤ |sdist co e.t0|) :
    curve_is_collinear e co = false :=
  Bool.eq_false_iff.2 fun hc => absurd ((cic_unfold e co).1 hc).1 (not_lt.2 h)

end RaySide
