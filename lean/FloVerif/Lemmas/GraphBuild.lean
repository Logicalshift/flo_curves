import FloVerif.Lemmas.Graph
/-! `from_clockwise_path` (mod.rs:179) builds a chain and closes it into a cycle with a well-formed following-edge structure. -/
namespace Model.Graph

theorem FolWf.nil : FolWf [] := ⟨by intro p e he; simp [edgesAt] at he, by intro p f hp; simp at hp⟩

theorem edgesAt_dropLast (g : Graph) (a : Nat) :
    edgesAt g.dropLast a = if a < g.length - 1 then edgesAt g a else [] := by
  unfold edgesAt
  rw [List.getElem?_dropLast]
  split_ifs with h
  · rfl
  · rfl

theorem cntP_dropLast (q : Edge → Bool) (g : Graph) (h : edgesAt g (g.length - 1) = []) : cntP q g.dropLast = cntP q g := by
  by_cases hg : g = []
  · subst hg; rfl
  · have e := List.dropLast_concat_getLast hg
    have hl : g.length - 1 < g.length := by
      have := List.length_pos_iff.mpr hg; omega
    have h2 : (g.getLast hg).edges = [] := by
      rw [List.getLast_eq_getElem, ← edgesAt_of_lt hl]; exact h
    conv_rhs => rw [← e]
    rw [cntP_append, cntP_cons, cntP_nil, h2]
    simp

/-- loop invariant of `from_clockwise_path`: an open chain `0 → 1 → … → last`; every point up to `last` but the start point
is named once as the end of an edge -/
structure ChainInv (label : Nat) (st : FromPathState) : Prop where
  len : st.points.length = st.last + 1
  next : st.next = st.last + 1
  edges : ∀ a, edgesAt st.points a = if a < st.last then [⟨a + 1, 0, label, 0⟩] else []
  slot : ∀ p f, slotCount st.points p f + (if 0 = p ∧ 0 = f then 1 else 0) = if p ≤ st.last ∧ f = 0 then 1 else 0

theorem ite_le_succ_and (p L f : Nat) : (if p ≤ L + 1 ∧ f = 0 then 1 else 0) =
    (if p ≤ L ∧ f = 0 then 1 else 0) + (if L + 1 = p ∧ 0 = f then 1 else 0) := by
  by_cases hf : f = 0
  · subst hf
    simp only [and_true]
    rcases Nat.lt_trichotomy p (L + 1) with h | h | h
    · rw [if_pos (Nat.le_of_lt h), if_pos (Nat.le_of_lt_succ h), if_neg (Nat.ne_of_gt h)]
    · rw [if_pos (Nat.le_of_eq h), if_neg (by omega), if_pos h.symm]
    · rw [if_neg (by omega), if_neg (by omega), if_neg (by omega)]
  · rw [if_neg fun hh => hf hh.2, if_neg fun hh => hf hh.2, if_neg fun hh => hf hh.2.symm]

theorem ChainInv.init (label : Nat) : ChainInv label { points := [Point.empty], last := 0, next := 1 } := by
  refine ⟨rfl, rfl, ?_, ?_⟩
  · intro a
    cases a <;> simp [edgesAt, Point.empty]
  · intro p f
    have : slotCount [Point.empty] p f = 0 := by simp [slotCount, allEdges, Point.empty]
    rw [this]
    dsimp only
    split_ifs <;> omega

theorem ChainInv.step {label : Nat} {st : FromPathState} (h : ChainInv label st) (skip : Bool) :
    ChainInv label (fromPathStep label st skip) := by
  unfold fromPathStep
  split_ifs with hs
  · exact h
  · have hl := h.len
    have hlast : st.last < (st.points ++ [Point.empty]).length := by simp; omega
    refine ⟨by simp; omega, by simp [h.next], ?_, ?_⟩
    · intro a
      simp only
      rw [edgesAt_pushEdge, edgesAt_append_empty, edgesAt_append_empty, h.edges, h.edges, h.next]
      by_cases ha : a = st.last
      · subst ha
        rw [if_pos ⟨rfl, hlast⟩, if_neg (Nat.lt_irrefl _), if_pos (by omega)]
        rfl
      · simp only [ha, false_and, if_false]
        by_cases ha2 : a < st.last
        · rw [if_pos ha2, if_pos (by omega)]
        · rw [if_neg ha2, if_neg (by omega)]
    · intro p f
      have c := cntP_pushEdge (pointsTo p f) (st.points ++ [Point.empty]) st.last ⟨st.next, 0, label, 0⟩ hlast
      have hs := h.slot p f
      rw [slotCount_eq] at hs ⊢
      rw [c, cntP_append_empty, h.next, ite_le_succ_and]
      simp only [pointsTo_iff]
      omega

theorem ChainInv.fold {label : Nat} (skips : List Bool) : ∀ {st : FromPathState}, ChainInv label st →
    ChainInv label (skips.foldl (fromPathStep label) st) := by
  induction skips with
  | nil => intro st h; exact h
  | cons s skips ih => intro st h; exact ih (h.step s)

theorem folWf_of_cycle {g : Graph} {label n : Nat} (hn : g.length = n)
    (hedges : ∀ p, p < n → edgesAt g p = [⟨if p + 1 = n then 0 else p + 1, 0, label, 0⟩])
    (hslot : ∀ p f, p < n → slotCount g p f = if f = 0 then 1 else 0) : FolWf g := by
  subst hn
  refine ⟨?_, ?_⟩
  · intro p e he
    have hp := mem_edgesAt_lt he
    rw [hedges p hp, List.mem_singleton] at he
    rw [he]
    dsimp only
    split_ifs <;> omega
  · intro p f hp
    rw [hslot p f hp, hedges p hp]
    simp only [List.length_singleton, Nat.lt_one_iff]

theorem ChainInv.close {label : Nat} {st : FromPathState} (h : ChainInv label st) (closed : Bool) :
    FolWf (if st.last > 0 then
      if closed then
        updEdge st.points.dropLast (st.last - 1) 0 fun e => { e with endIdx := 0 }
      else
        pushEdge st.points st.last { endIdx := 0, fol := 0, label := label, kind := 0 }
    else
      st.points.dropLast) := by
  have hl := h.len
  by_cases hpos : st.last > 0
  · rw [if_pos hpos]
    by_cases hc : closed = true
    · rw [if_pos hc]
      -- the last point goes away, the edge that reached it returns to the start
      have hdrop : ∀ p, p < st.last → edgesAt st.points.dropLast p = [⟨p + 1, 0, label, 0⟩] := fun p hp => by
        rw [edgesAt_dropLast, if_pos (by omega), h.edges, if_pos hp]
      have hold : edgeAt st.points.dropLast (st.last - 1) 0 = some ⟨st.last, 0, label, 0⟩ := by
        unfold edgeAt
        rw [hdrop _ (by omega), show st.last - 1 + 1 = st.last by omega]
        rfl
      have hempty : edgesAt st.points (st.points.length - 1) = [] := by
        rw [h.edges, if_neg (by omega)]
      apply folWf_of_cycle (n := st.last) (by rw [length_updEdge, List.length_dropLast, hl, Nat.add_sub_cancel])
      · intro p hp
        rw [edgesAt_updEdge, List.length_dropLast, hl, hdrop p hp]
        by_cases hpl : p = st.last - 1
        · rw [if_pos ⟨hpl, by omega⟩, hdrop _ (by omega), if_pos (by omega)]
          rfl
        · rw [if_neg fun hh => hpl hh.1, if_neg (by omega)]
      · intro p f hp
        have c := cntP_updEdge (pointsTo p f) st.points.dropLast (st.last - 1) 0 (fun e => { e with endIdx := 0 }) _ hold
        have hs := h.slot p f
        rw [slotCount_eq] at hs ⊢
        rw [cntP_dropLast _ _ hempty] at c
        simp only [pointsTo_iff] at c
        rw [if_neg (fun hh : st.last = p ∧ _ => by omega)] at c
        simp only [Nat.le_of_lt hp, true_and] at hs
        omega
    · rw [if_neg hc]
      have hlast : st.last < st.points.length := by omega
      apply folWf_of_cycle (n := st.last + 1) (by rw [length_pushEdge, hl])
      · intro p hp
        rw [edgesAt_pushEdge]
        by_cases hpl : p = st.last
        · rw [if_pos ⟨hpl, hlast⟩, if_pos (by omega), h.edges, if_neg (Nat.lt_irrefl _)]
          rfl
        · rw [if_neg fun hh => hpl hh.1, if_neg (by omega), h.edges, if_pos (by omega)]
      · intro p f hp
        have c := cntP_pushEdge (pointsTo p f) st.points st.last ⟨0, 0, label, 0⟩ hlast
        have hs := h.slot p f
        rw [slotCount_eq] at hs ⊢
        simp only [pointsTo_iff] at c
        simp only [Nat.le_of_lt_succ hp, true_and] at hs
        omega
  · rw [if_neg hpos]
    have : st.points.dropLast = [] := by
      apply List.eq_nil_of_length_eq_zero; simp; omega
    rw [this]
    exact FolWf.nil

end Model.Graph
