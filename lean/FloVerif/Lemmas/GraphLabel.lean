import FloVerif.Lemmas.GraphCheck
/-! Counts of edge predicates that ignore the two indices (labels, kinds) through the dividing stage and
`combine_overlapping_points`. -/
namespace Model.Graph

/-- number of edges carrying label `l` -/
def labelCount (g : Graph) (l : Nat) : Nat := cntP (fun e => e.label == l) g

theorem cntP_combine {g : Graph} (h : FolWf g) (any : Bool) (accepted : List (Nat × Nat)) {q : Edge → Bool} (hq : IndexBlind q) :
    cntP q (combine g any accepted) = cntP q g := by
  rcases combine_eq h any accepted with he | ⟨st, hinv, he⟩ <;> rw [he]
  rw [cntP_mapPts, ← hinv.cnt]
  refine cntP_congr fun a e _ => ?_
  simp only [Function.comp, retargetEdge]
  split_ifs
  · exact hq e _ _
  · rfl

theorem labelCount_splitEdgeS {g : Graph} (h : FolWf g) (p e : Nat) (qs : List Nat) (hqs : ∀ q ∈ qs, q < g.length) (l : Nat) :
    labelCount (splitEdgeS g p e qs) l = labelCount g l +
      (match edgeAt g p e with | some ed => if ed.label = l then qs.length else 0 | none => 0) := by
  unfold labelCount
  rw [(splitEdgeS_spec h p e qs hqs).2.2 _ fun _ _ _ => rfl]
  cases edgeAt g p e <;> simp only [beq_iff_eq]

section Stage
variable {K : Type} [LT K] [LE K] [DecidableLT K] [DecidableLE K] [OfNat K 0] [OfNat K 1]

theorem splitEdge_cntP_zero {g : Graph} (h : FolWf g) (p e : Nat) (hits : List (K × Nat)) (hh : ∀ x ∈ hits, x.2 < g.length)
    {q : Edge → Bool} (hq : IndexBlind q) (hz : cntP q g = 0) : cntP q (splitEdge g p e hits) = 0 := by
  unfold splitEdge
  rw [(splitEdgeS_spec h _ _ _ (splitEdge_points_lt hits hh)).2.2 q hq, hz]
  cases hed : edgeAt g p e with
  | none => rfl
  | some ed =>
    have : q ed = false := by
      by_contra hqe
      have : 0 < cntP q g :=
        List.countP_pos_iff.mpr ⟨ed, mem_allEdges.mpr ⟨_, mem_edgesAt_of_edgeAt hed⟩, by simpa using hqe⟩
      omega
    simp only [this, Bool.false_eq_true, if_false]

/-- the dividing stage never introduces an edge of a new sort, in particular no label: if no edge satisfied `q` before,
none does afterwards -/
theorem splitStage_cntP_zero {g : Graph} (h : FolWf g) (cs : List (Collision K))
    (hcs : ∀ c ∈ cs, c.p1 < g.length ∧ c.p2 < g.length) {q : Edge → Bool} (hq : IndexBlind q) (hz : cntP q g = 0) :
    cntP q (splitStage g cs) = 0 :=
  (splitStage_inv h cs hcs (fun g' => cntP q g' = 0) hz
    (fun g' hg' => by rw [cntP_append_empty]; exact hg')
    (fun g' p e hits hh hg' => splitEdge_cntP_zero hg'.1 p e hits hh hq hg'.2)).1.2

end Stage

end Model.Graph
