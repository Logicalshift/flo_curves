/-
An instance over ℝ of the hypotheses of C14's `ray_collisions_even` and `collision_on_edge_and_ray`: the rectangle (0,-1)-(1,1)
with straight edges, the ray along the x axis, the exact solver of linear polynomials.  The `example`s are in `Props/C14.lean`.
-/
import FloVerif.Lemmas.RayParity
import FloVerif.Lemmas.RayPipeline
import FloVerif.Lemmas.RayHits
import FloVerif.Lemmas.RayCoeffs
import FloVerif.Lemmas.RaySort
open Prelude Gen C04 Polynomial RaySide Model.Ray RayPipeline RayParity
set_option linter.unusedSectionVars false
namespace RayExample
section
variable [FSqrt ℝ] [FConsts ℝ]
noncomputable local instance : FAbs ℝ := ⟨fun a => |a|⟩
noncomputable local instance : FSignum ℝ := ⟨fun a => if a < 0 then -1 else 1⟩
noncomputable local instance : OfInt ℝ := ⟨fun n => (n : ℝ)⟩

noncomputable def rect : GraphPathM ℝ := { points := [
  { position := ⟨0, -1⟩, forward_edges := [{ cp1 := ⟨0, -1/3⟩, cp2 := ⟨0, 1/3⟩, end_idx := 1, following_edge_idx := 0 }], connected_from := [3] },
  { position := ⟨0, 1⟩, forward_edges := [{ cp1 := ⟨1/3, 1⟩, cp2 := ⟨2/3, 1⟩, end_idx := 2, following_edge_idx := 0 }], connected_from := [0] },
  { position := ⟨1, 1⟩, forward_edges := [{ cp1 := ⟨1, 1/3⟩, cp2 := ⟨1, -1/3⟩, end_idx := 3, following_edge_idx := 0 }], connected_from := [1] },
  { position := ⟨1, -1⟩, forward_edges := [{ cp1 := ⟨2/3, -1⟩, cp2 := ⟨1/3, -1⟩, end_idx := 0, following_edge_idx := 0 }], connected_from := [2] }] }

noncomputable def ray : T2 (V2 ℝ) (V2 ℝ) := T2.mk ⟨-1, 0⟩ ⟨1, 0⟩
noncomputable def solve (p : T4 ℝ ℝ ℝ ℝ) : List ℝ := if p.t2 = 0 then [] else [-p.t3 / p.t2]

theorem edge_refs : allEdgeRefs (rayPathOf rect) = [⟨0, 0, false⟩, ⟨1, 0, false⟩, ⟨2, 0, false⟩, ⟨3, 0, false⟩] := rfl

theorem left_edge : (rayPathOf rect).get_edge ⟨0, 0, false⟩ = T4.mk ⟨0, -1⟩ ⟨0, -1/3⟩ ⟨0, 1/3⟩ ⟨0, 1⟩ := rfl

theorem forall_refs {P : EdgeRef → Prop} (h0 : P ⟨0, 0, false⟩) (h1 : P ⟨1, 0, false⟩) (h2 : P ⟨2, 0, false⟩) (h3 : P ⟨3, 0, false⟩)
    (e : EdgeRef) (he : e ∈ allEdgeRefs (rayPathOf rect)) : P e := by
  rw [edge_refs] at he
  rcases he with _ | ⟨_, _ | ⟨_, _ | ⟨_, _ | ⟨_, he⟩⟩⟩⟩
  exacts [h0, h1, h2, h3, nomatch he]

theorem bal : Balanced (edgeList (rayPathOf rect)) := by
  show Balanced [(0, 1), (1, 2), (2, 3), (3, 0)]
  decide

theorem coeffs_unnormalized_eq : line_coefficients_2d_unnormalized ray = T3.mk 0 1 0 := by
  simp only [ray, line_coefficients_2d_unnormalized, V2.sub_x, V2.sub_y, fabs]; norm_num

theorem coeffs_eq (hs1 : fsqrt (1 : ℝ) = 1) : line_coefficients_2d ray = T3.mk 0 1 0 := by
  simp only [line_coefficients_2d, coeffs_unnormalized_eq]; norm_num [hs1]

theorem nf (hs1 : fsqrt (1 : ℝ) = 1) : RayCoeffs.normFactor ray = 1 := by
  simp only [RayCoeffs.normFactor, coeffs_unnormalized_eq]; norm_num [hs1]

theorem sdist_eq_y (hs1 : fsqrt (1 : ℝ) = 1) (q : V2 ℝ) : sdist (line_coefficients_2d ray) q = q.y := by
  rw [coeffs_eq hs1]; simp only [sdist]; ring

theorem abs_height {y : ℝ} (h : y = 1 ∨ y = -1) : |y| = 1 := by
  rcases h with rfl | rfl <;> norm_num

theorem noncollinear (hs1 : fsqrt (1 : ℝ) = 1) (c : Curve4 ℝ) (h : c.t0.y = 1 ∨ c.t0.y = -1) :
    curve_is_collinear c (line_coefficients_2d ray) = false := by
  apply not_collinear_of_far_start
  rw [sdist_eq_y hs1, abs_height h]
  norm_num [SMALL_DISTANCE]

theorem distPoly_left : distPoly (K := ℝ) ⟨0, -1⟩ ⟨0, -1/3⟩ ⟨0, 1/3⟩ ⟨0, 1⟩ ray = T4.mk 0 0 (-4) 2 := by
  simp only [ray, distPoly, bezier_coefficients, lineA, lineB, lineC]; norm_num
theorem distPoly_top : distPoly (K := ℝ) ⟨0, 1⟩ ⟨1/3, 1⟩ ⟨2/3, 1⟩ ⟨1, 1⟩ ray = T4.mk 0 0 0 (-2) := by
  simp only [ray, distPoly, bezier_coefficients, lineA, lineB, lineC]; norm_num
theorem distPoly_right : distPoly (K := ℝ) ⟨1, 1⟩ ⟨1, 1/3⟩ ⟨1, -1/3⟩ ⟨1, -1⟩ ray = T4.mk 0 0 4 (-2) := by
  simp only [ray, distPoly, bezier_coefficients, lineA, lineB, lineC]; norm_num
theorem distPoly_bottom : distPoly (K := ℝ) ⟨1, -1⟩ ⟨2/3, -1⟩ ⟨1/3, -1⟩ ⟨0, -1⟩ ray = T4.mk 0 0 0 2 := by
  simp only [ray, distPoly, bezier_coefficients, lineA, lineB, lineC]; norm_num

theorem solve_left : solve (T4.mk 0 0 (-4) 2) = [1 / 2] := by simp only [solve]; norm_num
theorem solve_right : solve (T4.mk 0 0 4 (-2)) = [1 / 2] := by simp only [solve]; norm_num
theorem solve_const (d : ℝ) : solve (T4.mk 0 0 0 d) = [] := if_pos rfl

theorem solve_spec (c d : ℝ) (h : c = 0 → d ≠ 0) (r : ℝ) : r ∈ solve (T4.mk 0 0 c d) ↔ polyEval (T4.mk 0 0 c d) r = 0 := by
  simp only [solve, polyEval, zero_mul, zero_add]
  split_ifs with hc
  · simp [hc, h hc]
  · rw [List.mem_singleton, eq_div_iff hc, eq_neg_iff_add_eq_zero, mul_comm]

theorem solve_nodup (p : T4 ℝ ℝ ℝ ℝ) : (solve p).Nodup := by
  unfold solve
  split_ifs
  exacts [List.nodup_nil, List.nodup_singleton _]

theorem linear_nodup (c d : ℝ) : (RayHits.toPoly (T4.mk 0 0 c d)).roots.Nodup := by
  have : RayHits.toPoly (T4.mk (0 : ℝ) 0 c d) = C c * X + C d := by simp [RayHits.toPoly]
  rw [this, Multiset.nodup_iff_count_le_one]
  intro a
  calc Multiset.count a (C c * X + C d).roots ≤ Multiset.card (C c * X + C d).roots := Multiset.count_le_card _ _
    _ ≤ (C c * X + C d).natDegree := card_roots' _
    _ ≤ 1 := natDegree_linear_le

theorem nosnap (hs4 : fsqrt (4 : ℝ) = 2) (a b : V2 ℝ) (ha : a.y = 1 ∨ a.y = -1) (hb : b.y = 1 ∨ b.y = -1) : RayHits.NoSnap a b ray := by
  -- the distance `curve_intersects_ray` measures is minus the height
  have key (w : V2 ℝ) (hw : w.y = 1 ∨ w.y = -1) : RayHits.NoSnap w w ray := by
    have h4 : lineA ray * lineA ray + lineB ray * lineB ray = 4 := by simp only [ray, lineA, lineB]; norm_num
    have hd : w.x * (lineA ray / 2) + w.y * (lineB ray / 2) + lineC ray / 2 = -w.y := by simp only [ray, lineA, lineB, lineC]; ring
    unfold RayHits.NoSnap
    rw [h4, hs4, hd, abs_neg, abs_height hw]
    norm_num [SMALL_DISTANCE]
  exact ⟨(key a ha).1, (key b hb).2⟩

theorem edge_facts (e : EdgeRef) (he : e ∈ allEdgeRefs (rayPathOf rect)) :
    (((rayPathOf rect).get_edge e).t0.y = 1 ∨ ((rayPathOf rect).get_edge e).t0.y = -1) ∧
    (((rayPathOf rect).get_edge e).t3.y = 1 ∨ ((rayPathOf rect).get_edge e).t3.y = -1) ∧
    ∃ c d : ℝ, distPoly ((rayPathOf rect).get_edge e).t0 ((rayPathOf rect).get_edge e).t1 ((rayPathOf rect).get_edge e).t2
        ((rayPathOf rect).get_edge e).t3 ray = T4.mk 0 0 c d ∧ (c = 0 → d ≠ 0) ∧
      ∀ r ∈ solve (T4.mk 0 0 c d), r = 1 / 2 ∧ (e = ⟨0, 0, false⟩ ∨ e = ⟨2, 0, false⟩) := by
  revert e
  refine forall_refs ?_ ?_ ?_ ?_
  · exact ⟨Or.inr rfl, Or.inl rfl, -4, 2, distPoly_left, by norm_num, fun r hr => ⟨List.mem_singleton.1 (solve_left ▸ hr), Or.inl rfl⟩⟩
  · exact ⟨Or.inl rfl, Or.inl rfl, 0, -2, distPoly_top, by norm_num, fun r hr => absurd (solve_const _ ▸ hr) List.not_mem_nil⟩
  · exact ⟨Or.inl rfl, Or.inr rfl, 4, -2, distPoly_right, by norm_num, fun r hr => ⟨List.mem_singleton.1 (solve_right ▸ hr), Or.inr rfl⟩⟩
  · exact ⟨Or.inr rfl, Or.inr rfl, 0, 2, distPoly_bottom, by norm_num, fun r hr => absurd (solve_const _ ▸ hr) List.not_mem_nil⟩

theorem off (hs1 : fsqrt (1 : ℝ) = 1) (e : EdgeRef) (he : e ∈ allEdgeRefs (rayPathOf rect)) :
    sdist (line_coefficients_2d ray) ((rayPathOf rect).get_edge e).t0 ≠ 0 ∧ sdist (line_coefficients_2d ray) ((rayPathOf rect).get_edge e).t3 ≠ 0 := by
  obtain ⟨h0, h3, _⟩ := edge_facts e he
  simp only [sdist_eq_y hs1, ← abs_pos, abs_height h0, abs_height h3, zero_lt_one, and_self]

theorem nosnap_all (hs4 : fsqrt (4 : ℝ) = 2) (e : EdgeRef) (he : e ∈ allEdgeRefs (rayPathOf rect)) :
    RayHits.NoSnap ((rayPathOf rect).get_edge e).t0 ((rayPathOf rect).get_edge e).t3 ray :=
  nosnap hs4 _ _ (edge_facts e he).1 (edge_facts e he).2.1

theorem solve_all (e : EdgeRef) (he : e ∈ allEdgeRefs (rayPathOf rect)) (r : ℝ) :
    r ∈ solve (distPoly ((rayPathOf rect).get_edge e).t0 ((rayPathOf rect).get_edge e).t1 ((rayPathOf rect).get_edge e).t2
        ((rayPathOf rect).get_edge e).t3 ray) ↔
      polyEval (distPoly ((rayPathOf rect).get_edge e).t0 ((rayPathOf rect).get_edge e).t1 ((rayPathOf rect).get_edge e).t2
        ((rayPathOf rect).get_edge e).t3 ray) r = 0 := by
  obtain ⟨_, _, c, d, hp, hcd, _⟩ := edge_facts e he
  rw [hp]
  exact solve_spec c d hcd r

set_option linter.unusedVariables false in
theorem nodup_all (e : EdgeRef) (he : e ∈ allEdgeRefs (rayPathOf rect)) :
    (solve (distPoly ((rayPathOf rect).get_edge e).t0 ((rayPathOf rect).get_edge e).t1 ((rayPathOf rect).get_edge e).t2
        ((rayPathOf rect).get_edge e).t3 ray)).Nodup := solve_nodup _

theorem simple_all (e : EdgeRef) (he : e ∈ allEdgeRefs (rayPathOf rect)) :
    (RayHits.toPoly (distPoly ((rayPathOf rect).get_edge e).t0 ((rayPathOf rect).get_edge e).t1 ((rayPathOf rect).get_edge e).t2
        ((rayPathOf rect).get_edge e).t3 ray)).roots.Nodup := by
  obtain ⟨_, _, c, d, hp, _⟩ := edge_facts e he
  rw [hp]
  exact linear_nodup c d

theorem ray_not_point : lineA ray ≠ 0 ∨ lineB ray ≠ 0 := by
  right; simp only [ray, lineB]; norm_num

theorem hit_half (hs4 : fsqrt (4 : ℝ) = 2) (e : EdgeRef) (he : e ∈ allEdgeRefs (rayPathOf rect)) (h : T3 ℝ ℝ (V2 ℝ))
    (hh : h ∈ RayHits.cirOf solve (rayPathOf rect) ray e) : h.t0 = 1 / 2 ∧ (e = ⟨0, 0, false⟩ ∨ e = ⟨2, 0, false⟩) := by
  have hroot := (RayHits.hit_t_eq_root solve _ _ _ _ ray (nosnap_all hs4 e he) (fun r => (solve_all e he r).1) h hh).1
  obtain ⟨_, _, c, d, hp, _, hs⟩ := edge_facts e he
  rw [hp] at hroot
  exact hs _ hroot

theorem unit_coord_zero (v : V2 ℝ) : (v.x = 0 → (to_unit_vector v).x = 0) ∧ (v.y = 0 → (to_unit_vector v).y = 0) := by
  simp only [to_unit_vector]
  split_ifs
  · exact ⟨fun _ => lit0, fun _ => lit0⟩
  · exact ⟨fun h => by rw [V2.mul_x, h, zero_mul], fun h => by rw [V2.mul_y, h, zero_mul]⟩

/-- the unit vectors of a horizontal and a vertical vector are perpendicular -/
theorem dot_unit_zero (u v : V2 ℝ) (hu : u.y = 0) (hv : v.x = 0) : dot (to_unit_vector u) (to_unit_vector v) = 0 := by
  show (0.0 : ℝ) + _ * _ + _ * _ = 0
  rw [(unit_coord_zero _).2 hu, (unit_coord_zero _).1 hv, lit0, mul_zero, zero_mul, add_zero, add_zero]

theorem keep_of_horizontal_vertical (path : RayPathI ℝ) (ray : T2 (V2 ℝ) (V2 ℝ)) (x : Hit ℝ)
    (hr : (line_point_at_pos ray 1 - line_point_at_pos ray 0).y = 0) (ht : (ray_tangent_at_pos (path.get_edge x.t0) x.t1).x = 0) :
    remove_tangent_collisions path ray [x] = [x] := by
  rw [tangent_keep_iff, dot_unit_zero _ _ hr ht, abs_zero]
  norm_num

theorem tangent_x_zero (c : Curve4 ℝ) (t : ℝ) (h1 : c.t1.x = c.t0.x) (h2 : c.t2.x = c.t1.x) (h3 : c.t3.x = c.t2.x) :
    (ray_tangent_at_pos c t).x = 0 := by
  simp only [ray_tangent_at_pos, derivative4, de_casteljau3, de_casteljau2, V2.add_x, V2.mul_x,
    V2.sub_x, h1, h2, h3, sub_self, zero_mul, add_zero]

theorem not_at_vertex_of_mid (path : RayPathI ℝ) (e : EdgeRef) (t : ℝ) (p : V2 ℝ) (h0 : 0.1 < t) (h1 : t < 0.9) :
    collision_is_at_start path e t p = false ∧ collision_is_at_end path e t p = false := by
  unfold collision_is_at_start collision_is_at_end
  simp [h0, h1]

theorem precondition (hs1 : fsqrt (1 : ℝ) = 1) (hs4 : fsqrt (4 : ℝ) = 2) :
    RayPipeline.Precondition (rayPathOf rect) ray (RayHits.cirOf solve (rayPathOf rect) ray) where
  ends := fun e he => rayPathOf_ends rect e (allEdgeRefs_reverse_false _ e he)
  not_collinear := fun e he => noncollinear hs1 _ (edge_facts e he).1
  -- the one edge leaving the end point of edge `i` is edge `i + 1`, the one edge arriving at its start point is edge `i - 1`
  not_collinear_next := forall_refs
    (List.forall_mem_singleton.2 (noncollinear hs1 _ (Or.inl rfl))) (List.forall_mem_singleton.2 (noncollinear hs1 _ (Or.inl rfl)))
    (List.forall_mem_singleton.2 (noncollinear hs1 _ (Or.inr rfl))) (List.forall_mem_singleton.2 (noncollinear hs1 _ (Or.inr rfl)))
  not_collinear_prev := forall_refs
    (List.forall_mem_singleton.2 (noncollinear hs1 _ (Or.inr rfl))) (List.forall_mem_singleton.2 (noncollinear hs1 _ (Or.inl rfl)))
    (List.forall_mem_singleton.2 (noncollinear hs1 _ (Or.inl rfl))) (List.forall_mem_singleton.2 (noncollinear hs1 _ (Or.inr rfl)))
  not_at_vertex := by
    intro e he h hh
    rw [(hit_half hs4 e he h hh).1]
    exact not_at_vertex_of_mid _ _ _ _ (by norm_num) (by norm_num)
  not_tangent := by
    intro e he h hh
    have hr : (line_point_at_pos ray 1 - line_point_at_pos ray 0).y = 0 := by
      simp only [ray, line_point_at_pos, V2.sub_y, V2.add_y, V2.mul_y]; norm_num
    rcases (hit_half hs4 e he h hh).2 with rfl | rfl
    exacts [keep_of_horizontal_vertical _ _ _ hr (tangent_x_zero _ _ rfl rfl rfl),
      keep_of_horizontal_vertical _ _ _ hr (tangent_x_zero _ _ rfl rfl rfl)]

/-- the crossing of the left edge at parameter 1/2 -/
theorem has_collision (hs1 : fsqrt (1 : ℝ) = 1) (hs4 : fsqrt (4 : ℝ) = 2) :
    ∃ c, c ∈ ray_collisions (rayPathOf rect) ray (RayHits.cirOf solve (rayPathOf rect) ray) := by
  obtain ⟨h, hh, _, _⟩ := hit_complete solve ⟨0, -1⟩ ⟨0, -1/3⟩ ⟨0, 1/3⟩ ⟨0, 1⟩ ray ray_not_point
    (by intro t ht; rw [distPoly_left] at ht ⊢; exact (solve_spec _ _ (by norm_num) t).2 ht)
    (1 / 2) (by norm_num) (by norm_num)
    (by rw [← poly_is_signed_distance, distPoly_left]; simp only [polyEval]; norm_num)
  have hside : ray_can_intersect ((rayPathOf rect).get_edge ⟨0, 0, false⟩) (line_coefficients_2d ray) = RayCanIntersect.CrossesRay := by
    rw [rci_unfold, left_edge]
    simp only [sdist_eq_y hs1, SMALL_DISTANCE, fsignum]
    norm_num [abs_of_pos]
  have hraw : mkHit ⟨0, 0, false⟩ h ∈ (allEdgeRefs (rayPathOf rect)).flatMap (rawOf (rayPathOf rect) (line_coefficients_2d ray)
      (RayHits.cirOf solve (rayPathOf rect) ray)) := by
    rw [List.mem_flatMap]
    refine ⟨⟨0, 0, false⟩, List.mem_cons_self, ?_⟩
    unfold rawOf
    rw [if_pos hside, List.mem_map]
    exact ⟨h, hh, rfl⟩
  refine ⟨flagOne (rayPathOf rect) (mkHit ⟨0, 0, false⟩ h), ?_⟩
  unfold ray_collisions
  rw [RaySort.mem_sortBy, unsorted_inert _ _ _ (precondition hs1 hs4), flag_eq_map, List.mem_map]
  exact ⟨_, hraw, rfl⟩
end
end RayExample
