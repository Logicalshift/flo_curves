/-
Helper lemma for C14: the normalised coefficients the side test works with (`Line2D::coefficients`, i.e.
`line_coefficients_2d`) and the unnormalised ones `curve_intersects_ray` computes for itself describe the same line:
the two signed distances differ by a non-zero constant factor.
-/
import FloVerif.Props.C04
import FloVerif.Lemmas.RaySide
import FloVerif.Lemmas.Basics

set_option linter.unusedSectionVars false
namespace RayCoeffs
open Prelude Gen C04 RaySide

variable {K : Type} [Field K] [LinearOrder K] [IsStrictOrderedRing K] [Inhabited K] [FSqrt K] [FConsts K]

local instance : FAbs K := ⟨fun a => |a|⟩
local instance : FSignum K := ⟨fun a => if a < 0 then -1 else 1⟩
local instance : OfInt K := ⟨fun n => (n : K)⟩

theorem exists_scale (A B C k : K) (hk : k ≠ 0) (s : Prop) [Decidable s] (a b c : K) (ha : a = k * A) (hb : b = k * B)
    (hc : c = k * C) :
    ∃ k' : K, k' ≠ 0 ∧ (if s then T3.mk (-a) (-b) (-c) else T3.mk a b c) = T3.mk (k' * A) (k' * B) (k' * C) := by
  subst ha hb hc
  split_ifs
  · exact ⟨-k, neg_ne_zero.2 hk, by rw [neg_mul, neg_mul, neg_mul]⟩
  · exact ⟨k, hk, rfl⟩

theorem unnormalized_proportional (l : T2 (V2 K) (V2 K)) (hne : lineA l ≠ 0 ∨ lineB l ≠ 0) :
    ∃ k : K, k ≠ 0 ∧ line_coefficients_2d_unnormalized l = T3.mk (k * lineA l) (k * lineB l) (k * lineC l) := by
  have hpt : ¬ (l.t1.x - l.t0.x = 0 ∧ l.t1.y - l.t0.y = 0) := fun ⟨hx, hy⟩ =>
    hne.elim (fun h => h hy) fun h => h (by rw [lineB, ← neg_sub, hx, neg_zero])
  have hC : lineC l = -(lineA l * l.t0.x + lineB l * l.t0.y) := by simp only [lineA, lineB, lineC]; ring
  simp only [line_coefficients_2d_unnormalized, V2.sub_x, V2.sub_y, Prelude.lit0, Prelude.lit1, fabs, Bool.and_eq_true, beq_iff_eq,
    decide_eq_true_eq, hpt, if_false]
  -- the larger of `|dx|`, `|dy|` is not zero; the triple is `(A, B, C)` divided by it, up to sign
  by_cases hc : |l.t1.x - l.t0.x| > |l.t1.y - l.t0.y|
  · have hdx : l.t1.x - l.t0.x ≠ 0 := abs_pos.1 (lt_of_le_of_lt (abs_nonneg _) hc)
    have ha : (l.t1.y - l.t0.y) / (l.t1.x - l.t0.x) = (l.t1.x - l.t0.x)⁻¹ * lineA l := div_eq_inv_mul _ _
    have hb : (-1 : K) = (l.t1.x - l.t0.x)⁻¹ * lineB l := by
      rw [lineB, ← neg_sub l.t1.x l.t0.x, mul_neg, inv_mul_cancel₀ hdx]
    rw [if_pos hc]
    exact exists_scale _ _ _ _ (inv_ne_zero hdx) _ _ _ _ ha hb (by rw [ha, hb, hC]; ring)
  · have hdy : l.t1.y - l.t0.y ≠ 0 := fun e =>
      hpt ⟨abs_eq_zero.1 (le_antisymm (by rw [e, abs_zero] at hc; exact not_lt.1 hc) (abs_nonneg _)), e⟩
    have ha : (-1 : K) = -(l.t1.y - l.t0.y)⁻¹ * lineA l := by rw [lineA, neg_mul, inv_mul_cancel₀ hdy]
    have hb : (l.t1.x - l.t0.x) / (l.t1.y - l.t0.y) = -(l.t1.y - l.t0.y)⁻¹ * lineB l := by
      rw [lineB, ← neg_sub l.t1.x l.t0.x, neg_mul_neg, div_eq_inv_mul]
    rw [if_neg hc]
    exact exists_scale _ _ _ _ (neg_ne_zero.2 (inv_ne_zero hdy)) _ _ _ _ ha hb (by rw [ha, hb, hC]; ring)

/-- the normalisation factor `line_coefficients_2d` divides by -/
def normFactor (l : T2 (V2 K) (V2 K)) : K :=
  fsqrt ((line_coefficients_2d_unnormalized l).t0 * (line_coefficients_2d_unnormalized l).t0 +
    (line_coefficients_2d_unnormalized l).t1 * (line_coefficients_2d_unnormalized l).t1)

/-- the distance the side test measures is a non-zero multiple of the distance whose cubic the solver is given -/
theorem side_dist_proportional (l : T2 (V2 K) (V2 K)) (hne : lineA l ≠ 0 ∨ lineB l ≠ 0) (hf : normFactor l ≠ 0) :
    ∃ k : K, k ≠ 0 ∧ ∀ q : V2 K, sdist (line_coefficients_2d l) q = k * lineDist l q := by
  obtain ⟨k, hk, hu⟩ := unnormalized_proportional l hne
  have hf' : ¬ (normFactor l == 0) = true := by simpa using hf
  refine ⟨k / normFactor l, div_ne_zero hk hf, ?_⟩
  intro q
  have : line_coefficients_2d l = T3.mk ((line_coefficients_2d_unnormalized l).t0 / normFactor l)
      ((line_coefficients_2d_unnormalized l).t1 / normFactor l) ((line_coefficients_2d_unnormalized l).t2 / normFactor l) := by
    simp only [line_coefficients_2d, Prelude.lit0]
    unfold normFactor at hf'
    simp only [hf', Bool.false_eq_true, if_false]
    rfl
  rw [this, hu]
  simp only [sdist, lineDist]
  ring

end RayCoeffs
