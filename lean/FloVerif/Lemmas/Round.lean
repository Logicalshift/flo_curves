/-
Lemmas for C17Round: the rounding stage `rounded_intercepts_on_line` / `merge_overlapping_intercepts` (`roundFrac`,
`ceilRuns`, `mergeRuns` of `Model/Contour.lean`).  A ceiling compares with an integer position as the number itself does, so
rounding is sampling.  The contract of `intercepts_on_line` (`Ascending`) and its integer image (`AscN`) are `Pairwise`
statements, which `map` and `filter` keep; the image is a staircase (`Stair`), on which `mergeRuns` keeps the covered samples
and produces a `Good` list.  A `Good` list is determined by the samples it covers, hence `roundFrac` is the run-length
encoding of the sampled row.
-/
import FloVerif.Lemmas.Scan
import Mathlib.Data.Rat.Floor

namespace RoundLemmas
open Prelude Gen Model.Contour ScanLemmas

theorem ceilUsize_le (q : Rat) (x : Nat) : ceilUsize q ≤ x ↔ q ≤ (x : Rat) := by
  unfold ceilUsize
  rw [Int.toNat_le, Rat.ceil_le_iff]
  simp

theorem lt_ceilUsize (q : Rat) (x : Nat) : x < ceilUsize q ↔ (x : Rat) < q := by
  rw [← Nat.not_le, ceilUsize_le, not_le]

theorem ceilUsize_mono {a b : Rat} (h : a ≤ b) : ceilUsize a ≤ ceilUsize b := by
  rw [ceilUsize_le]
  exact le_trans h ((ceilUsize_le b _).1 (Nat.le_refl _))

/-- the documented contract of `SampledContour::intercepts_on_line`: "ascending order, not overlapping", i.e.
    `s₀ ≤ e₀ ≤ s₁ ≤ e₁ ≤ …` -/
def Ascending : List FRange → Prop
  | [] => True
  | [a] => a.1 ≤ a.2
  | a :: b :: rest => a.1 ≤ a.2 ∧ a.2 ≤ b.1 ∧ Ascending (b :: rest)

/-- the same for integer runs -/
def AscN : List Run → Prop
  | [] => True
  | [a] => a.1 ≤ a.2
  | a :: b :: rest => a.1 ≤ a.2 ∧ a.2 ≤ b.1 ∧ AscN (b :: rest)

/-- the weaker shape that is enough for `mergeRuns`: starts non-decreasing, ends non-decreasing, no run inverted
    (runs may overlap, but none is nested inside an earlier one) -/
def Stair : List Run → Prop
  | [] => True
  | [a] => a.1 ≤ a.2
  | a :: b :: rest => a.1 ≤ a.2 ∧ a.1 ≤ b.1 ∧ a.2 ≤ b.2 ∧ Stair (b :: rest)

def Ascending.dec : (l : List FRange) → Decidable (Ascending l)
  | [] => isTrue trivial
  | [a] => (inferInstance : Decidable (a.1 ≤ a.2))
  | a :: b :: rest =>
    have := Ascending.dec (b :: rest)
    (inferInstance : Decidable (a.1 ≤ a.2 ∧ a.2 ≤ b.1 ∧ Ascending (b :: rest)))
instance (l : List FRange) : Decidable (Ascending l) := Ascending.dec l

def AscN.dec : (l : List Run) → Decidable (AscN l)
  | [] => isTrue trivial
  | [a] => (inferInstance : Decidable (a.1 ≤ a.2))
  | a :: b :: rest =>
    have := AscN.dec (b :: rest)
    (inferInstance : Decidable (a.1 ≤ a.2 ∧ a.2 ≤ b.1 ∧ AscN (b :: rest)))
instance (l : List Run) : Decidable (AscN l) := AscN.dec l

def Stair.dec : (l : List Run) → Decidable (Stair l)
  | [] => isTrue trivial
  | [a] => (inferInstance : Decidable (a.1 ≤ a.2))
  | a :: b :: rest =>
    have := Stair.dec (b :: rest)
    (inferInstance : Decidable (a.1 ≤ a.2 ∧ a.1 ≤ b.1 ∧ a.2 ≤ b.2 ∧ Stair (b :: rest)))
instance (l : List Run) : Decidable (Stair l) := Stair.dec l

theorem Ascending.pairwise : ∀ {l : List FRange}, Ascending l →
    (∀ q ∈ l, q.1 ≤ q.2) ∧ l.Pairwise (fun a b => a.2 ≤ b.1)
  | [], _ => ⟨nofun, .nil⟩
  | [a], h => ⟨List.forall_mem_singleton.2 h, List.pairwise_singleton _ _⟩
  | a :: b :: rest, ⟨h1, h2, h3⟩ => by
    obtain ⟨ih1, ih2⟩ := Ascending.pairwise h3
    refine ⟨List.forall_mem_cons.2 ⟨h1, ih1⟩, List.pairwise_cons.2 ⟨fun c hc => ?_, ih2⟩⟩
    rcases List.mem_cons.1 hc with rfl | hc
    · exact h2
    · exact le_trans h2 (le_trans (ih1 b List.mem_cons_self) ((List.pairwise_cons.1 ih2).1 c hc))

theorem ascN_iff : ∀ {l : List Run}, AscN l ↔ (∀ r ∈ l, r.1 ≤ r.2) ∧ l.Pairwise (fun a b => a.2 ≤ b.1)
  | [] => by simp [AscN]
  | [a] => by simp [AscN]
  | a :: b :: rest => by
    rw [AscN, ascN_iff (l := b :: rest), List.pairwise_cons (a := a), List.forall_mem_cons (a := a)]
    refine ⟨fun ⟨h1, h2, h3, h4⟩ => ⟨⟨h1, h3⟩, fun c hc => ?_, h4⟩,
      fun ⟨⟨h1, h3⟩, h2, h4⟩ => ⟨h1, h2 b List.mem_cons_self, h3, h4⟩⟩
    rcases List.mem_cons.1 hc with rfl | hc
    · exact h2
    · exact Nat.le_trans h2 (Nat.le_trans (h3 b List.mem_cons_self) ((List.pairwise_cons.1 h4).1 c hc))

theorem AscN.pairwise : ∀ {l : List Run}, AscN l → l.Pairwise (fun a b => a.2 ≤ b.1 ∧ a.2 ≤ b.2)
  | _, h => (ascN_iff.1 h).2.imp_of_mem fun _ hb hab => ⟨hab, Nat.le_trans hab ((ascN_iff.1 h).1 _ hb)⟩

theorem AscN.stair : ∀ {l : List Run}, AscN l → Stair l
  | [], _ => trivial
  | [_], h => h
  | a :: b :: rest, h => by
    have hb : b.1 ≤ b.2 := (ascN_iff.1 h.2.2).1 b List.mem_cons_self
    exact ⟨h.1, Nat.le_trans h.1 h.2.1, Nat.le_trans h.2.1 hb, AscN.stair h.2.2⟩

theorem mem_ceilRuns {l : List FRange} {r : Run} (h : r ∈ ceilRuns l) :
    r.1 ≠ r.2 ∧ ∃ q ∈ l, r = (ceilUsize q.1, ceilUsize q.2) := by
  unfold ceilRuns at h
  obtain ⟨h1, h2⟩ := List.mem_filter.1 h
  obtain ⟨q, hq, rfl⟩ := List.mem_map.1 h1
  exact ⟨by simpa using h2, q, hq, rfl⟩

theorem ceilRuns_ascN {l : List FRange} (h : Ascending l) : AscN (ceilRuns l) := by
  obtain ⟨h1, h2⟩ := h.pairwise
  have h3 : (l.map fun r => (ceilUsize r.1, ceilUsize r.2)).Pairwise (fun a b : Run => a.2 ≤ b.1) :=
    h2.map _ fun _ _ hab => ceilUsize_mono hab
  refine ascN_iff.2 ⟨fun r hr => ?_, h3.filter _⟩
  obtain ⟨-, q, hq, rfl⟩ := mem_ceilRuns hr
  exact ceilUsize_mono (h1 q hq)

theorem inR_ceilRuns (l : List FRange) (x : Nat) : inR (ceilRuns l) x = covers l x := by
  unfold inR covers ceilRuns
  rw [List.any_filter, List.any_map]
  congr 1
  funext q
  have e1 : decide (q.1 ≤ (x : Rat)) = decide (ceilUsize q.1 ≤ x) := decide_eq_decide.2 (ceilUsize_le _ _).symm
  have e2 : decide ((x : Rat) < q.2) = decide (x < ceilUsize q.2) := decide_eq_decide.2 (lt_ceilUsize _ _).symm
  rw [e1, e2]
  -- a range whose two ceilings agree covers no sample
  by_cases hq : ceilUsize q.1 = ceilUsize q.2 <;> simp [hq]

theorem Stair.head {a : Run} {l : List Run} (h : Stair (a :: l)) : a.1 ≤ a.2 := by
  cases l with
  | nil => exact h
  | cons b rest => exact h.1

theorem Stair.merge {a b : Run} {rest : List Run} (h : Stair (a :: b :: rest)) : Stair ((a.1, b.2) :: rest) := by
  obtain ⟨-, h2, -, h4⟩ := h
  have hab : a.1 ≤ b.2 := Nat.le_trans h2 h4.head
  cases rest with
  | nil => exact hab
  | cons c rest' => exact ⟨hab, Nat.le_trans h2 h4.2.1, h4.2.2.1, h4.2.2.2⟩

theorem mergeRuns_inR (l : List Run) (hs : Stair l) (x : Nat) : inR (mergeRuns l) x = inR l x := by
  induction l using mergeRuns.induct with
  | case1 a b rest hge ih =>
    have hb : b.1 ≤ b.2 := hs.2.2.2.head
    have h1 := hs.1; have h2 := hs.2.1; have h3 := hs.2.2.1
    rw [mergeRuns.eq_1, if_pos hge, ih hs.merge, inR_cons, inR_cons, inR_cons, ← Bool.or_assoc]
    congr 1
    simp only [← Bool.decide_and, ← Bool.decide_or]
    exact decide_eq_decide.2 (by omega)
  | case2 a b rest hlt ih => rw [mergeRuns.eq_1, if_neg hlt, inR_cons, inR_cons (l := b :: rest), ih hs.2.2.2]
  | case3 l hl => rw [mergeRuns.eq_2 l hl]

theorem mergeRuns_good {w : Nat} (l : List Run) (hs : Stair l) (hne : ∀ r ∈ l, r.1 < r.2 ∧ r.2 ≤ w) (a : Nat)
    (ha : ∀ u ∈ l.head?, a ≤ u.1) : Good w a (mergeRuns l) := by
  induction l using mergeRuns.induct generalizing a with
  | case1 u v rest hge ih =>
    rw [mergeRuns.eq_1, if_pos hge]
    refine ih hs.merge (fun r hr => ?_) a (fun p hp => Option.some.inj hp ▸ ha u rfl)
    rcases List.mem_cons.1 hr with rfl | hr
    · exact ⟨Nat.lt_of_lt_of_le (hne u (by simp)).1 hs.2.2.1, (hne v (by simp)).2⟩
    · exact hne r (by simp [hr])
  | case2 u v rest hlt ih =>
    rw [mergeRuns.eq_1, if_neg hlt]
    have hu := hne u (by simp)
    exact ⟨ha u rfl, hu.1, hu.2, ih hs.2.2.2 (fun r hr => hne r (List.mem_cons_of_mem _ hr)) _
      (fun p hp => Option.some.inj hp ▸ Nat.lt_of_not_le hlt)⟩
  | case3 l hl =>
    rw [mergeRuns.eq_2 l hl]
    match l, hl with
    | [], _ => trivial
    | [u], _ => exact ⟨ha u rfl, (hne u (by simp)).1, (hne u (by simp)).2, trivial⟩
    | u :: v :: rest, hl => exact absurd rfl (hl u v rest)

/-- of two good lists covering the same samples the second does not start later, and if they start together does
    not end earlier: the first covered sample and the first uncovered one after it are the same -/
theorem good_head_le {w a b : Nat} {u v : Run} {t s : List Run} (g1 : Good w a (u :: t)) (g2 : Good w b (v :: s))
    (h : ∀ x, inR (u :: t) x = inR (v :: s) x) : v.1 ≤ u.1 ∧ (u.1 = v.1 → u.2 ≤ v.2) := by
  refine ⟨Nat.le_of_not_lt fun hlt => ?_, fun h1 => Nat.le_of_not_lt fun hlt => ?_⟩
  · have e := h u.1
    rw [g1.inR_start, g2.raise_head.inR_false hlt] at e
    cases e
  · have e := h v.2
    have := g2.2.1
    rw [g2.inR_head (Nat.le_refl _), g1.inR_head (Nat.le_of_lt hlt), decide_eq_true (by omega : u.1 ≤ v.2),
      decide_eq_true hlt, decide_eq_false (Nat.lt_irrefl _), Bool.and_false] at e
    cases e

theorem good_eq_of_inR {w : Nat} : ∀ {l₁ l₂ : List Run} {a b : Nat}, Good w a l₁ → Good w b l₂ →
    (∀ x, inR l₁ x = inR l₂ x) → l₁ = l₂
  | [], [], _, _, _, _, _ => rfl
  | [], v :: s, _, _, _, g2, h => by
    have := h v.1
    rw [g2.inR_start] at this
    cases this
  | u :: t, [], _, _, g1, _, h => by
    have := h u.1
    rw [g1.inR_start] at this
    cases this
  | u :: t, v :: s, a, b, g1, g2, h => by
    obtain ⟨h1, h2⟩ := good_head_le g1 g2 h
    obtain ⟨h1', h2'⟩ := good_head_le g2 g1 (fun x => (h x).symm)
    have h1 : u.1 = v.1 := Nat.le_antisymm h1' h1
    have huv : u = v := Prod.ext h1 (Nat.le_antisymm (h2 h1) (h2' h1.symm))
    subst huv
    have ht : ∀ x, inR t x = inR s x := by
      intro x
      by_cases hx : u.2 < x
      · have := h x
        rwa [inR_cons_after hx, inR_cons_after hx] at this
      · rw [g1.tail.inR_false (by omega), g2.tail.inR_false (by omega)]
    rw [good_eq_of_inR g1.tail g2.tail ht]

theorem roundFrac_eq_merge (l : List FRange) : roundFrac l = mergeRuns (ceilRuns l) := by
  show (if (ceilRuns l).length ≤ 1 then ceilRuns l else mergeRuns (ceilRuns l)) = _
  split_ifs with h
  · rw [mergeRuns_short h]
  · rfl

theorem ceilRuns_lt {l : List FRange} (h : Ascending l) : ∀ r ∈ ceilRuns l, r.1 < r.2 := by
  intro r hr
  obtain ⟨hne, q, hq, rfl⟩ := mem_ceilRuns hr
  have := ceilUsize_mono (h.pairwise.1 q hq)
  simp only at hne ⊢; omega

theorem roundFrac_good {l : List FRange} (h : Ascending l) {w : Nat} (hw : ∀ q ∈ l, q.2 ≤ (w : Rat)) :
    Good w 0 (roundFrac l) := by
  rw [roundFrac_eq_merge]
  refine mergeRuns_good _ (ceilRuns_ascN h).stair (fun r hr => ⟨ceilRuns_lt h r hr, ?_⟩) 0 (fun _ _ => Nat.zero_le _)
  obtain ⟨-, q, hq, rfl⟩ := mem_ceilRuns hr
  exact (ceilUsize_le _ _).2 (hw q hq)

theorem inR_roundFrac {l : List FRange} (h : Ascending l) (x : Nat) : inR (roundFrac l) x = covers l x := by
  rw [roundFrac_eq_merge, mergeRuns_inR _ (ceilRuns_ascN h).stair, inR_ceilRuns]

theorem length_sampleRow (w : Nat) (l : List FRange) : (sampleRow w l).length = w := by
  simp [sampleRow]

/-- for the sampled rows of a contour and the rows of the two bitmap types -/
theorem length_of_mem_rows {α : Type} {w : Nat} {l : List α} (g : α → Nat → Bool) :
    ∀ r ∈ l.map (fun a => (List.range w).map (g a)), r.length = w := by
  intro r hr
  obtain ⟨a, _, rfl⟩ := List.mem_map.1 hr
  rw [List.length_map, List.length_range]

theorem getD_range_map {α} (n : Nat) (f : Nat → α) (d : α) {i : Nat} (hi : i < n) :
    ((List.range n).map f).getD i d = f i := by
  rw [List.getD_eq_getElem?_getD, List.getElem?_map, List.getElem?_range hi]
  rfl

theorem covers_false_of_ge {l : List FRange} {w : Nat} (hw : ∀ q ∈ l, q.2 ≤ (w : Rat)) {x : Nat} (hx : w ≤ x) :
    covers l x = false := by
  unfold covers
  rw [List.any_eq_false]
  intro q hq
  have h1 := hw q hq
  have h2 : (w : Rat) ≤ (x : Rat) := by exact_mod_cast hx
  have : ¬ ((x : Rat) < q.2) := not_lt.2 (le_trans h1 h2)
  simp [this]

theorem getD_sampleRow {w : Nat} {l : List FRange} (hw : ∀ q ∈ l, q.2 ≤ (w : Rat)) (x : Nat) :
    (sampleRow w l).getD x false = covers l x := by
  unfold sampleRow
  by_cases hx : x < w
  · exact getD_range_map _ _ _ hx
  · rw [List.getD_eq_getElem?_getD, List.getElem?_eq_none_iff.2 (by simp; omega), covers_false_of_ge hw (by omega)]
    rfl

theorem encodes_roundFrac {l : List FRange} (h : Ascending l) {w : Nat} (hw : ∀ q ∈ l, q.2 ≤ (w : Rat)) :
    Encodes (roundFrac l) (sampleRow w l) := fun x => by
  rw [inR_roundFrac h, getD_sampleRow hw]

theorem roundFrac_eq_roundedRuns {l : List FRange} (h : Ascending l) {w : Nat} (hw : ∀ q ∈ l, q.2 ≤ (w : Rat)) :
    roundFrac l = roundedRuns (sampleRow w l) :=
  good_eq_of_inR (roundFrac_good h hw) (roundedRuns_good (w := w) _ (Nat.le_of_eq (length_sampleRow w l)))
    fun x => (encodes_roundFrac h hw x).trans (encodes_roundedRuns _ x).symm

end RoundLemmas
