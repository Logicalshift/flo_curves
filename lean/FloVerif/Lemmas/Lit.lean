/-
Rust float literals are kept verbatim in the generated model (`0.0`, `1.0`, `3.0`, `0.5`): over a division ring of characteristic 0
they are the numerals the theorems reason about.
-/
import Mathlib.Tactic.NormNum.OfScientific
import Mathlib.Tactic.Ring

namespace Prelude
variable {K : Type} [DivisionRing K] [CharZero K]

theorem lit0 : (0.0 : K) = 0 := by norm_num
theorem lit1 : (1.0 : K) = 1 := by norm_num
theorem lit2 : (2.0 : K) = 2 := by norm_num
theorem lit3 : (3.0 : K) = 3 := by norm_num
theorem lit4 : (4.0 : K) = 4 := by norm_num
theorem lit6 : (6.0 : K) = 6 := by norm_num
theorem lit05 : (0.5 : K) = 1 / 2 := by norm_num

end Prelude
