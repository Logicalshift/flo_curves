/-
Proof rules for the loops and list accesses of `Prelude.Num`, free of Mathlib: a `for` loop (`foldlT l init f`, which unfolds to `List.foldl f init l`) keeps an
invariant of its state; `listGet` inside the list is `l[i]`; for `iterFuel` (the translator's `loop`/`while` with fuel) the invariant rule, the
measure rule (fuel above the measure is never used up) and independence of the fuel.
-/
import FloVerif.Prelude.Num

namespace Prelude

theorem listGet_of_lt {α : Type} [Inhabited α] (l : List α) (i : Nat) (h : i < l.length) : listGet l i = l[i] := by
  simp only [listGet]; exact getElem!_pos l i h

theorem listGet_mem {α : Type} [Inhabited α] {l : List α} {i : Nat} (h : i < l.length) : listGet l i ∈ l :=
  listGet_of_lt l i h ▸ List.getElem_mem h

theorem foldl_inv {α β : Type} (P : β → Prop) (f : β → α → β) (l : List α) (init : β)
    (h : ∀ b a, a ∈ l → P b → P (f b a)) (h0 : P init) : P (l.foldl f init) := by
  induction l generalizing init with
  | nil => exact h0
  | cons a l ih =>
    exact ih _ (fun b a' ha' => h b a' (List.mem_cons_of_mem _ ha')) (h init a List.mem_cons_self h0)

/-- Invariant rule: `Inv` is kept by every continuing iteration, every way of leaving the loop (an `inr` from the body,
    or the fuel running out) gives a result satisfying `Post`. -/
theorem iterFuel_inv {σ ρ : Type} (Inv : σ → Prop) (Post : ρ → Prop) (step : σ → Sum σ ρ) (fin : σ → ρ)
    (hcont : ∀ s s', Inv s → step s = .inl s' → Inv s')
    (hexit : ∀ s r, Inv s → step s = .inr r → Post r)
    (hfin : ∀ s, Inv s → Post (fin s)) :
    ∀ (fuel : Nat) (s : σ), Inv s → Post (iterFuel fuel step fin s)
  | 0, s, h => hfin s h
  | fuel + 1, s, h => by
    unfold iterFuel
    cases hs : step s with
    | inl s' => exact iterFuel_inv Inv Post step fin hcont hexit hfin fuel s' (hcont s s' h hs)
    | inr r => exact hexit s r h hs

/-- Measure rule: a natural-number measure that every continuing iteration decreases bounds the number of iterations, so
    with fuel `≥ μ s` the out-of-fuel exit is only taken at measure 0. -/
theorem iterFuel_measure {σ ρ : Type} (Inv : σ → Prop) (μ : σ → Nat) (Post : ρ → Prop) (step : σ → Sum σ ρ) (fin : σ → ρ)
    (hcont : ∀ s s', Inv s → step s = .inl s' → Inv s' ∧ μ s' < μ s)
    (hexit : ∀ s r, Inv s → step s = .inr r → Post r)
    (hfin : ∀ s, Inv s → μ s = 0 → Post (fin s)) :
    ∀ (fuel : Nat) (s : σ), Inv s → μ s ≤ fuel → Post (iterFuel fuel step fin s)
  | 0, s, h, hm => hfin s h (Nat.le_zero.1 hm)
  | fuel + 1, s, h, hm => by
    unfold iterFuel
    cases hs : step s with
    | inl s' =>
      have h' := hcont s s' h hs
      exact iterFuel_measure Inv μ Post step fin hcont hexit hfin fuel s' h'.1 (by omega)
    | inr r => exact hexit s r h hs

/-- With fuel strictly above the measure the loop leaves through an `inr`: `fin` is never consulted. -/
theorem iterFuel_variant {σ ρ : Type} (Inv : σ → Prop) (Post : ρ → Prop) (μ : σ → Nat) (step : σ → Sum σ ρ) (fin : σ → ρ)
    (hcont : ∀ s s', Inv s → step s = .inl s' → Inv s' ∧ μ s' < μ s)
    (hexit : ∀ s r, Inv s → step s = .inr r → Post r)
    (fuel : Nat) (s : σ) (h : Inv s) (hm : μ s < fuel) : Post (iterFuel fuel step fin s) :=
  iterFuel_measure Inv (fun s => μ s + 1) Post step fin
    (fun s s' hs hst => ⟨(hcont s s' hs hst).1, Nat.succ_lt_succ (hcont s s' hs hst).2⟩) hexit
    (fun _ _ h0 => absurd h0 (Nat.succ_ne_zero _)) fuel s h hm

/-- Fuel independence: two amounts of fuel above the measure give the same result. -/
theorem iterFuel_stable_inv {σ ρ : Type} (Inv : σ → Prop) (μ : σ → Nat) (step : σ → Sum σ ρ) (fin : σ → ρ)
    (hdec : ∀ s s', Inv s → step s = .inl s' → Inv s' ∧ μ s' < μ s) :
    ∀ (n m : Nat) (s : σ), Inv s → μ s < n → μ s < m → iterFuel n step fin s = iterFuel m step fin s
  | 0, _, _, _, hn, _ => absurd hn (Nat.not_lt_zero _)
  | _, 0, _, _, _, hm => absurd hm (Nat.not_lt_zero _)
  | n + 1, m + 1, s, h, hn, hm => by
    unfold iterFuel
    cases hs : step s with
    | inl s' =>
      have h' := hdec s s' h hs
      exact iterFuel_stable_inv Inv μ step fin hdec n m s' h'.1 (by omega) (by omega)
    | inr r => rfl

theorem iterFuel_stable {σ ρ : Type} (μ : σ → Nat) (step : σ → Sum σ ρ) (fin : σ → ρ)
    (hdec : ∀ s s', step s = .inl s' → μ s' < μ s) (n m : Nat) (s : σ) (hn : μ s < n) (hm : μ s < m) :
    iterFuel n step fin s = iterFuel m step fin s :=
  iterFuel_stable_inv (fun _ => True) μ step fin (fun s s' _ hs => ⟨trivial, hdec s s' hs⟩) n m s trivial hn hm

end Prelude
