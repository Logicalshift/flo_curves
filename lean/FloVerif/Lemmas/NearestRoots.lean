/-
Helper lemmas for C09: the loop of `find_bezier_roots::<_, 6>` (generated, `Gen.find_bezier_roots`) as a step
function on (stack of sections, roots so far), its invariant (the sections still on the stack and the leaves already
decided tile the parameter range; every section's polynomial is the restriction of the root polynomial), and what
the tiling says about the zeros of the polynomial.
-/
import FloVerif.Lemmas.Nearest
import FloVerif.Lemmas.Loop

set_option linter.unusedSectionVars false
namespace C09L
open Prelude Gen Model.Nearest

variable {K : Type} [Field K] [LinearOrder K] [IsStrictOrderedRing K] [Inhabited K]
local instance fabsNearestRoots : FAbs K := ⟨fun a => |a|⟩
variable [FSqrt K] [FSignum K] [OfInt K]

/-- what the loop does with the section on top of the stack -/
inductive Kind | pruned | flat | capped | split
deriving DecidableEq, Repr

/-- the three tests of the loop body, in the order of the code -/
def classify (s : List (V2 K)) (d : Nat) : Kind :=
  if count_x_axis_crossings 6 s = 0 then .pruned
  else if count_x_axis_crossings 6 s = 1 ∧ flat_enough 6 s = true then .flat
  else if 48 ≤ d then .capped else .split

/-- loop state: (stack of (section, depth), roots) -/
abbrev St (K : Type) := T2 (List (T2 (List (V2 K)) Nat)) (List K)

/-- the value pushed for a flat section with one crossing -/
def flatValue (s : List (V2 K)) : K := (de_casteljau_n (find_x_intercept 6 s) s).x
/-- the value pushed for a section at the depth limit -/
def capValue (s : List (V2 K)) : K := ((listGet s 0).x + (listGet s 5).x) * (0.5 : K)

def specStep (st : St K) : Sum (St K) (LoopExit (St K) (List K)) :=
  match st.t0.getLast? with
  | none => .inr (.ret st.t1)
  | some top =>
    match classify top.t0 top.t1 with
    | .pruned => .inl ⟨st.t0.dropLast, st.t1⟩
    | .flat => .inl ⟨st.t0.dropLast, st.t1 ++ [flatValue top.t0]⟩
    | .capped => .inl ⟨st.t0.dropLast, st.t1 ++ [capValue top.t0]⟩
    | .split => .inl ⟨st.t0.dropLast ++ [⟨(subdivide_n 6 (0.5 : K) top.t0).t1, top.t1 + 1⟩,
                                           ⟨(subdivide_n 6 (0.5 : K) top.t0).t0, top.t1 + 1⟩], st.t1⟩

/-- the loop with `fuel` iterations: `ret roots` when the stack ran empty, `brk state` when the fuel ran out first -/
def runSpec (fuel : Nat) (pts : List (V2 K)) : LoopExit (St K) (List K) :=
  iterFuel fuel specStep (fun s => .brk s) ⟨[⟨pts, 0⟩], []⟩

/-- the generated `find_bezier_roots 6` IS this loop (fuel 100000; the roots so far if the fuel runs out) -/
theorem find_bezier_roots_spec (pts : List (V2 K)) :
    find_bezier_roots 6 pts = match runSpec 100000 pts with | .brk b => b.t1 | .ret r => r := by
  unfold find_bezier_roots runSpec
  refine congrArg (fun f : St K → Sum (St K) (LoopExit (St K) (List K)) =>
    match iterFuel 100000 f (fun s => LoopExit.brk s) ⟨[⟨pts, 0⟩], []⟩ with | .brk b => b.t1 | .ret r => r)
    (funext fun st => ?_)
  simp only [specStep, classify, flatValue, capValue]
  cases st.t0.getLast? with
  | none => rfl
  | some top =>
    by_cases h1 : count_x_axis_crossings 6 top.t0 = 0
    · simp [h1]
    · by_cases h2 : count_x_axis_crossings 6 top.t0 = 1 ∧ flat_enough 6 top.t0 = true
      · simp [h2]
      · by_cases h3 : 48 ≤ top.t1 <;> simp [h1, h2, h3]

/-- x-coordinates of a section over [a,b]: the code keeps them affine in the index -/
def affX (a b : K) : List K := [a, a + (b - a) / 5, a + (b - a) * 2 / 5, a + (b - a) * 3 / 5, a + (b - a) * 4 / 5, b]

/-- `s` is a six-point section over the parameter range [a,b] whose y-polynomial is `p` restricted to [a,b] -/
def IsSec (p : K → K) (s : List (V2 K)) (a b : K) : Prop :=
  ∃ c0 c1 c2 c3 c4 c5 : K, s = mkSec (affX a b) [c0, c1, c2, c3, c4, c5] ∧
    ∀ u, bern5 c0 c1 c2 c3 c4 c5 u = p (a + (b - a) * u)

theorem mkSec_affX (a b c0 c1 c2 c3 c4 c5 : K) : mkSec (affX a b) [c0, c1, c2, c3, c4, c5] =
    [⟨a, c0⟩, ⟨a + (b - a) / 5, c1⟩, ⟨a + (b - a) * 2 / 5, c2⟩, ⟨a + (b - a) * 3 / 5, c3⟩, ⟨a + (b - a) * 4 / 5, c4⟩,
     ⟨b, c5⟩] := rfl

theorem leftC_affX (t a b : K) :
    leftC t a (a + (b - a) / 5) (a + (b - a) * 2 / 5) (a + (b - a) * 3 / 5) (a + (b - a) * 4 / 5) b =
      affX a (a + (b - a) * t) := by
  simp only [leftC, dc6, dc5, de_casteljau4, de_casteljau3, de_casteljau2, lit1, affX, List.cons.injEq, and_true, true_and]
  and_intros <;> ring

theorem rightC_affX (t a b : K) :
    rightC t a (a + (b - a) / 5) (a + (b - a) * 2 / 5) (a + (b - a) * 3 / 5) (a + (b - a) * 4 / 5) b =
      affX (a + (b - a) * t) b := by
  simp only [rightC, dc6, dc5, de_casteljau4, de_casteljau3, de_casteljau2, lit1, affX, List.cons.injEq, and_true]
  and_intros <;> ring

theorem sec_split_at {p : K → K} {s : List (V2 K)} {a b : K} (t : K) (h : IsSec p s a b) :
    IsSec p (subdivide_n 6 t s).t0 a (a + (b - a) * t) ∧ IsSec p (subdivide_n 6 t s).t1 (a + (b - a) * t) b := by
  obtain ⟨c0, c1, c2, c3, c4, c5, rfl, hp⟩ := h
  rw [mkSec_affX, subdivide6, leftC_mk, rightC_mk, leftC_affX, rightC_affX]
  exact ⟨⟨_, _, _, _, _, _, rfl, fun u => by rw [bern5_left, hp]; congr 1; ring⟩,
    ⟨_, _, _, _, _, _, rfl, fun u => by rw [bern5_right, hp]; congr 1; ring⟩⟩

theorem sec_split {p : K → K} {s : List (V2 K)} {a b : K} (h : IsSec p s a b) :
    IsSec p (subdivide_n 6 (0.5 : K) s).t0 a ((a + b) / 2) ∧ IsSec p (subdivide_n 6 (0.5 : K) s).t1 ((a + b) / 2) b := by
  have := sec_split_at (0.5 : K) h
  rwa [show a + (b - a) * (0.5 : K) = (a + b) / 2 by rw [lit05]; ring] at this

theorem affine_mem {a b u : K} (hab : a ≤ b) (h0 : 0 ≤ u) (h1 : u ≤ 1) : a ≤ a + (b - a) * u ∧ a + (b - a) * u ≤ b :=
  ⟨le_add_of_nonneg_right (mul_nonneg (sub_nonneg.2 hab) h0),
    (add_le_add le_rfl (mul_le_of_le_one_right (sub_nonneg.2 hab) h1)).trans_eq (add_sub_cancel a b)⟩

theorem sec_eval {p : K → K} {a b c0 c1 c2 c3 c4 c5 : K} (hp : ∀ u, bern5 c0 c1 c2 c3 c4 c5 u = p (a + (b - a) * u))
    (hab : a < b) (x : K) : bern5 c0 c1 c2 c3 c4 c5 ((x - a) / (b - a)) = p x := by
  rw [hp, mul_div_cancel₀ _ (sub_pos.2 hab).ne', add_sub_cancel]

theorem sec_pruned {p : K → K} {s : List (V2 K)} {a b : K} (h : IsSec p s a b) (hab : a < b)
    (hc : count_x_axis_crossings 6 s = 0) :
    (∀ x, a ≤ x → x ≤ b → p x < 0) ∨ (∀ x, a ≤ x → x ≤ b → 0 ≤ p x) := by
  obtain ⟨c0, c1, c2, c3, c4, c5, rfl, hp⟩ := h
  rw [mkSec_affX] at hc
  have hba : 0 < b - a := sub_pos.2 hab
  have h0 : ∀ x, a ≤ x → 0 ≤ (x - a) / (b - a) := fun x hax => div_nonneg (sub_nonneg.2 hax) hba.le
  have h1 : ∀ x, x ≤ b → (x - a) / (b - a) ≤ 1 := fun x hxb => (div_le_one hba).2 (sub_le_sub_right hxb a)
  refine (count6_zero hc).imp (fun ⟨g0, g1, g2, g3, g4, g5⟩ x hax hxb => ?_) (fun ⟨g0, g1, g2, g3, g4, g5⟩ x hax hxb => ?_)
  · exact sec_eval hp hab x ▸ bern5_neg g0 g1 g2 g3 g4 g5 (h0 x hax) (h1 x hxb)
  · exact sec_eval hp hab x ▸ bern5_nonneg g0 g1 g2 g3 g4 g5 (h0 x hax) (h1 x hxb)

theorem sec_capValue {p : K → K} {s : List (V2 K)} {a b : K} (h : IsSec p s a b) : capValue s = (a + b) / 2 := by
  obtain ⟨c0, c1, c2, c3, c4, c5, rfl, hp⟩ := h
  simp only [capValue, mkSec_affX, listGet, List.getElem!_cons_zero, List.getElem!_cons_succ, lit05]
  ring

/-- a section the loop has finished with (not subdivided): its range, its points, what was done with it -/
structure Leaf (K : Type) where
  a : K
  b : K
  sec : List (V2 K)
  kind : Kind

/-- what is known about a leaf, given the polynomial `p` and the roots reported so far -/
def LeafOK (p : K → K) (roots : List K) (l : Leaf K) : Prop :=
  l.a < l.b ∧ IsSec p l.sec l.a l.b ∧
  match l.kind with
  | .pruned => count_x_axis_crossings 6 l.sec = 0
  | .flat => count_x_axis_crossings 6 l.sec = 1 ∧ flat_enough 6 l.sec = true ∧ flatValue l.sec ∈ roots
  | .capped => l.b - l.a = (1 / 2 : K) ^ 48 ∧ (l.a + l.b) / 2 ∈ roots
  | .split => False

theorem LeafOK_mono {p : K → K} {roots roots' : List K} {l : Leaf K} (h : LeafOK p roots l)
    (hsub : ∀ v ∈ roots, v ∈ roots') : LeafOK p roots' l := by
  obtain ⟨h1, h2, h3⟩ := h
  refine ⟨h1, h2, ?_⟩
  cases hk : l.kind with
  | pruned => rw [hk] at h3; exact h3
  | flat => rw [hk] at h3; exact ⟨h3.1, h3.2.1, hsub _ h3.2.2⟩
  | capped => rw [hk] at h3; exact ⟨h3.1, hsub _ h3.2⟩
  | split => rw [hk] at h3; exact h3

/-- consecutive leaves from `a` to `c` -/
def tiles : K → List (Leaf K) → K → Prop
  | a, [], c => a = c
  | a, l :: rest, c => l.a = a ∧ tiles l.b rest c

theorem tiles_append {a c : K} {ls : List (Leaf K)} {l : Leaf K} (h : tiles a ls c) (hl : l.a = c) :
    tiles a (ls ++ [l]) l.b := by
  induction ls generalizing a with
  | nil => simp only [tiles] at h; subst h; exact ⟨hl, rfl⟩
  | cons x xs ih => exact ⟨h.1, ih h.2⟩

theorem tiles_bounds : ∀ (leaves : List (Leaf K)) (a c : K), tiles a leaves c → (∀ l ∈ leaves, l.a < l.b) →
    a ≤ c ∧ ∀ l ∈ leaves, a ≤ l.a ∧ l.b ≤ c
  | [], a, c, h, _ => by simp only [tiles] at h; subst h; exact ⟨le_refl _, by simp⟩
  | l :: rest, a, c, h, hlt => by
    obtain ⟨rfl, hrest⟩ := h
    obtain ⟨h1, h2⟩ := tiles_bounds rest l.b c hrest (fun l' hl' => hlt l' (List.mem_cons_of_mem _ hl'))
    have hl := (hlt l List.mem_cons_self).le
    exact ⟨hl.trans h1, List.forall_mem_cons.2 ⟨⟨le_rfl, h1⟩, fun l' hl' => ⟨hl.trans (h2 l' hl').1, (h2 l' hl').2⟩⟩⟩

/-- the stack (bottom first = rightmost range first) covers [c, hi]; every entry is a section of `p` over a range of
    width 2^-depth, depth ≤ 48 -/
def stackOK (p : K → K) : K → List (T2 (List (V2 K)) Nat) → K → Prop
  | hi, [], c => c = hi
  | hi, e :: rest, c => ∃ a, a < hi ∧ IsSec p e.t0 a hi ∧ hi - a = (1 / 2 : K) ^ e.t1 ∧ e.t1 ≤ 48 ∧ stackOK p a rest c

theorem stackOK_concat {p : K → K} {hi c : K} {init : List (T2 (List (V2 K)) Nat)} {top : T2 (List (V2 K)) Nat} :
    stackOK p hi (init ++ [top]) c ↔
      ∃ m, stackOK p hi init m ∧ c < m ∧ IsSec p top.t0 c m ∧ m - c = (1 / 2 : K) ^ top.t1 ∧ top.t1 ≤ 48 := by
  induction init generalizing hi with
  | nil =>
    simp only [List.nil_append, stackOK]
    constructor
    · rintro ⟨a, h1, h2, h3, h4, rfl⟩
      exact ⟨hi, rfl, h1, h2, h3, h4⟩
    · rintro ⟨m, rfl, h1, h2, h3, h4⟩
      exact ⟨c, h1, h2, h3, h4, rfl⟩
  | cons x xs ih =>
    simp only [List.cons_append, stackOK]
    constructor
    · rintro ⟨a, h1, h2, h3, h4, h5⟩
      obtain ⟨m, g1, g2⟩ := ih.1 h5
      exact ⟨m, ⟨a, h1, h2, h3, h4, g1⟩, g2⟩
    · rintro ⟨m, ⟨a, h1, h2, h3, h4, g1⟩, g2⟩
      exact ⟨a, h1, h2, h3, h4, ih.2 ⟨m, g1, g2⟩⟩

/-- loop invariant: the leaves decided so far tile [0,c] and the stack covers [c,1] -/
def Inv (p : K → K) (st : St K) : Prop :=
  ∃ (leaves : List (Leaf K)) (c : K), tiles 0 leaves c ∧ (∀ l ∈ leaves, LeafOK p st.t1 l) ∧ stackOK p 1 st.t0 c

def Post (p : K → K) : LoopExit (St K) (List K) → Prop
  | .brk _ => True
  | .ret roots => ∃ leaves : List (Leaf K), tiles 0 leaves 1 ∧ ∀ l ∈ leaves, LeafOK p roots l

theorem classify_spec (s : List (V2 K)) (d : Nat) :
    match classify s d with
    | .pruned => count_x_axis_crossings 6 s = 0
    | .flat => count_x_axis_crossings 6 s = 1 ∧ flat_enough 6 s = true
    | .capped => 48 ≤ d
    | .split => ¬ 48 ≤ d := by
  unfold classify
  split_ifs with h1 h2 h3
  exacts [h1, h2, h3, h3]

theorem Inv_leaf {p : K → K} {roots roots' : List K} {leaves : List (Leaf K)} {c : K}
    {init : List (T2 (List (V2 K)) Nat)} (l : Leaf K) (ht : tiles 0 leaves c) (hl : ∀ l ∈ leaves, LeafOK p roots l)
    (hsub : ∀ v ∈ roots, v ∈ roots') (hla : l.a = c) (hok : LeafOK p roots' l) (hm : stackOK p 1 init l.b) :
    Inv p ⟨init, roots'⟩ :=
  ⟨leaves ++ [l], l.b, tiles_append ht hla, fun l' hl' => (List.mem_append.1 hl').elim
    (fun h => LeafOK_mono (hl l' h) hsub) (fun h => List.mem_singleton.1 h ▸ hok), hm⟩

theorem specStep_inv (p : K → K) (st : St K) (h : Inv p st) :
    match specStep st with | .inl s' => Inv p s' | .inr r => Post p r := by
  obtain ⟨leaves, c, ht, hl, hs⟩ := h
  unfold specStep
  cases hg : st.t0.getLast? with
  | none =>
    rw [List.getLast?_eq_none_iff.1 hg] at hs
    exact ⟨leaves, (show c = 1 from hs) ▸ ht, hl⟩
  | some top =>
    obtain ⟨init, hinit⟩ := List.getLast?_eq_some_iff.1 hg
    rw [hinit] at hs ⊢
    obtain ⟨m, hm, hcm, hsec, hw, hd⟩ := stackOK_concat.1 hs
    have hk := classify_spec top.t0 top.t1
    simp only [List.dropLast_concat]
    cases hc : classify top.t0 top.t1 <;> rw [hc] at hk <;> simp only [] at hk ⊢
    · exact Inv_leaf ⟨c, m, top.t0, .pruned⟩ ht hl (fun _ h => h) rfl ⟨hcm, hsec, hk⟩ hm
    · exact Inv_leaf ⟨c, m, top.t0, .flat⟩ ht hl (fun _ => List.mem_append_left _) rfl
        ⟨hcm, hsec, hk.1, hk.2, List.mem_append_right _ (List.mem_singleton_self _)⟩ hm
    · exact Inv_leaf ⟨c, m, top.t0, .capped⟩ ht hl (fun _ => List.mem_append_left _) rfl
        ⟨hcm, hsec, by rw [← le_antisymm hd hk]; exact hw,
          List.mem_append_right _ (sec_capValue hsec ▸ List.mem_singleton_self _)⟩ hm
    · obtain ⟨hL, hR⟩ := sec_split hsec
      have hwid : ∀ x y : K, y - x = (m - c) / 2 → y - x = (1 / 2 : K) ^ (top.t1 + 1) := fun x y hxy => by
        rw [hxy, hw, pow_succ]; ring
      have hd1 : top.t1 + 1 ≤ 48 := by omega
      rw [List.append_cons]
      exact ⟨leaves, c, ht, hl, stackOK_concat.2 ⟨(c + m) / 2,
        stackOK_concat.2 ⟨m, hm, add_div_two_lt_right.2 hcm, hR, hwid _ _ (by ring), hd1⟩, left_lt_add_div_two.2 hcm, hL,
        hwid _ _ (by ring), hd1⟩⟩

/-- whenever the loop returns, with any fuel, the sections it did not subdivide tile [0,1] by valid leaves -/
theorem runSpec_post (p : K → K) (pts : List (V2 K)) (h : IsSec p pts 0 1) (fuel : Nat) :
    Post p (runSpec fuel pts) := by
  refine iterFuel_inv (Inv p) (Post p) specStep (fun s => .brk s) (fun s s' hs hst => ?_) (fun s r hs hst => ?_) (fun _ _ => trivial) fuel _
    ⟨[], 0, rfl, by simp, 0, zero_lt_one, h, by simp, Nat.zero_le _, rfl⟩
  · have := specStep_inv p s hs
    rwa [hst] at this
  · have := specStep_inv p s hs
    rwa [hst] at this

def Leaf.examined (l : Leaf K) : Prop := l.kind = .flat ∨ l.kind = .capped

/-- a zero `x` of `p` in a range [a,c] tiled by valid leaves lies in an examined leaf, or `p ≥ 0` on an interval [lo,hi] that
    has `x` strictly inside, except that `lo = x` is allowed at `x = a` and `hi = x` at `x = c` (the induction joins the
    intervals of consecutive pruned leaves there) -/
theorem tiles_zero_aux (p : K → K) (roots : List K) (x : K) (hx : p x = 0) :
    ∀ (leaves : List (Leaf K)) (a c : K), tiles a leaves c → (∀ l ∈ leaves, LeafOK p roots l) → a ≤ x → x ≤ c →
      (∃ l ∈ leaves, l.examined ∧ l.a ≤ x ∧ x ≤ l.b) ∨
      (∃ lo hi, lo ≤ x ∧ x ≤ hi ∧ (lo < x ∨ x = a) ∧ (x < hi ∨ x = c) ∧ ∀ y, lo ≤ y → y ≤ hi → 0 ≤ p y)
  | [], a, c, ht, _, hax, hxc => by
    obtain rfl : a = c := ht
    obtain rfl : x = a := le_antisymm hxc hax
    exact Or.inr ⟨x, x, le_rfl, le_rfl, Or.inr rfl, Or.inr rfl, fun y h1 h2 => (le_antisymm h2 h1 ▸ hx).ge⟩
  | l :: rest, a, c, ht, hok, hax, hxc => by
    obtain ⟨rfl, hrest⟩ := ht
    obtain ⟨hab, hsec, hkind⟩ := hok l List.mem_cons_self
    have hrec := fun h => tiles_zero_aux p roots x hx rest l.b c hrest (fun l' h' => hok l' (List.mem_cons_of_mem _ h')) h hxc
    have lift : (∃ l' ∈ rest, l'.examined ∧ l'.a ≤ x ∧ x ≤ l'.b) → ∃ l' ∈ l :: rest, l'.examined ∧ l'.a ≤ x ∧ x ≤ l'.b :=
      fun ⟨l', hl', h'⟩ => ⟨l', List.mem_cons_of_mem _ hl', h'⟩
    rcases lt_or_ge l.b x with hgt | hle
    · -- `x` beyond this leaf: the answer of the rest, its interval cut at `l.b`
      exact (hrec hgt.le).imp lift fun ⟨lo, hi, h1, h2, h3, h4, h5⟩ => ⟨max lo l.b, hi, max_le h1 hgt.le, h2,
        Or.inl (max_lt (h3.resolve_right hgt.ne') hgt), h4, fun y hy1 hy2 => h5 y ((le_max_left _ _).trans hy1) hy2⟩
    · cases hk : l.kind <;> rw [hk] at hkind
      · -- pruned, and `p x = 0` excludes "negative on the leaf": `p` is non-negative on it
        have hnn : ∀ y, l.a ≤ y → y ≤ l.b → 0 ≤ p y :=
          (sec_pruned hsec hab hkind).resolve_left fun hneg => (hneg x hax hle).ne hx
        rcases hle.lt_or_eq with hlt | heq
        · exact Or.inr ⟨l.a, l.b, hax, hle, hax.lt_or_eq.imp_right Eq.symm, Or.inl hlt, hnn⟩
        · -- `x` is the right end of the leaf: the interval of the rest is joined to it
          exact (hrec heq.ge).imp lift fun ⟨lo, hi, h1, h2, _, h4, h5⟩ => ⟨l.a, hi, hax, h2, Or.inl (hab.trans_eq heq.symm), h4,
            fun y hy1 hy2 => (le_total y l.b).elim (hnn y hy1) fun hyb => h5 y (h1.trans (heq.le.trans hyb)) hy2⟩
      · exact Or.inl ⟨l, List.mem_cons_self, Or.inl hk, hax, hle⟩
      · exact Or.inl ⟨l, List.mem_cons_self, Or.inr hk, hax, hle⟩
      · exact False.elim hkind

end C09L
