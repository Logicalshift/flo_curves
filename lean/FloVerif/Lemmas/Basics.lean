/-
What the operations of `Prelude.Num` are in exact arithmetic: points are added, subtracted and scaled component-wise,
`f64::min` / `f64::max` and the component-wise `from_smallest_components` / `from_biggest_components` are `min` / `max` on a linear
order (no NaN), and a curve starts and ends at its outer control points.
-/
import FloVerif.Prelude.Num
import FloVerif.Gen.Basis
import FloVerif.Gen.CurveBounds
import FloVerif.Lemmas.Lit
import Mathlib.Order.Lattice
import Mathlib.Tactic.Ring
import Mathlib.Tactic.NormNum.OfScientific

namespace Prelude

/-! ### points -/

theorem V2.ext' {K : Type} {a b : V2 K} (hx : a.x = b.x) (hy : a.y = b.y) : a = b := by
  cases a; cases b; cases hx; cases hy; rfl

@[simp] theorem V2.add_x {K} [Add K] (a b : V2 K) : (a + b).x = a.x + b.x := rfl
@[simp] theorem V2.add_y {K} [Add K] (a b : V2 K) : (a + b).y = a.y + b.y := rfl
@[simp] theorem V2.sub_x {K} [Sub K] (a b : V2 K) : (a - b).x = a.x - b.x := rfl
@[simp] theorem V2.sub_y {K} [Sub K] (a b : V2 K) : (a - b).y = a.y - b.y := rfl
@[simp] theorem V2.mul_x {K} [Mul K] (a : V2 K) (k : K) : (a * k).x = a.x * k := rfl
@[simp] theorem V2.mul_y {K} [Mul K] (a : V2 K) (k : K) : (a * k).y = a.y * k := rfl

/-! ### `f64::min`, `f64::max` -/

theorem fmin_eq_min {K : Type} [LinearOrder K] (a b : K) : fmin a b = min a b := by
  simp only [fmin, beq_self_eq_true, if_true]
  rcases lt_or_ge b a with h | h
  · rw [if_pos h, min_eq_right (le_of_lt h)]
  · rw [if_neg (not_lt.2 h), min_eq_left h]

theorem fmax_eq_max {K : Type} [LinearOrder K] (a b : K) : fmax a b = max a b := by
  simp only [fmax, beq_self_eq_true, if_true]
  rcases lt_or_ge a b with h | h
  · rw [if_pos h, max_eq_right (le_of_lt h)]
  · rw [if_neg (not_lt.2 h), max_eq_left h]

/-! ### the component-wise minimum and maximum of `Coordinate` on numbers -/

open Gen in
theorem smallest_eq_min {K : Type} [LinearOrder K] (a b : K) : f64_from_smallest_components a b = min a b := by
  simp only [f64_from_smallest_components, decide_eq_true_eq]
  rcases lt_or_ge a b with h | h
  · rw [if_pos h, min_eq_left (le_of_lt h)]
  · rw [if_neg (not_lt.2 h), min_eq_right h]

open Gen in
theorem biggest_eq_max {K : Type} [LinearOrder K] (a b : K) : f64_from_biggest_components a b = max a b := by
  simp only [f64_from_biggest_components, decide_eq_true_eq, gt_iff_lt]
  rcases lt_or_ge b a with h | h
  · rw [if_pos h, max_eq_left (le_of_lt h)]
  · rw [if_neg (not_lt.2 h), max_eq_right h]

/-! ### end points of a cubic -/

open Gen in
theorem basis_zero {K : Type} [Field K] [CharZero K] (w1 w2 w3 w4 : K) : basis 0 w1 w2 w3 w4 = w1 := by
  simp only [basis, lit1, lit3]; ring

open Gen in
theorem basis_one {K : Type} [Field K] [CharZero K] (w1 w2 w3 w4 : K) : basis 1 w1 w2 w3 w4 = w4 := by
  simp only [basis, lit1, lit3]; ring

open Gen in
theorem point_at_zero {K : Type} [Field K] [CharZero K] (w1 w2 w3 w4 : V2 K) : curve_point_at_pos w1 w2 w3 w4 (0 : K) = w1 :=
  V2.ext' (basis_zero w1.x w2.x w3.x w4.x) (basis_zero w1.y w2.y w3.y w4.y)

open Gen in
theorem point_at_one {K : Type} [Field K] [CharZero K] (w1 w2 w3 w4 : V2 K) : curve_point_at_pos w1 w2 w3 w4 (1 : K) = w4 :=
  V2.ext' (basis_one w1.x w2.x w3.x w4.x) (basis_one w1.y w2.y w3.y w4.y)

end Prelude
