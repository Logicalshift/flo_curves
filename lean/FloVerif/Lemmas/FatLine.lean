/-
Lemmas for C13 (fat-line clipping) about the generated definitions of `Gen/FatLine.lean`, `Gen/Lines.lean`,
`Gen/Basis.lean`: the Bernstein form of de Casteljau and the 3/4 and 4/9 factors; y-monotone chains against a vertical
line; `clip_t` as loop + decision tree; the ordinates the loop collects around a curve point inside the strip; the
boundary chains of every branch of `distance_curve_convex_hull`.

Left and right are treated at once through a sign `σ = ±1`: `σ * a ≤ σ * b` reads `a ≤ b` for `σ = 1`, `b ≤ a` for `σ = -1`.
-/
import FloVerif.Gen.FatLine
import FloVerif.Lemmas.Basics
import FloVerif.Lemmas.Loop
import Mathlib.Tactic.FieldSimp
import Mathlib.Tactic.Linarith
import Mathlib.Tactic.Positivity
import Mathlib.Tactic.LinearCombination
import Mathlib.Algebra.Order.Field.Basic
import Mathlib.Algebra.Order.Group.MinMax
import Mathlib.Algebra.Order.AbsoluteValue.Basic

set_option linter.unusedSectionVars false
namespace FatLineLemmas
open Prelude Gen

variable {K : Type} [Field K] [LinearOrder K] [IsStrictOrderedRing K] [Inhabited K]

/-- in exact arithmetic `f64::abs` is the absolute value -/
local instance : FAbs K := ⟨fun a => |a|⟩

theorem V2_add_x (a b : V2 K) : (a + b).x = a.x + b.x := V2.add_x a b
theorem V2_add_y (a b : V2 K) : (a + b).y = a.y + b.y := V2.add_y a b
theorem V2_sub_x (a b : V2 K) : (a - b).x = a.x - b.x := V2.sub_x a b
theorem V2_sub_y (a b : V2 K) : (a - b).y = a.y - b.y := V2.sub_y a b
theorem V2_mul_x (a : V2 K) (k : K) : (a * k).x = a.x * k := V2.mul_x a k
theorem V2_mul_y (a : V2 K) (k : K) : (a * k).y = a.y * k := V2.mul_y a k

theorem dc4_bernstein (t a b c d : K) :
    de_casteljau4 t a b c d = (1-t)^3 * a + 3*(1-t)^2*t * b + 3*(1-t)*t^2 * c + t^3 * d := by
  simp only [de_casteljau4, de_casteljau3, de_casteljau2, lit1]
  ring

theorem dc4_x (t : K) (a b c d : V2 K) : (de_casteljau4 t a b c d).x = de_casteljau4 t a.x b.x c.x d.x := rfl
theorem dc4_y (t : K) (a b c d : V2 K) : (de_casteljau4 t a b c d).y = de_casteljau4 t a.y b.y c.y d.y := rfl

def bern (t a b c d : K) : K := (1-t)^3 * a + 3*(1-t)^2*t * b + 3*(1-t)*t^2 * c + t^3 * d

theorem bern_nonneg (t a b c d : K) (h0 : 0 ≤ t) (h1 : t ≤ 1) (ha : 0 ≤ a) (hb : 0 ≤ b) (hc : 0 ≤ c) (hd : 0 ≤ d) :
    0 ≤ bern t a b c d := by
  have s : 0 ≤ 1 - t := sub_nonneg.2 h1
  simp only [bern]
  positivity

theorem bern_const (t m : K) : bern t m m m m = m := by
  simp only [bern]; ring

theorem bern_mono (t : K) {a b c d a' b' c' d' : K} (h0 : 0 ≤ t) (h1 : t ≤ 1) (ha : a ≤ a') (hb : b ≤ b') (hc : c ≤ c')
    (hd : d ≤ d') : bern t a b c d ≤ bern t a' b' c' d' := by
  have e : bern t a' b' c' d' - bern t a b c d = bern t (a' - a) (b' - b) (c' - c) (d' - d) := by
    simp only [bern]; ring
  rw [← sub_nonneg, e]
  exact bern_nonneg t _ _ _ _ h0 h1 (sub_nonneg.2 ha) (sub_nonneg.2 hb) (sub_nonneg.2 hc) (sub_nonneg.2 hd)

theorem bern1_le (t : K) (h1 : t ≤ 1) : 3*(1-t)^2*t ≤ 4/9 := by
  linear_combination mul_nonneg (mul_nonneg zero_le_three (sq_nonneg (t-1/3))) (sub_nonneg.2 (h1.trans (by norm_num : (1:K) ≤ 4/3)))

theorem bern2_le (t : K) (h0 : 0 ≤ t) : 3*(1-t)*t^2 ≤ 4/9 := by
  linear_combination mul_nonneg (mul_nonneg zero_le_three (sq_nonneg (t-2/3))) (add_nonneg h0 (by norm_num : (0:K) ≤ 1/3))

theorem bern12_le (t : K) : 3*(1-t)^2*t + 3*(1-t)*t^2 ≤ 3/4 := by
  linear_combination mul_nonneg zero_le_three (sq_nonneg (t-1/2))

def inner (t d1 d2 : K) : K := 3*(1-t)^2*t*d1 + 3*(1-t)*t^2*d2

theorem inner_neg (t d1 d2 : K) : inner t (-d1) (-d2) = - inner t d1 d2 := by
  simp only [inner]; ring

/-- Sederberg–Nishita: with `M = max d1 d2 0`, same signs give at most `(b₁ + b₂)·M ≤ 3/4·M`; otherwise one of the two
    terms is `≤ 0` and the other at most `4/9·M` -/
theorem inner_le (t d1 d2 : K) (ht0 : 0 ≤ t) (ht1 : t ≤ 1) :
    inner t d1 d2 ≤ (if d1 * d2 > 0 then (3/4 : K) else 4/9) * max (max d1 d2) 0 := by
  have a1 : 0 ≤ 3*(1-t)^2*t := mul_nonneg (mul_nonneg zero_le_three (sq_nonneg _)) ht0
  have a2 : 0 ≤ 3*(1-t)*t^2 := mul_nonneg (mul_nonneg zero_le_three (sub_nonneg.2 ht1)) (sq_nonneg _)
  have hM : 0 ≤ max (max d1 d2) 0 := le_max_right _ _
  have h1 : d1 ≤ max (max d1 d2) 0 := le_trans (le_max_left _ _) (le_max_left _ _)
  have h2 : d2 ≤ max (max d1 d2) 0 := le_trans (le_max_right _ _) (le_max_left _ _)
  have l1 := bern1_le t ht1
  have l2 := bern2_le t ht0
  have l12 := bern12_le t
  simp only [inner]
  generalize max (max d1 d2) 0 = M at hM h1 h2 ⊢
  generalize 3*(1-t)^2*t = b1 at a1 l1 l12 ⊢
  generalize 3*(1-t)*t^2 = b2 at a2 l2 l12 ⊢
  have e1 := mul_le_mul_of_nonneg_left h1 a1
  have e2 := mul_le_mul_of_nonneg_left h2 a2
  split_ifs with hp
  · exact (add_le_add e1 e2).trans ((add_mul b1 b2 M).symm.trans_le (mul_le_mul_of_nonneg_right l12 hM))
  · rcases le_or_gt d1 0 with n1 | p1
    · exact (add_le_add (mul_nonpos_of_nonneg_of_nonpos a1 n1) e2).trans
        ((zero_add _).trans_le (mul_le_mul_of_nonneg_right l2 hM))
    · have n2 : d2 ≤ 0 := not_lt.1 (fun h => hp (mul_pos p1 h))
      exact (add_le_add e1 (mul_nonpos_of_nonneg_of_nonpos a2 n2)).trans
        ((add_zero _).trans_le (mul_le_mul_of_nonneg_right l1 hM))

theorem inner_bounds (t d1 d2 : K) (ht0 : 0 ≤ t) (ht1 : t ≤ 1) :
    (if d1 * d2 > 0 then (3/4 : K) else 4/9) * min (min d1 d2) 0 ≤ inner t d1 d2 ∧
    inner t d1 d2 ≤ (if d1 * d2 > 0 then (3/4 : K) else 4/9) * max (max d1 d2) 0 := by
  refine ⟨?_, inner_le t d1 d2 ht0 ht1⟩
  have h := inner_le t (-d1) (-d2) ht0 ht1
  have hm : max (max (-d1) (-d2)) 0 = - min (min d1 d2) 0 := by rw [← max_neg_neg, ← max_neg_neg, neg_zero]
  rw [inner_neg, neg_mul_neg, hm, mul_neg] at h
  exact neg_le_neg_iff.1 h

/-- `(A, B)` are neighbours (in this order) in the list -/
def Consec : List (V2 K) → V2 K → V2 K → Prop
  | A' :: B' :: rest, A, B => (A = A' ∧ B = B') ∨ Consec (B' :: rest) A B
  | _, _, _ => False

theorem consec_cons (A' B' : V2 K) (rest : List (V2 K)) (A B : V2 K) :
    Consec (A' :: B' :: rest) A B ↔ (A = A' ∧ B = B') ∨ Consec (B' :: rest) A B := Iff.rfl
theorem consec_nil (A B : V2 K) : ¬ Consec ([] : List (V2 K)) A B := fun h => h
theorem consec_single (C A B : V2 K) : ¬ Consec [C] A B := fun h => h

def Ascending (l : List (V2 K)) : Prop := ∀ A B, Consec l A B → A.y < B.y

theorem Ascending.tail {A : V2 K} {l : List (V2 K)} (h : Ascending (A :: l)) : Ascending l := by
  intro X Y hc
  cases l with
  | nil => exact absurd hc (consec_nil _ _)
  | cons B rest => exact h X Y (Or.inr hc)

theorem Ascending.head_le : ∀ (l : List (V2 K)) (C : V2 K), Ascending (C :: l) → ∀ A B, Consec (C :: l) A B → C.y ≤ A.y
  | [], C, _, A, B, hc => absurd hc (consec_single _ _ _)
  | D :: rest, C, hasc, A, B, hc => by
    rcases hc with ⟨rfl, rfl⟩ | hc
    · exact le_rfl
    · have h1 : C.y < D.y := hasc C D (Or.inl ⟨rfl, rfl⟩)
      exact le_trans (le_of_lt h1) (Ascending.head_le rest D hasc.tail A B hc)

/-- the abscissa of the edge `A → B` at height `y`, scaled by `B.y − A.y` -/
def chainAt (A B : V2 K) (y : K) : K := A.x * (B.y - y) + B.x * (y - A.y)

/-- twice the signed area of the triangle `A B P`: positive when `P` lies left of the upward edge `A → B` -/
def orient (A B P : V2 K) : K := chainAt A B P.y - P.x * (B.y - A.y)

theorem orient_left (A B : V2 K) : orient A B A = 0 := by simp only [orient, chainAt]; ring
theorem orient_right (A B : V2 K) : orient A B B = 0 := by simp only [orient, chainAt]; ring
theorem orient_rot (A B P : V2 K) : orient B P A = orient A B P := by simp only [orient, chainAt]; ring
theorem orient_swap (A B P : V2 K) : orient A P B = - orient A B P := by simp only [orient, chainAt]; ring

/-- the ordinate at which the line through `A`, `B` has abscissa `d`, as `solve_line_y` computes it (`m·d + c`) -/
def crossY (A B : V2 K) (d : K) : K := (B.y - A.y) / (B.x - A.x) * d + (A.y - (B.y - A.y) / (B.x - A.x) * A.x)

theorem crossY_symm (A B : V2 K) (d : K) (h : A.x ≠ B.x) : crossY A B d = crossY B A d := by
  have h1 : B.x - A.x ≠ 0 := sub_ne_zero.2 (Ne.symm h)
  have h2 : A.x - B.x ≠ 0 := sub_ne_zero.2 h
  simp only [crossY]
  field_simp
  ring

theorem crossY_sub (A B : V2 K) (d y k : K) (h : A.x ≠ B.x) :
    (crossY A B d - y) * (k * (B.x - A.x)) = k * d * (B.y - A.y) - k * chainAt A B y ∧
    (crossY A B d - A.y) * (k * (B.x - A.x)) = (k * d - k * A.x) * (B.y - A.y) ∧
    (B.y - crossY A B d) * (k * (B.x - A.x)) = (k * B.x - k * d) * (B.y - A.y) := by
  have hm := div_mul_cancel₀ (B.y - A.y) (sub_ne_zero.2 (Ne.symm h))
  simp only [crossY, chainAt]
  generalize (B.y - A.y) / (B.x - A.x) = m at hm ⊢
  exact ⟨by linear_combination k * (d - A.x) * hm, by linear_combination k * (d - A.x) * hm,
    by linear_combination -(k * (d - A.x)) * hm⟩

/-- `c` is the crossing ordinate of some non-vertical edge of the chain with the vertical line `x = d` -/
def Crossing (l : List (V2 K)) (d c : K) : Prop :=
  ∃ A B, Consec l A B ∧ A.x ≠ B.x ∧ min A.x B.x ≤ d ∧ d ≤ max A.x B.x ∧ A.y ≤ c ∧ c ≤ B.y ∧ c = crossY A B d

theorem Crossing.cons {l : List (V2 K)} {d c : K} (C : V2 K) (h : Crossing l d c) : Crossing (C :: l) d c := by
  obtain ⟨A, B, hc, rest⟩ := h
  cases l with
  | nil => exact absurd hc (consec_nil _ _)
  | cons D l' => exact ⟨A, B, Or.inr hc, rest⟩

theorem le_of_mean_le {a b δ p q r : K} (hp : 0 ≤ p) (hq : 0 ≤ q) (hpq : p + q = r) (hr : 0 < r) (h : a * p + b * q ≤ δ * r)
    (hb : δ < b) : a ≤ δ := by
  have hbq : δ * q ≤ b * q := mul_le_mul_of_nonneg_right hb.le hq
  rcases hp.lt_or_eq with hp' | rfl
  · refine le_of_mul_le_mul_right ?_ hp'
    linear_combination h + hbq - δ * hpq
  · rw [zero_add] at hpq
    subst hpq
    rw [mul_zero, zero_add] at h
    exact absurd h (not_le.2 (mul_lt_mul_of_pos_right hb hr))

theorem between_of_sign {σ a b d : K} (hσ : σ = 1 ∨ σ = -1) (h1 : σ * a ≤ σ * d) (h2 : σ * d < σ * b) :
    a ≠ b ∧ min a b ≤ d ∧ d ≤ max a b := by
  refine ⟨fun e => absurd (lt_of_le_of_lt h1 h2) (by rw [e]; exact lt_irrefl _), ?_⟩
  rcases hσ with rfl | rfl
  · rw [one_mul, one_mul] at h1 h2
    exact ⟨min_le_of_left_le h1, le_max_of_le_right (le_of_lt h2)⟩
  · rw [neg_one_mul, neg_one_mul] at h1 h2
    exact ⟨min_le_of_right_le (le_of_lt (neg_lt_neg_iff.1 h2)), le_max_of_le_left (neg_le_neg_iff.1 h1)⟩

theorem edge_up {σ : K} (hσ : σ = 1 ∨ σ = -1) (A B : V2 K) (y d : K) (hAB : A.y < B.y) (hy0 : A.y ≤ y) (hy1 : y ≤ B.y)
    (hch : σ * chainAt A B y ≤ σ * d * (B.y - A.y)) (hB : σ * d < σ * B.x) :
    (A.x ≠ B.x ∧ min A.x B.x ≤ d ∧ d ≤ max A.x B.x) ∧ y ≤ crossY A B d ∧ crossY A B d ≤ B.y := by
  have hA : σ * A.x ≤ σ * d := by
    rw [chainAt, mul_add, ← mul_assoc, ← mul_assoc] at hch
    exact le_of_mean_le (sub_nonneg.2 hy1) (sub_nonneg.2 hy0) (sub_add_sub_cancel _ _ _) (sub_pos.2 hAB) hch hB
  have hbt := between_of_sign hσ hA hB
  obtain ⟨e1, _, e3⟩ := crossY_sub A B d y σ hbt.1
  have hΔ : 0 < σ * (B.x - A.x) := by rw [mul_sub]; exact sub_pos.2 (hA.trans_lt hB)
  refine ⟨hbt, sub_nonneg.1 (nonneg_of_mul_nonneg_left ?_ hΔ), sub_nonneg.1 (nonneg_of_mul_nonneg_left ?_ hΔ)⟩
  · rw [e1]; exact sub_nonneg.2 hch
  · rw [e3]; exact mul_nonneg (sub_nonneg.2 hB.le) (sub_nonneg.2 hAB.le)

theorem edge_down {σ : K} (hσ : σ = 1 ∨ σ = -1) (A B : V2 K) (y d : K) (hAB : A.y < B.y) (hy0 : A.y ≤ y) (hy1 : y ≤ B.y)
    (hch : σ * chainAt A B y ≤ σ * d * (B.y - A.y)) (hA : σ * d < σ * A.x) :
    (A.x ≠ B.x ∧ min A.x B.x ≤ d ∧ d ≤ max A.x B.x) ∧ A.y ≤ crossY A B d ∧ crossY A B d ≤ y := by
  have hB : σ * B.x ≤ σ * d := by
    rw [chainAt, add_comm, mul_add, ← mul_assoc, ← mul_assoc] at hch
    exact le_of_mean_le (sub_nonneg.2 hy0) (sub_nonneg.2 hy1) (sub_add_sub_cancel' _ _ _) (sub_pos.2 hAB) hch hA
  obtain ⟨hne, hlo, hhi⟩ := between_of_sign hσ hB hA
  obtain ⟨e1, e2, _⟩ := crossY_sub A B d y σ hne.symm
  have hΔ : σ * (B.x - A.x) < 0 := by rw [mul_sub]; exact sub_neg.2 (hB.trans_lt hA)
  refine ⟨⟨hne.symm, by rwa [min_comm], by rwa [max_comm]⟩, sub_nonneg.1 (nonneg_of_mul_nonpos_left ?_ hΔ),
    sub_nonpos.1 (nonpos_of_mul_nonneg_left ?_ hΔ)⟩
  · rw [e2]; exact mul_nonpos_of_nonpos_of_nonneg (sub_nonpos.2 hA.le) (sub_nonneg.2 hAB.le)
  · rw [e1]; exact sub_nonneg.2 hch

/-- at height `y` the chain is (weakly) left of the vertical line `x = d` (for `σ = 1`; right of it for `σ = -1`) -/
def SideAt (σ : K) (l : List (V2 K)) (y d : K) : Prop :=
  ∃ A B, Consec l A B ∧ A.y ≤ y ∧ y ≤ B.y ∧ σ * chainAt A B y ≤ σ * d * (B.y - A.y)

theorem sideAt_vertex {σ : K} (B C : V2 K) (rest : List (V2 K)) (d : K) (hBC : B.y < C.y) (hB : σ * B.x ≤ σ * d) :
    SideAt σ (B :: C :: rest) B.y d := by
  refine ⟨B, C, Or.inl ⟨rfl, rfl⟩, le_rfl, le_of_lt hBC, ?_⟩
  simp only [chainAt, sub_self, mul_zero, add_zero]
  rw [← mul_assoc]
  exact mul_le_mul_of_nonneg_right hB (le_of_lt (sub_pos.2 hBC))

theorem chain_up {σ : K} (hσ : σ = 1 ∨ σ = -1) : ∀ (l : List (V2 K)), Ascending l → ∀ y d : K, SideAt σ l y d →
    (∃ T, l.getLast? = some T ∧ σ * d < σ * T.x) → ∃ c, Crossing l d c ∧ y ≤ c
  | [], _, _, _, ⟨_, _, hc, _⟩, _ => absurd hc (consec_nil _ _)
  | [_], _, _, _, ⟨_, _, hc, _⟩, _ => absurd hc (consec_single _ _ _)
  | A :: B :: rest, hasc, y, d, ⟨A', B', hc, hy0, hy1, hch⟩, ⟨T, hT, hTx⟩ => by
    have hT : (B :: rest).getLast? = some T := hT
    have step : (∃ c, Crossing (A :: B :: rest) d c ∧ y ≤ c) ∨ ∃ y', y ≤ y' ∧ SideAt σ (B :: rest) y' d := by
      rcases hc with ⟨rfl, rfl⟩ | hc
      · by_cases hB : σ * d < σ * B'.x
        · obtain ⟨⟨hne, hlo, hhi⟩, h2, h3⟩ :=
            edge_up hσ A' B' y d (hasc A' B' (Or.inl ⟨rfl, rfl⟩)) hy0 hy1 hch hB
          exact Or.inl ⟨crossY A' B' d, ⟨A', B', Or.inl ⟨rfl, rfl⟩, hne, hlo, hhi, le_trans hy0 h2, h3, rfl⟩, h2⟩
        · cases rest with
          | nil =>
            obtain rfl : B' = T := Option.some.inj hT
            exact absurd hTx hB
          | cons C rest' =>
            exact Or.inr ⟨B'.y, hy1, sideAt_vertex B' C rest' d (hasc B' C (Or.inr (Or.inl ⟨rfl, rfl⟩))) (not_lt.1 hB)⟩
      · exact Or.inr ⟨y, le_rfl, A', B', hc, hy0, hy1, hch⟩
    rcases step with h | ⟨y', hy', hs⟩
    · exact h
    · obtain ⟨c, hcr, hyc⟩ := chain_up hσ (B :: rest) hasc.tail y' d hs ⟨T, hT, hTx⟩
      exact ⟨c, hcr.cons A, le_trans hy' hyc⟩

theorem chain_down {σ : K} (hσ : σ = 1 ∨ σ = -1) : ∀ (l : List (V2 K)), Ascending l → ∀ y d : K, SideAt σ l y d →
    (∃ H, l.head? = some H ∧ σ * d < σ * H.x) → ∃ c, Crossing l d c ∧ c ≤ y
  | [], _, _, _, ⟨_, _, hc, _⟩, _ => absurd hc (consec_nil _ _)
  | [_], _, _, _, ⟨_, _, hc, _⟩, _ => absurd hc (consec_single _ _ _)
  | A :: B :: rest, hasc, y, d, ⟨A', B', hc, hy0, hy1, hch⟩, ⟨H, hH, hHx⟩ => by
    have hABy : A.y < B.y := hasc A B (Or.inl ⟨rfl, rfl⟩)
    obtain rfl : A = H := Option.some.inj hH
    rcases hc with ⟨rfl, rfl⟩ | hc
    · obtain ⟨⟨hne, hlo, hhi⟩, h2, h3⟩ := edge_down hσ A' B' y d hABy hy0 hy1 hch hHx
      exact ⟨crossY A' B' d, ⟨A', B', Or.inl ⟨rfl, rfl⟩, hne, hlo, hhi, h2, le_trans h3 hy1, rfl⟩, h3⟩
    · by_cases hB : σ * d < σ * B.x
      · obtain ⟨c, hcr, hyc⟩ := chain_down hσ (B :: rest) hasc.tail y d ⟨A', B', hc, hy0, hy1, hch⟩ ⟨B, rfl, hB⟩
        exact ⟨c, hcr.cons A, hyc⟩
      · have hch' : σ * chainAt A B B.y ≤ σ * d * (B.y - A.y) := by
          simp only [chainAt, sub_self, mul_zero, zero_add]
          rw [← mul_assoc]
          exact mul_le_mul_of_nonneg_right (not_lt.1 hB) (le_of_lt (sub_pos.2 hABy))
        obtain ⟨⟨hne, hlo, hhi⟩, h2, h3⟩ := edge_down hσ A B B.y d hABy (le_of_lt hABy) le_rfl hch' hHx
        have hBy : B.y ≤ A'.y := Ascending.head_le rest B hasc.tail A' B' hc
        exact ⟨crossY A B d, ⟨A, B, Or.inl ⟨rfl, rfl⟩, hne, hlo, hhi, h2, h3, rfl⟩, le_trans h3 (le_trans hBy hy0)⟩

theorem chain_edge_at : ∀ (A B : V2 K) (rest : List (V2 K)) (T : V2 K) (y : K),
    (A :: B :: rest).getLast? = some T → A.y ≤ y → y ≤ T.y →
    ∃ X Y, Consec (A :: B :: rest) X Y ∧ X.y ≤ y ∧ y ≤ Y.y
  | A, B, [], T, y, hT, h0, h1 => by
    obtain rfl : B = T := Option.some.inj hT
    exact ⟨A, B, Or.inl ⟨rfl, rfl⟩, h0, h1⟩
  | A, B, C :: rest, T, y, hT, h0, h1 => by
    by_cases hy : y ≤ B.y
    · exact ⟨A, B, Or.inl ⟨rfl, rfl⟩, h0, hy⟩
    · rw [List.getLast?_cons_cons] at hT
      obtain ⟨X, Y, hc, hx, hy'⟩ := chain_edge_at B C rest T y hT (le_of_lt (not_le.1 hy)) h1
      exact ⟨X, Y, Or.inr hc, hx, hy'⟩

/-- `hQ` for `σ = 1`: `Q` is right of the chain, as every point of a convex polygon is of its left boundary -/
theorem sideAt_of_point {σ : K} (l : List (V2 K)) (H T Q : V2 K) (d : K) (hl : Ascending l) (h2 : 2 ≤ l.length)
    (hH : l.head? = some H) (hT : l.getLast? = some T)
    (hQ : ∀ A B, Consec l A B → σ * chainAt A B Q.y ≤ σ * Q.x * (B.y - A.y))
    (hy0 : H.y ≤ Q.y) (hy1 : Q.y ≤ T.y) (hx : σ * Q.x ≤ σ * d) : SideAt σ l Q.y d := by
  match l, h2, hH, hT with
  | A :: B :: rest, _, hH, hT =>
    obtain rfl : A = H := Option.some.inj hH
    obtain ⟨X, Y, hc, hX, hY⟩ := chain_edge_at A B rest T Q.y hT hy0 hy1
    exact ⟨X, Y, hc, hX, hY, le_trans (hQ X Y hc) (mul_le_mul_of_nonneg_right hx (le_of_lt (sub_pos.2 (hl X Y hc))))⟩

theorem fmin_fun : (fmin : K → K → K) = min := by funext a b; exact fmin_eq_min a b
theorem fmax_fun : (fmax : K → K → K) = max := by funext a b; exact fmax_eq_max a b

def inc (c : Bool) (y : K) (st : T2 K K) : T2 K K := if c then T2.mk (fmin st.t0 y) (fmax st.t1 y) else st

def incOpt (o : Option K) (st : T2 K K) : T2 K K :=
  match o with
  | some y => inc (decide (0.0 ≤ y) && decide (y ≤ 1.0)) y st
  | _ => st

/-- one iteration of the loop of `clip_t` -/
def clipStep (dmin dmax : K) (hull : List (V2 K)) (st : T2 K K) (idx : Nat) : T2 K K :=
  let p1 := listGet hull idx
  let p2 := listGet hull ((idx + 1) % hull.length)
  let s := solve_line_y (T2.mk dmin dmax) (T2.mk p1 p2)
  inc (decide (p2.x ≤ dmax) && decide (p2.x ≥ dmin)) p2.y
    (inc (decide (p1.x ≤ dmax) && decide (p1.x ≥ dmin)) p1.y (incOpt s.t1 (incOpt s.t0 st)))

section
variable [FConsts K]

/-- the decision tree at the end of `clip_t` -/
def clipDecide (fl : FatLineT K) (hull : List (V2 K)) (st : T2 K K) : Option (T2 K K) :=
  if decide (st.t0 > st.t1) then
    if st.t0 == fmaxval then
      if st.t1 != fminval then some (T2.mk 0.0 st.t1)
      else if decide (fl.d_min > List.foldl fmax fneginf (hull.map (fun p => p.x))) ||
              decide (fl.d_max < List.foldl fmin finf (hull.map (fun p => p.x))) then none
      else some (T2.mk 0.0 1.0)
    else some (T2.mk st.t0 1.0)
  else if decide (st.t0 < 0.0) then
    (if decide (st.t1 < 0.0) then none else if decide (st.t1 > 1.0) then some (T2.mk 0.0 1.0)
      else some (T2.mk 0.0 st.t1))
  else if decide (st.t0 > 1.0) then none
  else some (T2.mk st.t0 st.t1)

/-- the loop of `clip_t` -/
def clipLoop (fl : FatLineT K) (hull : List (V2 K)) : T2 K K :=
  foldlT (List.range' 0 (hull.length - 0)) (T2.mk fmaxval fminval) (clipStep fl.d_min fl.d_max hull)

theorem clip_t_eq (fl : FatLineT K) (w1 w2 w3 w4 : V2 K) :
    clip_t fl w1 w2 w3 w4 =
      clipDecide fl (distance_curve_convex_hull (fat_distance_curve fl w1 w2 w3 w4))
        (clipLoop fl (distance_curve_convex_hull (fat_distance_curve fl w1 w2 w3 w4))) := by
  rfl

theorem clipDecide_ordered (fl : FatLineT K) (hull : List (V2 K)) (st : T2 K K) (h : st.t0 ≤ st.t1) :
    clipDecide fl hull st =
      if st.t0 < 0 then (if st.t1 < 0 then none else if 1 < st.t1 then some (T2.mk 0 1) else some (T2.mk 0 st.t1))
      else if 1 < st.t0 then none else some st := by
  simp only [clipDecide, lit0, lit1, decide_eq_true_eq, gt_iff_lt, not_lt.2 h, if_false]

theorem clipDecide_unordered (fl : FatLineT K) (hull : List (V2 K)) (st : T2 K K) (h : st.t1 < st.t0) :
    clipDecide fl hull st =
      if st.t0 = fmaxval then
        if st.t1 ≠ fminval then some (T2.mk 0 st.t1)
        else if fl.d_min > List.foldl fmax (fneginf : K) (hull.map (fun p => p.x)) ∨
                fl.d_max < List.foldl fmin (finf : K) (hull.map (fun p => p.x)) then none
        else some (T2.mk 0 1)
      else some (T2.mk st.t0 1) := by
  simp only [clipDecide, lit0, lit1, decide_eq_true_eq, gt_iff_lt, h, if_true, beq_iff_eq, bne_iff_ne, Bool.or_eq_true]

theorem clipDecide_inside (fl : FatLineT K) (hull : List (V2 K)) (st : T2 K K) (a0 : 0 ≤ st.t0) (a1 : st.t0 ≤ st.t1)
    (a2 : st.t1 ≤ 1) : clipDecide fl hull st = some st := by
  rw [clipDecide_ordered fl hull st a1, if_neg (not_lt.2 a0), if_neg (not_lt.2 (le_trans a1 a2))]

theorem clipDecide_live (fl : FatLineT K) (hull : List (V2 K)) (st : T2 K K) (h01 : st.t0 ≤ st.t1) (h0 : st.t0 ≤ 1)
    (h1 : 0 ≤ st.t1) : ∃ r, clipDecide fl hull st = some r ∧ r.t0 ≤ max st.t0 0 ∧ min st.t1 1 ≤ r.t1 := by
  rw [clipDecide_ordered fl hull st h01]
  split_ifs with c1 c2 c3 c4
  · exact absurd h1 (not_le.2 c2)
  · exact ⟨_, rfl, le_max_right _ _, min_le_right _ _⟩
  · exact ⟨_, rfl, le_max_right _ _, min_le_left _ _⟩
  · exact absurd h0 (not_le.2 c4)
  · exact ⟨_, rfl, le_max_left _ _, min_le_left _ _⟩

end

def Wider (st st' : T2 K K) : Prop := st'.t0 ≤ st.t0 ∧ st.t1 ≤ st'.t1
/-- the pair `st` (running min, running max) has seen the value `y` -/
def Has (st : T2 K K) (y : K) : Prop := st.t0 ≤ y ∧ y ≤ st.t1

theorem Wider.refl (st : T2 K K) : Wider st st := ⟨le_rfl, le_rfl⟩
theorem Wider.trans {a b c : T2 K K} (h1 : Wider a b) (h2 : Wider b c) : Wider a c :=
  ⟨le_trans h2.1 h1.1, le_trans h1.2 h2.2⟩
theorem Has.wider {a b : T2 K K} {y : K} (h : Has a y) (w : Wider a b) : Has b y :=
  ⟨le_trans w.1 h.1, le_trans h.2 w.2⟩

theorem inc_wider (c : Bool) (y : K) (st : T2 K K) : Wider st (inc c y st) := by
  simp only [inc, fmin_eq_min, fmax_eq_max]
  split
  · exact ⟨min_le_left _ _, le_max_left _ _⟩
  · exact Wider.refl st

theorem inc_has (y : K) (st : T2 K K) : Has (inc true y st) y := by
  simp only [inc, fmin_eq_min, fmax_eq_max, if_true]
  exact ⟨min_le_right _ _, le_max_right _ _⟩

theorem incOpt_wider (o : Option K) (st : T2 K K) : Wider st (incOpt o st) := by
  cases o with
  | none => exact Wider.refl st
  | some y => exact inc_wider _ y st

theorem Has.inc {st : T2 K K} {y : K} (h : Has st y) (c : Bool) (z : K) : Has (inc c z st) y := h.wider (inc_wider c z st)
theorem Has.incOpt {st : T2 K K} {y : K} (h : Has st y) (o : Option K) : Has (incOpt o st) y := h.wider (incOpt_wider o st)

theorem incOpt_has (y : K) (st : T2 K K) (h0 : 0 ≤ y) (h1 : y ≤ 1) : Has (incOpt (some y) st) y := by
  show Has (inc (decide (0.0 ≤ y) && decide (y ≤ 1.0)) y st) y
  rw [lit0, lit1, decide_eq_true h0, decide_eq_true h1]
  exact inc_has y st

/-- candidates of iteration `idx`: crossings with the two strip borders that pass the [0,1] test, and the first end
    point of the edge if it is inside the strip (the second one is the first of the next iteration) -/
def StepCand (dmin dmax : K) (hull : List (V2 K)) (idx : Nat) (y : K) : Prop :=
  let p1 := listGet hull idx
  let p2 := listGet hull ((idx + 1) % hull.length)
  let s := solve_line_y (T2.mk dmin dmax) (T2.mk p1 p2)
  ((s.t0 = some y ∨ s.t1 = some y) ∧ 0 ≤ y ∧ y ≤ 1) ∨ (dmin ≤ p1.x ∧ p1.x ≤ dmax ∧ y = p1.y)

theorem clipStep_wider (dmin dmax : K) (hull : List (V2 K)) (st : T2 K K) (idx : Nat) :
    Wider st (clipStep dmin dmax hull st idx) := by
  simp only [clipStep]
  exact ((incOpt_wider _ st).trans (incOpt_wider _ _)).trans ((inc_wider _ _ _).trans (inc_wider _ _ _))

theorem clipStep_has (dmin dmax : K) (hull : List (V2 K)) (st : T2 K K) (idx : Nat) (y : K)
    (h : StepCand dmin dmax hull idx y) : Has (clipStep dmin dmax hull st idx) y := by
  simp only [StepCand] at h
  simp only [clipStep]
  rcases h with ⟨e | e, h0, h1⟩ | ⟨a, b, e⟩
  · rw [e]
    exact (((incOpt_has y st h0 h1).incOpt _).inc _ _).inc _ _
  · rw [e]
    exact ((incOpt_has y _ h0 h1).inc _ _).inc _ _
  · rw [decide_eq_true b, decide_eq_true (ge_iff_le.2 a), e]
    exact (inc_has _ _).inc _ _

theorem foldl_has (f : T2 K K → Nat → T2 K K) (hf : ∀ st i, Wider st (f st i)) (l : List Nat) (st : T2 K K)
    (i : Nat) (hi : i ∈ l) (y : K) (hy : ∀ st, Has (f st i) y) : Has (List.foldl f st l) y := by
  induction l generalizing st with
  | nil => exact absurd hi (by simp)
  | cons a l ih =>
    rcases List.mem_cons.1 hi with rfl | hi'
    · exact foldl_inv (Has · y) f l _ (fun b a _ h => h.wider (hf b a)) (hy st)
    · exact ih (f st a) hi'

section
variable [FConsts K]

theorem clipLoop_has (fl : FatLineT K) (hull : List (V2 K)) (idx : Nat) (hidx : idx < hull.length) (y : K)
    (h : StepCand fl.d_min fl.d_max hull idx y) : Has (clipLoop fl hull) y := by
  simp only [clipLoop, foldlT]
  refine foldl_has _ (clipStep_wider _ _ _) _ _ idx ?_ y (fun st => clipStep_has _ _ _ st idx y h)
  simp only [List.mem_range'_1, Nat.sub_zero, Nat.zero_add]
  exact ⟨Nat.zero_le _, hidx⟩

theorem solve_line_y_round (xs : T2 K K) (ps : T2 (V2 K) (V2 K)) :
    (∀ y, (solve_line_y xs ps).t0 = some y → ∃ z, y = round_y_value z) ∧
    (∀ y, (solve_line_y xs ps).t1 = some y → ∃ z, y = round_y_value z) := by
  simp only [solve_line_y]
  refine ⟨fun y hy => ?_, fun y hy => ?_⟩
  all_goals
    split_ifs at hy
    exact ⟨_, (Option.some.inj hy).symm⟩

/-- induction over the loop of `clip_t`: the values it folds in are hull ordinates and snapped crossings within [0,1] -/
theorem clipLoop_induct (P : T2 K K → Prop) (G : K → Prop) (fl : FatLineT K) (hull : List (V2 K))
    (hinit : P (T2.mk fmaxval fminval)) (hstep : ∀ y st, G y → P st → P (inc true y st))
    (hround : ∀ z, 0 ≤ round_y_value z → round_y_value z ≤ 1 → G (round_y_value z)) (hvert : ∀ p ∈ hull, G p.y) :
    P (clipLoop fl hull) := by
  have hinc : ∀ c y st, (c = true → G y) → P st → P (inc c y st) := by
    intro c y st hy h
    cases c with
    | false => exact h
    | true => exact hstep y st (hy rfl) h
  have hopt : ∀ o st, (∀ y, o = some y → ∃ z, y = round_y_value z) → P st → P (incOpt o st) := by
    intro o st ho h
    cases o with
    | none => exact h
    | some y =>
      obtain ⟨z, rfl⟩ := ho y rfl
      refine hinc _ _ st (fun hc => ?_) h
      simp only [lit0, lit1, Bool.and_eq_true, decide_eq_true_eq] at hc
      exact hround z hc.1 hc.2
  simp only [clipLoop, foldlT]
  refine foldl_inv P _ _ _ ?_ hinit
  intro st i hi h
  simp only [List.mem_range'_1, Nat.sub_zero, Nat.zero_add] at hi
  have hpos : 0 < hull.length := lt_of_le_of_lt (Nat.zero_le _) hi.2
  have hs := solve_line_y_round (T2.mk fl.d_min fl.d_max) (T2.mk (listGet hull i) (listGet hull ((i + 1) % hull.length)))
  simp only [clipStep]
  exact hinc _ _ _ (fun _ => hvert _ (listGet_mem (Nat.mod_lt _ hpos)))
    (hinc _ _ _ (fun _ => hvert _ (listGet_mem hi.2)) (hopt _ _ hs.2 (hopt _ _ hs.1 h)))

/-- each component is still the sentinel or has the property `G` -/
def LoopInv (G : K → Prop) (st : T2 K K) : Prop :=
  (st.t0 = fmaxval ∨ G st.t0) ∧ (st.t1 = fminval ∨ G st.t1)

theorem clipLoop_inv (G : K → Prop) (fl : FatLineT K) (hull : List (V2 K))
    (hround : ∀ z, 0 ≤ round_y_value z → round_y_value z ≤ 1 → G (round_y_value z)) (hvert : ∀ p ∈ hull, G p.y) :
    LoopInv G (clipLoop fl hull) := by
  refine clipLoop_induct (LoopInv G) G fl hull ⟨Or.inl rfl, Or.inl rfl⟩ ?_ hround hvert
  rintro y st gy ⟨ha, hb⟩
  simp only [inc, fmin_eq_min, fmax_eq_max, if_true, LoopInv]
  constructor
  · rcases min_choice st.t0 y with e | e <;> rw [e]
    exacts [ha, Or.inr gy]
  · rcases max_choice st.t1 y with e | e <;> rw [e]
    exacts [hb, Or.inr gy]

theorem clipDecide_some (fl : FatLineT K) (hull : List (V2 K)) (st q : T2 K K) (h : clipDecide fl hull st = some q) :
    (q = T2.mk 0 st.t1 ∧ ((st.t0 > st.t1 ∧ st.t0 = fmaxval ∧ st.t1 ≠ fminval) ∨ (st.t0 < 0 ∧ 0 ≤ st.t1 ∧ st.t1 ≤ 1))) ∨
    q = T2.mk 0 1 ∨ (q = T2.mk st.t0 1 ∧ st.t0 > st.t1 ∧ st.t0 ≠ fmaxval) ∨
    (q = st ∧ st.t0 ≤ st.t1 ∧ 0 ≤ st.t0 ∧ st.t0 ≤ 1) := by
  rcases lt_or_ge st.t1 st.t0 with c1 | c1
  · rw [clipDecide_unordered fl hull st c1] at h
    split_ifs at h with c2 c3 c4 <;> cases h
    · exact Or.inl ⟨rfl, Or.inl ⟨c1, c2, c3⟩⟩
    · exact Or.inr (Or.inl rfl)
    · exact Or.inr (Or.inr (Or.inl ⟨rfl, c1, c2⟩))
  · rw [clipDecide_ordered fl hull st c1] at h
    split_ifs at h with c5 c6 c7 c8 <;> cases h
    · exact Or.inr (Or.inl rfl)
    · exact Or.inl ⟨rfl, Or.inr ⟨c5, not_lt.1 c6, not_lt.1 c7⟩⟩
    · exact Or.inr (Or.inr (Or.inr ⟨rfl, c1, not_lt.1 c5, not_lt.1 c8⟩))

theorem clipDecide_range (fl : FatLineT K) (hull : List (V2 K)) (st : T2 K K) (hinv : LoopInv (fun y => 0 ≤ y ∧ y ≤ 1) st)
    (hminval : (fminval : K) ≤ 1) (q : T2 K K) (h : clipDecide fl hull st = some q) :
    0 ≤ q.t0 ∧ q.t1 ≤ 1 := by
  obtain ⟨ha, hb⟩ := hinv
  rcases clipDecide_some fl hull st q h with ⟨rfl, ⟨_, _, c3⟩ | ⟨_, _, c7⟩⟩ | rfl | ⟨rfl, _, c2⟩ | ⟨rfl, _, c5, _⟩
  · exact ⟨le_rfl, (hb.resolve_left c3).2⟩
  · exact ⟨le_rfl, c7⟩
  · exact ⟨le_rfl, le_rfl⟩
  · exact ⟨(ha.resolve_left c2).1, le_rfl⟩
  · refine ⟨c5, ?_⟩
    rcases hb with hb | hb
    · rw [hb]; exact hminval
    · exact hb.2

theorem clipDecide_degenerate (fl : FatLineT K) (hull : List (V2 K)) (st q : T2 K K)
    (h : clipDecide fl hull st = some q) (he : q.t0 = q.t1) : 0 ≤ q.t0 ∧ q.t1 ≤ 1 := by
  rcases clipDecide_some fl hull st q h with ⟨rfl, _⟩ | rfl | ⟨rfl, _⟩ | ⟨rfl, _, c5, c8⟩
  · exact ⟨le_rfl, by rw [← he]; exact zero_le_one⟩
  · exact ⟨le_rfl, le_rfl⟩
  · exact ⟨by rw [he]; exact zero_le_one, le_rfl⟩
  · exact ⟨c5, by rw [← he]; exact c8⟩

/-- nothing seen yet, or both components have `G` and are in order -/
def TightInv (G : K → Prop) (st : T2 K K) : Prop :=
  (st.t0 = fmaxval ∧ st.t1 = fminval) ∨ (G st.t0 ∧ G st.t1 ∧ st.t0 ≤ st.t1)

theorem clipLoop_tight (hM : 1 ≤ (fmaxval : K)) (hm : (fminval : K) ≤ 0) {G : K → Prop} (hG : ∀ y, G y → 0 ≤ y ∧ y ≤ 1)
    (fl : FatLineT K) (hull : List (V2 K))
    (hround : ∀ z, 0 ≤ round_y_value z → round_y_value z ≤ 1 → G (round_y_value z)) (hvert : ∀ p ∈ hull, G p.y) :
    TightInv G (clipLoop fl hull) := by
  refine clipLoop_induct (TightInv G) G fl hull (Or.inl ⟨rfl, rfl⟩) ?_ hround hvert
  rintro y st gy h
  simp only [inc, fmin_eq_min, fmax_eq_max, if_true, TightInv]
  right
  rcases h with ⟨e0, e1⟩ | ⟨g0, g1, a1⟩
  · rw [e0, e1, min_eq_right (le_trans (hG y gy).2 hM), max_eq_right (le_trans hm (hG y gy).1)]
    exact ⟨gy, gy, le_rfl⟩
  · refine ⟨?_, ?_, le_trans (min_le_left _ _) (le_trans a1 (le_max_left _ _))⟩
    · rcases min_choice st.t0 y with e | e <;> rw [e]
      exacts [g0, gy]
    · rcases max_choice st.t1 y with e | e <;> rw [e]
      exacts [g1, gy]

theorem clipDecide_shape (hM : 1 ≤ (fmaxval : K)) (hm : (fminval : K) ≤ 0) (fl : FatLineT K) (hull : List (V2 K))
    (st : T2 K K) (h : TightInv (fun y => 0 ≤ y ∧ y ≤ 1) st) :
    clipDecide fl hull st = none ∨ clipDecide fl hull st = some (T2.mk 0 1) ∨
    (clipDecide fl hull st = some st ∧ 0 ≤ st.t0 ∧ st.t0 ≤ st.t1 ∧ st.t1 ≤ 1) := by
  rcases h with ⟨e0, e1⟩ | ⟨⟨a0, _⟩, ⟨_, a2⟩, a1⟩
  · have hgt : st.t1 < st.t0 := by rw [e0, e1]; exact lt_of_le_of_lt hm (lt_of_lt_of_le zero_lt_one hM)
    rw [clipDecide_unordered fl hull st hgt, if_pos e0, if_neg (not_not.2 e1)]
    split_ifs
    · exact Or.inl rfl
    · exact Or.inr (Or.inl rfl)
  · exact Or.inr (Or.inr ⟨clipDecide_inside fl hull st a0 a1 a2, a0, a1, a2⟩)

end

theorem round_lits :
    (0.00001 : K) = 1/100000 ∧ (0.001 : K) = 1/1000 ∧ (0.99999 : K) = 99999/100000 ∧ (1.001 : K) = 1001/1000 := by
  norm_num

theorem round_y_cases (y : K) :
    (y < 1/100000 ∧ -(1/1000) < y ∧ round_y_value y = 0) ∨ (99999/100000 < y ∧ y < 1001/1000 ∧ round_y_value y = 1) ∨
    (¬ (y < 1/100000 ∧ -(1/1000) < y) ∧ ¬ (99999/100000 < y ∧ y < 1001/1000) ∧ round_y_value y = y) := by
  simp only [round_y_value, lit0, lit1, Bool.and_eq_true, decide_eq_true_eq, gt_iff_lt, round_lits.1, round_lits.2.1,
    round_lits.2.2.1, round_lits.2.2.2]
  split_ifs with c1 c2
  · exact Or.inl ⟨c1.1, c1.2, rfl⟩
  · exact Or.inr (Or.inl ⟨c2.1, c2.2, rfl⟩)
  · exact Or.inr (Or.inr ⟨c1, c2, rfl⟩)

theorem round_above (c t : K) (h0 : 0 ≤ c) (h1 : c ≤ 1) (ht : t ≤ c) :
    0 ≤ round_y_value c ∧ round_y_value c ≤ 1 ∧ (t ≤ round_y_value c ∨ (round_y_value c = 0 ∧ t < 1/100000)) := by
  rcases round_y_cases c with ⟨hlt, _, e⟩ | ⟨_, _, e⟩ | ⟨_, _, e⟩ <;> rw [e]
  · exact ⟨le_rfl, zero_le_one, Or.inr ⟨rfl, lt_of_le_of_lt ht hlt⟩⟩
  · exact ⟨zero_le_one, le_rfl, Or.inl (le_trans ht h1)⟩
  · exact ⟨h0, h1, Or.inl ht⟩

theorem round_below (c t : K) (h0 : 0 ≤ c) (h1 : c ≤ 1) (ht : c ≤ t) :
    0 ≤ round_y_value c ∧ round_y_value c ≤ 1 ∧ (round_y_value c ≤ t ∨ (round_y_value c = 1 ∧ 99999/100000 < t)) := by
  rcases round_y_cases c with ⟨_, _, e⟩ | ⟨hgt, _, e⟩ | ⟨_, _, e⟩ <;> rw [e]
  · exact ⟨le_rfl, zero_le_one, Or.inl (le_trans h0 ht)⟩
  · exact ⟨zero_le_one, le_rfl, Or.inr ⟨rfl, lt_of_lt_of_le hgt ht⟩⟩
  · exact ⟨h0, h1, Or.inl ht⟩

theorem solve_cross (d1 d2 : K) (A B : V2 K) (d : K) (hd : d = d1 ∨ d = d2) (hlo : min A.x B.x ≤ d) (hhi : d ≤ max A.x B.x) :
    (solve_line_y (T2.mk d1 d2) (T2.mk A B)).t0 = some (round_y_value (crossY A B d)) ∨
    (solve_line_y (T2.mk d1 d2) (T2.mk A B)).t1 = some (round_y_value (crossY A B d)) := by
  have hc : (decide (d ≥ min A.x B.x) && decide (d ≤ max A.x B.x)) = true := by
    simp only [Bool.and_eq_true, decide_eq_true_eq]; exact ⟨hlo, hhi⟩
  rcases hd with rfl | rfl
  · left; simp only [solve_line_y, fmin_eq_min, fmax_eq_max, crossY, hc, if_true]
  · right; simp only [solve_line_y, fmin_eq_min, fmax_eq_max, crossY, hc, if_true]

/-- `(A, B)` is an edge the loop walks (in one of the two directions) -/
def EdgeOf (hull : List (V2 K)) (A B : V2 K) : Prop :=
  ∃ i, i < hull.length ∧
    ((listGet hull i = A ∧ listGet hull ((i + 1) % hull.length) = B) ∨
     (listGet hull i = B ∧ listGet hull ((i + 1) % hull.length) = A))

theorem edgeOf_fwd (hull : List (V2 K)) (i : Nat) (hi : i < hull.length) :
    EdgeOf hull (listGet hull i) (listGet hull ((i + 1) % hull.length)) := ⟨i, hi, Or.inl ⟨rfl, rfl⟩⟩
theorem edgeOf_rev (hull : List (V2 K)) (i : Nat) (hi : i < hull.length) :
    EdgeOf hull (listGet hull ((i + 1) % hull.length)) (listGet hull i) := ⟨i, hi, Or.inr ⟨rfl, rfl⟩⟩

theorem EdgeOf.mem {hull : List (V2 K)} {A B : V2 K} (h : EdgeOf hull A B) : A ∈ hull ∧ B ∈ hull := by
  obtain ⟨i, hi, h⟩ := h
  have hpos : 0 < hull.length := lt_of_le_of_lt (Nat.zero_le _) hi
  have m1 : listGet hull i ∈ hull := listGet_mem hi
  have m2 : listGet hull ((i + 1) % hull.length) ∈ hull := listGet_mem (Nat.mod_lt _ hpos)
  rcases h with ⟨rfl, rfl⟩ | ⟨rfl, rfl⟩
  · exact ⟨m1, m2⟩
  · exact ⟨m2, m1⟩

section
variable [FConsts K]

theorem vertex_has (fl : FatLineT K) (hull : List (V2 K)) (p : V2 K) (hp : p ∈ hull)
    (h0 : fl.d_min ≤ p.x) (h1 : p.x ≤ fl.d_max) : Has (clipLoop fl hull) p.y := by
  obtain ⟨i, hi, rfl⟩ := List.getElem_of_mem hp
  have e : listGet hull i = hull[i] := by simp only [listGet]; exact getElem!_pos hull i hi
  refine clipLoop_has fl hull i hi _ ?_
  simp only [StepCand]
  exact Or.inr ⟨by rw [e]; exact h0, by rw [e]; exact h1, by rw [e]⟩

theorem crossing_has (fl : FatLineT K) (hull : List (V2 K)) (hord : ∀ p ∈ hull, 0 ≤ p.y ∧ p.y ≤ 1)
    (l : List (V2 K)) (hedges : ∀ A B, Consec l A B → EdgeOf hull A B) (d : K) (hd : d = fl.d_min ∨ d = fl.d_max)
    (c : K) (h : Crossing l d c) : 0 ≤ c ∧ c ≤ 1 ∧ Has (clipLoop fl hull) (round_y_value c) := by
  obtain ⟨A, B, hc, hne, hlo, hhi, hcA, hcB, rfl⟩ := h
  have he := hedges A B hc
  obtain ⟨mA, mB⟩ := he.mem
  have c0 : 0 ≤ crossY A B d := le_trans (hord A mA).1 hcA
  have c1 : crossY A B d ≤ 1 := le_trans hcB (hord B mB).2
  refine ⟨c0, c1, ?_⟩
  obtain ⟨i, hi, h⟩ := he
  refine clipLoop_has fl hull i hi _ ?_
  simp only [StepCand]
  refine Or.inl ⟨?_, (round_above _ _ c0 c1 le_rfl).1, (round_above _ _ c0 c1 le_rfl).2.1⟩
  rcases h with ⟨e1, e2⟩ | ⟨e1, e2⟩
  · rw [e1, e2]; exact solve_cross _ _ A B d hd hlo hhi
  · rw [e1, e2, crossY_symm A B _ hne]
    exact solve_cross _ _ B A d hd (by rw [min_comm]; exact hlo) (by rw [max_comm]; exact hhi)

end

/-- `l` is a chain of walked edges of `hull` from `P0` up to `P3` with all four control points on its σ-side: the left
    (`σ = 1`) or right (`σ = -1`) boundary of the hull of the control polygon -/
structure Chain (σ : K) (hull l : List (V2 K)) (P0 P1 P2 P3 : V2 K) : Prop where
  asc : Ascending l
  len : 2 ≤ l.length
  head : l.head? = some P0
  last : l.getLast? = some P3
  edges : ∀ A B, Consec l A B → EdgeOf hull A B
  half : ∀ A B, Consec l A B →
    σ * orient A B P0 ≤ 0 ∧ σ * orient A B P1 ≤ 0 ∧ σ * orient A B P2 ≤ 0 ∧ σ * orient A B P3 ≤ 0
  mem0 : P0 ∈ hull
  mem3 : P3 ∈ hull

/-- "on the σ-side of an edge line" is an affine condition: it passes from the control points to the curve point -/
theorem Chain.curve_side {σ : K} {hull l : List (V2 K)} {P0 P1 P2 P3 : V2 K} (hb : Chain σ hull l P0 P1 P2 P3)
    (hy0 : P0.y = 0) (hy1 : P1.y = 1/3) (hy2 : P2.y = 2/3) (hy3 : P3.y = 1) (t : K) (h0 : 0 ≤ t) (h1 : t ≤ 1)
    (A B : V2 K) (hc : Consec l A B) :
    σ * chainAt A B t ≤ σ * bern t P0.x P1.x P2.x P3.x * (B.y - A.y) := by
  obtain ⟨g0, g1, g2, g3⟩ := hb.half A B hc
  have key : σ * bern t P0.x P1.x P2.x P3.x * (B.y - A.y) - σ * chainAt A B t =
      bern t (-(σ * orient A B P0)) (-(σ * orient A B P1)) (-(σ * orient A B P2)) (-(σ * orient A B P3)) := by
    simp only [orient, chainAt, bern, hy0, hy1, hy2, hy3]; ring
  have := bern_nonneg t _ _ _ _ h0 h1 (neg_nonneg.2 g0) (neg_nonneg.2 g1) (neg_nonneg.2 g2) (neg_nonneg.2 g3)
  rw [← key] at this
  exact sub_nonneg.1 this

theorem Chain.sideAt_curve {σ : K} {hull l : List (V2 K)} {P0 P1 P2 P3 : V2 K} (hb : Chain σ hull l P0 P1 P2 P3)
    (hy0 : P0.y = 0) (hy1 : P1.y = 1/3) (hy2 : P2.y = 2/3) (hy3 : P3.y = 1) (t : K) (h0 : 0 ≤ t) (h1 : t ≤ 1) (d : K)
    (hx : σ * bern t P0.x P1.x P2.x P3.x ≤ σ * d) : SideAt σ l t d :=
  sideAt_of_point l P0 P3 ⟨bern t P0.x P1.x P2.x P3.x, t⟩ d hb.asc hb.len hb.head hb.last
    (hb.curve_side hy0 hy1 hy2 hy3 t h0 h1) (by rw [hy0]; exact h0) (by rw [hy3]; exact h1) hx

theorem strip_cases {dmin dmax b : K} (hb : dmin ≤ b ∧ b ≤ dmax) (e : K) :
    (dmin ≤ e ∧ e ≤ dmax) ∨ ∃ σ d : K, (σ = 1 ∨ σ = -1) ∧ (d = dmin ∨ d = dmax) ∧ σ * b ≤ σ * d ∧ σ * d < σ * e := by
  by_cases hmax : dmax < e
  · exact Or.inr ⟨1, dmax, Or.inl rfl, Or.inr rfl, by rw [one_mul, one_mul]; exact hb.2, by rw [one_mul, one_mul]; exact hmax⟩
  by_cases hmin : e < dmin
  · exact Or.inr ⟨-1, dmin, Or.inr rfl, Or.inl rfl, by rw [neg_one_mul, neg_one_mul]; exact neg_le_neg hb.1,
      by rw [neg_one_mul, neg_one_mul]; exact neg_lt_neg hmin⟩
  · exact Or.inl ⟨not_lt.1 hmin, not_lt.1 hmax⟩

section
variable [FConsts K] (fl : FatLineT K) (hull : List (V2 K)) (P0 P1 P2 P3 : V2 K)
  (hC : ∀ σ : K, σ = 1 ∨ σ = -1 → ∃ l, Chain σ hull l P0 P1 P2 P3)
  (hy0 : P0.y = 0) (hy1 : P1.y = 1/3) (hy2 : P2.y = 2/3) (hy3 : P3.y = 1)
  (hord : ∀ p ∈ hull, 0 ≤ p.y ∧ p.y ≤ 1) (t : K) (h0 : 0 ≤ t) (h1 : t ≤ 1)
  (hin : fl.d_min ≤ bern t P0.x P1.x P2.x P3.x ∧ bern t P0.x P1.x P2.x P3.x ≤ fl.d_max)
include hC hy0 hy1 hy2 hy3 hord h0 h1 hin

/-- the ordinate of the top vertex `P3` if it is in the strip; else the left chain, which ends right of `d_max`, crosses
    `d_max` above `t`, or the right chain `d_min` -/
theorem candidate_above :
    ∃ c, Has (clipLoop fl hull) c ∧ 0 ≤ c ∧ c ≤ 1 ∧ (t ≤ c ∨ (c = 0 ∧ t < 1/100000)) := by
  rcases strip_cases hin P3.x with ⟨hmin, hmax⟩ | ⟨σ, d, hσ, hd, hx, hT⟩
  · obtain ⟨l, hb⟩ := hC 1 (Or.inl rfl)
    exact ⟨P3.y, vertex_has fl hull P3 hb.mem3 hmin hmax, by rw [hy3]; exact zero_le_one, by rw [hy3],
      Or.inl (by rw [hy3]; exact h1)⟩
  · obtain ⟨l, hb⟩ := hC σ hσ
    obtain ⟨c, hcr, hc⟩ := chain_up hσ l hb.asc t d (hb.sideAt_curve hy0 hy1 hy2 hy3 t h0 h1 d hx) ⟨P3, hb.last, hT⟩
    obtain ⟨c0, c1, hh⟩ := crossing_has fl hull hord l hb.edges d hd c hcr
    exact ⟨_, hh, round_above c t c0 c1 hc⟩

theorem candidate_below :
    ∃ c, Has (clipLoop fl hull) c ∧ 0 ≤ c ∧ c ≤ 1 ∧ (c ≤ t ∨ (c = 1 ∧ 99999/100000 < t)) := by
  rcases strip_cases hin P0.x with ⟨hmin, hmax⟩ | ⟨σ, d, hσ, hd, hx, hH⟩
  · obtain ⟨l, hb⟩ := hC 1 (Or.inl rfl)
    exact ⟨P0.y, vertex_has fl hull P0 hb.mem0 hmin hmax, by rw [hy0], by rw [hy0]; exact zero_le_one,
      Or.inl (by rw [hy0]; exact h0)⟩
  · obtain ⟨l, hb⟩ := hC σ hσ
    obtain ⟨c, hcr, hc⟩ := chain_down hσ l hb.asc t d (hb.sideAt_curve hy0 hy1 hy2 hy3 t h0 h1 d hx) ⟨P0, hb.head, hH⟩
    obtain ⟨c0, c1, hh⟩ := crossing_has fl hull hord l hb.edges d hd c hcr
    exact ⟨_, hh, round_below c t c0 c1 hc⟩

end

theorem forall_consec_cons {p : V2 K → V2 K → Prop} {X Y : V2 K} {rest : List (V2 K)} :
    (∀ A B, Consec (X :: Y :: rest) A B → p A B) ↔ p X Y ∧ ∀ A B, Consec (Y :: rest) A B → p A B := by
  constructor
  · intro h; exact ⟨h X Y (Or.inl ⟨rfl, rfl⟩), fun A B hc => h A B (Or.inr hc)⟩
  · rintro ⟨h1, h2⟩ A B (⟨rfl, rfl⟩ | hc)
    exacts [h1, h2 A B hc]

theorem forall_consec2 {p : V2 K → V2 K → Prop} {X Y : V2 K} : (∀ A B, Consec [X, Y] A B → p A B) ↔ p X Y :=
  forall_consec_cons.trans (and_iff_left fun _ _ hc => absurd hc (consec_single _ _ _))

theorem forall_consec3 {p : V2 K → V2 K → Prop} {X Y Z : V2 K} :
    (∀ A B, Consec [X, Y, Z] A B → p A B) ↔ p X Y ∧ p Y Z :=
  forall_consec_cons.trans (and_congr_right' forall_consec2)

theorem forall_consec4 {p : V2 K → V2 K → Prop} {X Y Z W : V2 K} :
    (∀ A B, Consec [X, Y, Z, W] A B → p A B) ↔ p X Y ∧ p Y Z ∧ p Z W :=
  forall_consec_cons.trans (and_congr_right' forall_consec3)

theorem EdgeOf.symm {hull : List (V2 K)} {A B : V2 K} (h : EdgeOf hull A B) : EdgeOf hull B A :=
  h.imp fun _ hi => hi.imp id Or.symm

theorem edge3_01 (X Y Z : V2 K) : EdgeOf [X, Y, Z] X Y := ⟨0, by simp, Or.inl ⟨rfl, rfl⟩⟩
theorem edge3_12 (X Y Z : V2 K) : EdgeOf [X, Y, Z] Y Z := ⟨1, by simp, Or.inl ⟨rfl, rfl⟩⟩
theorem edge3_20 (X Y Z : V2 K) : EdgeOf [X, Y, Z] Z X := ⟨2, by simp, Or.inl ⟨rfl, by simp [listGet]⟩⟩
theorem edge3_10 (X Y Z : V2 K) : EdgeOf [X, Y, Z] Y X := (edge3_01 X Y Z).symm
theorem edge3_21 (X Y Z : V2 K) : EdgeOf [X, Y, Z] Z Y := (edge3_12 X Y Z).symm
theorem edge3_02 (X Y Z : V2 K) : EdgeOf [X, Y, Z] X Z := (edge3_20 X Y Z).symm
theorem edge4_01 (X Y Z W : V2 K) : EdgeOf [X, Y, Z, W] X Y := ⟨0, by simp, Or.inl ⟨rfl, rfl⟩⟩
theorem edge4_12 (X Y Z W : V2 K) : EdgeOf [X, Y, Z, W] Y Z := ⟨1, by simp, Or.inl ⟨rfl, rfl⟩⟩
theorem edge4_23 (X Y Z W : V2 K) : EdgeOf [X, Y, Z, W] Z W := ⟨2, by simp, Or.inl ⟨rfl, rfl⟩⟩
theorem edge4_30 (X Y Z W : V2 K) : EdgeOf [X, Y, Z, W] W X := ⟨3, by simp, Or.inl ⟨rfl, by simp [listGet]⟩⟩
theorem edge4_10 (X Y Z W : V2 K) : EdgeOf [X, Y, Z, W] Y X := (edge4_01 X Y Z W).symm
theorem edge4_21 (X Y Z W : V2 K) : EdgeOf [X, Y, Z, W] Z Y := (edge4_12 X Y Z W).symm
theorem edge4_32 (X Y Z W : V2 K) : EdgeOf [X, Y, Z, W] W Z := (edge4_23 X Y Z W).symm
theorem edge4_03 (X Y Z W : V2 K) : EdgeOf [X, Y, Z, W] X W := (edge4_30 X Y Z W).symm

/-! Every condition "control point `P` is on the σ-side of the edge `A → B`" between control points is, up to sign, one of
the four triangle orientations `orient Pi Pj Pk` (`i < j < k`), or `0` when `P` is an end of the edge: their signs decide
which list is a boundary chain on which side. -/

section
variable {σ : K} {hull : List (V2 K)} {P0 P1 P2 P3 : V2 K}

theorem side_left {A B : V2 K} : σ * orient A B A ≤ 0 := by rw [orient_left, mul_zero]
theorem side_right {A B : V2 K} : σ * orient A B B ≤ 0 := by rw [orient_right, mul_zero]
theorem side_rot {A B P : V2 K} (h : σ * orient A B P ≤ 0) : σ * orient B P A ≤ 0 := by rwa [orient_rot]
theorem side_swap {A B P : V2 K} (h : 0 ≤ σ * orient A B P) : σ * orient A P B ≤ 0 := by
  rw [orient_swap, mul_neg]; exact neg_nonpos.2 h
theorem side_neg_of_nonneg {x : K} (h : 0 ≤ σ * x) : -σ * x ≤ 0 := (neg_mul σ x).trans_le (neg_nonpos.2 h)
theorem nonneg_neg_of_side {x : K} (h : σ * x ≤ 0) : 0 ≤ -σ * x := (neg_nonneg.2 h).trans_eq (neg_mul σ x).symm

theorem chain_03 (y03 : P0.y < P3.y) (he : EdgeOf hull P0 P3) (t013 : 0 ≤ σ * orient P0 P1 P3)
    (t023 : 0 ≤ σ * orient P0 P2 P3) : Chain σ hull [P0, P3] P0 P1 P2 P3 :=
  ⟨forall_consec2.2 y03, le_rfl, rfl, rfl, forall_consec2.2 he,
    forall_consec2.2 ⟨side_left, side_swap t013, side_swap t023, side_right⟩,
    he.mem.1, he.mem.2⟩

theorem chain_013 (y01 : P0.y < P1.y) (y13 : P1.y < P3.y) (he1 : EdgeOf hull P0 P1) (he2 : EdgeOf hull P1 P3)
    (t012 : σ * orient P0 P1 P2 ≤ 0) (t013 : σ * orient P0 P1 P3 ≤ 0) (t123 : 0 ≤ σ * orient P1 P2 P3) :
    Chain σ hull [P0, P1, P3] P0 P1 P2 P3 :=
  ⟨forall_consec3.2 ⟨y01, y13⟩, Nat.le_succ 2, rfl, rfl, forall_consec3.2 ⟨he1, he2⟩,
    forall_consec3.2 ⟨⟨side_left, side_right, t012, t013⟩,
      ⟨side_rot t013, side_left, side_swap t123, side_right⟩⟩,
    he1.mem.1, he2.mem.2⟩

theorem chain_023 (y02 : P0.y < P2.y) (y23 : P2.y < P3.y) (he1 : EdgeOf hull P0 P2) (he2 : EdgeOf hull P2 P3)
    (t012 : 0 ≤ σ * orient P0 P1 P2) (t023 : σ * orient P0 P2 P3 ≤ 0) (t123 : σ * orient P1 P2 P3 ≤ 0) :
    Chain σ hull [P0, P2, P3] P0 P1 P2 P3 :=
  ⟨forall_consec3.2 ⟨y02, y23⟩, Nat.le_succ 2, rfl, rfl, forall_consec3.2 ⟨he1, he2⟩,
    forall_consec3.2 ⟨⟨side_left, side_swap t012, side_right, t023⟩,
      ⟨side_rot t023, side_rot t123, side_left, side_right⟩⟩,
    he1.mem.1, he2.mem.2⟩

theorem chain_0123 (y01 : P0.y < P1.y) (y12 : P1.y < P2.y) (y23 : P2.y < P3.y) (he1 : EdgeOf hull P0 P1)
    (he2 : EdgeOf hull P1 P2) (he3 : EdgeOf hull P2 P3) (t012 : σ * orient P0 P1 P2 ≤ 0) (t013 : σ * orient P0 P1 P3 ≤ 0)
    (t023 : σ * orient P0 P2 P3 ≤ 0) (t123 : σ * orient P1 P2 P3 ≤ 0) :
    Chain σ hull [P0, P1, P2, P3] P0 P1 P2 P3 :=
  ⟨forall_consec4.2 ⟨y01, y12, y23⟩, Nat.le_add_left 2 2, rfl, rfl,
    forall_consec4.2 ⟨he1, he2, he3⟩,
    forall_consec4.2 ⟨⟨side_left, side_right, t012, t013⟩,
      ⟨side_rot t012, side_left, side_right, t123⟩,
      ⟨side_rot t023, side_rot t123, side_left, side_right⟩⟩,
    he1.mem.1, he3.mem.2⟩

theorem bracket_of_sign (hσ : σ = 1 ∨ σ = -1) {X Y : List (V2 K)} (hX : Chain σ hull X P0 P1 P2 P3)
    (hY : Chain (-σ) hull Y P0 P1 P2 P3) : ∀ τ : K, τ = 1 ∨ τ = -1 → ∃ l, Chain τ hull l P0 P1 P2 P3 := by
  rintro τ hτ
  have : τ = σ ∨ τ = -σ := by
    rcases hσ with rfl | rfl <;> rcases hτ with rfl | rfl
    exacts [Or.inl rfl, Or.inr rfl, Or.inr (neg_neg 1).symm, Or.inl rfl]
  rcases this with rfl | rfl
  exacts [⟨X, hX⟩, ⟨Y, hY⟩]

end

theorem same_sign {u v : K} (h : 0 ≤ u * v) :
    ∃ σ : K, (σ = 1 ∨ σ = -1) ∧ |u| = σ * u ∧ |v| = σ * v ∧ 0 ≤ σ * u ∧ 0 ≤ σ * v := by
  rcases mul_nonneg_iff.1 h with ⟨u0, v0⟩ | ⟨u0, v0⟩
  · exact ⟨1, Or.inl rfl, by rw [abs_of_nonneg u0, one_mul], by rw [abs_of_nonneg v0, one_mul], by rwa [one_mul],
      by rwa [one_mul]⟩
  · exact ⟨-1, Or.inr rfl, by rw [abs_of_nonpos u0, neg_one_mul], by rw [abs_of_nonpos v0, neg_one_mul],
      by rw [neg_one_mul]; exact neg_nonneg.2 u0, by rw [neg_one_mul]; exact neg_nonneg.2 v0⟩

theorem opposite_sign {u v : K} (h : u * v < 0) : ∃ σ : K, (σ = 1 ∨ σ = -1) ∧ 0 < σ * u ∧ σ * v < 0 := by
  rcases mul_neg_iff.1 h with ⟨u0, v0⟩ | ⟨u0, v0⟩
  · exact ⟨1, Or.inl rfl, by rwa [one_mul], by rwa [one_mul]⟩
  · exact ⟨-1, Or.inr rfl, by rw [neg_one_mul]; exact neg_pos.2 u0, by rw [neg_one_mul]; exact neg_neg_of_pos v0⟩

/-- `u`, `v` are the horizontal offsets of the inner control points from the chord -/
theorem hull_cases (P0 P1 P2 P3 : V2 K) {u v : K} (hu : P1.x - ((P3.x - P0.x) * (1/3) + P0.x) = u)
    (hv : P2.x - ((P3.x - P0.x) * (2/3) + P0.x) = v) :
    (0 ≤ u * v ∧
      ((2 * |v| ≤ |u| ∧ distance_curve_convex_hull (T4.mk P0 P1 P2 P3) = [P0, P1, P3]) ∨
       (2 * |u| ≤ |v| ∧ distance_curve_convex_hull (T4.mk P0 P1 P2 P3) = [P0, P2, P3]) ∨
       (|u| < 2 * |v| ∧ |v| < 2 * |u| ∧ distance_curve_convex_hull (T4.mk P0 P1 P2 P3) = [P0, P1, P2, P3]))) ∨
    (u * v < 0 ∧ distance_curve_convex_hull (T4.mk P0 P1 P2 P3) = [P0, P1, P3, P2]) := by
  simp only [distance_curve_convex_hull, lit0, lit1, lit2, lit3, fabs, decide_eq_true_eq, hu, hv]
  split_ifs with c1 c2 c3
  · exact Or.inl ⟨c1, Or.inl ⟨c2, rfl⟩⟩
  · exact Or.inl ⟨c1, Or.inr (Or.inl ⟨c3, rfl⟩)⟩
  · exact Or.inl ⟨c1, Or.inr (Or.inr ⟨not_le.1 c2, not_le.1 c3, rfl⟩)⟩
  · exact Or.inr ⟨not_le.1 c1, rfl⟩

/-- The offsets `u`, `v` of `hull_cases` are the orientations of `P0 P1 P3` and `P0 P2 P3`, the other two triangle
    orientations are `(2u - v)/3` and `(2v - u)/3`, and the branch conditions fix their signs. -/
theorem hull_bracket (P0 P1 P2 P3 : V2 K) (hy0 : P0.y = 0) (hy1 : P1.y = 1/3) (hy2 : P2.y = 2/3) (hy3 : P3.y = 1) :
    ∀ σ : K, σ = 1 ∨ σ = -1 → ∃ l, Chain σ (distance_curve_convex_hull (T4.mk P0 P1 P2 P3)) l P0 P1 P2 P3 := by
  obtain ⟨y01, y12, y23⟩ : P0.y < P1.y ∧ P1.y < P2.y ∧ P2.y < P3.y := by rw [hy0, hy1, hy2, hy3]; norm_num
  have hu : P1.x - ((P3.x - P0.x) * (1/3) + P0.x) = orient P0 P1 P3 := by
    simp only [orient, chainAt, hy0, hy1, hy3]; ring
  have hv : P2.x - ((P3.x - P0.x) * (2/3) + P0.x) = orient P0 P2 P3 := by
    simp only [orient, chainAt, hy0, hy2, hy3]; ring
  have T012 : orient P0 P1 P2 = (2 * orient P0 P1 P3 - orient P0 P2 P3) / 3 := by
    simp only [orient, chainAt, hy0, hy1, hy2, hy3]; ring
  have T123 : orient P1 P2 P3 = (2 * orient P0 P2 P3 - orient P0 P1 P3) / 3 := by
    simp only [orient, chainAt, hy0, hy1, hy2, hy3]; ring
  rcases hull_cases P0 P1 P2 P3 hu hv with ⟨c1, h⟩ | ⟨c1, e⟩
  · -- same side: the chord is one chain, the other runs through cp1, cp2 or both
    obtain ⟨σ, hσ, eu, ev, a0, b0⟩ := same_sign c1
    rw [eu, ev] at h
    have h03 : ∀ {hull}, EdgeOf hull P0 P3 → Chain σ hull [P0, P3] P0 P1 P2 P3 := fun he =>
      chain_03 ((y01.trans y12).trans y23) he a0 b0
    rcases h with ⟨c2, e⟩ | ⟨c3, e⟩ | ⟨c2, c3, e⟩ <;> rw [e]
    · exact bracket_of_sign hσ (h03 (edge3_02 _ _ _))
        (chain_013 y01 (y12.trans y23) (edge3_01 _ _ _) (edge3_12 _ _ _)
          (by rw [T012]; linear_combination (1/2) * a0 + (1/6) * c2) (side_neg_of_nonneg a0)
          (by rw [T123]; linear_combination (1/3) * c2))
    · exact bracket_of_sign hσ (h03 (edge3_02 _ _ _))
        (chain_023 (y01.trans y12) y23 (edge3_01 _ _ _) (edge3_12 _ _ _) (by rw [T012]; linear_combination (1/3) * c3)
          (side_neg_of_nonneg b0) (by rw [T123]; linear_combination (1/2) * b0 + (1/6) * c3))
    · exact bracket_of_sign hσ (h03 (edge4_03 _ _ _ _))
        (chain_0123 y01 y12 y23 (edge4_01 _ _ _ _) (edge4_12 _ _ _ _) (edge4_23 _ _ _ _)
          (by rw [T012]; linear_combination (1/3) * c3) (side_neg_of_nonneg a0) (side_neg_of_nonneg b0)
          (by rw [T123]; linear_combination (1/3) * c2))
  · -- opposite sides: [start, cp1, end, cp2], one chain through cp1, the other through cp2
    rw [e]
    obtain ⟨σ, hσ, a0, b0⟩ := opposite_sign c1
    have g : 0 ≤ σ * orient P0 P1 P2 := by rw [T012]; linear_combination (2/3) * a0 + (1/3) * b0
    have d : σ * orient P1 P2 P3 ≤ 0 := by rw [T123]; linear_combination (1/3) * a0 + (2/3) * b0
    exact bracket_of_sign hσ
      (chain_023 (y01.trans y12) y23 (edge4_03 _ _ _ _) (edge4_32 _ _ _ _) g b0.le d)
      (chain_013 y01 (y12.trans y23) (edge4_01 _ _ _ _) (edge4_12 _ _ _ _) (side_neg_of_nonneg g)
        (side_neg_of_nonneg a0.le) (nonneg_neg_of_side d))

end FatLineLemmas
