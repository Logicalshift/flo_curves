/-
Helper lemmas for C16 (scan conversion of a path): the list mechanism between the root solver and the returned ranges.
The clip stage `raycast_intercepts_on_line`, the `tuples()` pairing of a sorted list (order, crossing parity), the stable
insertion sort `listSortBy`, `remove_duplicate_intercepts` as the fuel-free recursion `dedupe`, the row and column closures
as compositions of these stages, and the hits gathered for a scanline as a set.
-/
import FloVerif.Model.PathContour
import FloVerif.Lemmas.Basics
import FloVerif.Lemmas.Sort
import Mathlib.Tactic.Linarith
import Mathlib.Tactic.SplitIfs
import Mathlib.Tactic.NormNum.OfScientific
import Mathlib.Algebra.Order.Field.Basic
import Mathlib.Algebra.Order.AbsoluteValue.Basic
import Mathlib.Data.List.Perm.Basic
import Mathlib.Data.List.Nodup
import Mathlib.Tactic.LinearCombination

set_option linter.unusedSectionVars false
namespace PathContourLemmas
open Prelude Gen Model.PathContour

variable {K : Type} [Field K] [LinearOrder K] [IsStrictOrderedRing K] [Inhabited K] [FSqrt K] [FSignum K]

/-- in exact arithmetic `f64::abs` is the absolute value -/
scoped instance : FAbs K := ⟨fun a => |a|⟩
/-- `n as f64` -/
scoped instance : OfInt K := ⟨fun z => (z : K)⟩
/-- without NaN and signed zeros `total_cmp` is `≤` -/
scoped instance : FTotalLe K := ⟨fun a b => decide (a ≤ b)⟩

/-! ## ranges, membership, clipping -/

/-- `x` lies in the half-open range `start..end` -/
def InR (x : K) (r : RangeT K) : Prop := r.start ≤ x ∧ x < r.end_

/-- `x` lies in one of the ranges -/
def inRanges (x : K) (rs : List (RangeT K)) : Prop := ∃ r ∈ rs, InR x r

/-- each range ends at or before the start of every later one -/
def Ordered (rs : List (RangeT K)) : Prop := rs.Pairwise (fun a b => a.end_ ≤ b.start)

/-- the `map` step of `raycast_intercepts_on_line` -/
def clipR (w : K) (r : RangeT K) : RangeT K :=
  RangeT.mk (if r.start < 0 then 0 else r.start) (if r.end_ ≥ w then w else r.end_)

theorem fabs_eq (a : K) : fabs a = |a| := rfl

/-- the generated clip stage as filter / map / filter -/
theorem raycast_eq (f : K → List (RangeT K)) (y s : K) (w : Nat) :
    raycast_intercepts_on_line f y s w =
      (((f (y * s)).filter (fun r => decide (r.end_ ≥ 0) && decide (r.start < (w : K)))).map (clipR (w : K))).filter
        (fun r => decide (r.start < r.end_)) := by
  simp only [raycast_intercepts_on_line, ofInt, lit0, Int.cast_natCast, decide_eq_true_eq]
  rfl

theorem clipR_start (w : K) (r : RangeT K) : (clipR w r).start = max 0 r.start := by
  simp only [clipR]; split_ifs with h
  · exact (max_eq_left h.le).symm
  · exact (max_eq_right (not_lt.1 h)).symm

theorem clipR_end (w : K) (r : RangeT K) : (clipR w r).end_ = min w r.end_ := by
  simp only [clipR]; split_ifs with h
  · exact (min_eq_left h).symm
  · exact (min_eq_right (not_le.1 h).le).symm

/-- clipping is intersection with `[0, w)` -/
theorem inR_clipR (w x : K) (r : RangeT K) : InR x (clipR w r) ↔ InR x r ∧ 0 ≤ x ∧ x < w := by
  rw [InR, InR, clipR_start, clipR_end, max_le_iff, lt_min_iff]
  exact ⟨fun ⟨⟨a, b⟩, c, d⟩ => ⟨⟨b, d⟩, a, c⟩, fun ⟨⟨b, d⟩, a, c⟩ => ⟨⟨a, b⟩, c, d⟩⟩

/-! ## pairing -/

/-- the ranges made from consecutive pairs of positions -/
def pairRanges (l : List K) : List (RangeT K) := (listPairs l).map (fun p => RangeT.mk p.t0 p.t1)

@[simp] theorem pairRanges_nil : pairRanges ([] : List K) = [] := rfl
@[simp] theorem pairRanges_one (a : K) : pairRanges [a] = [] := rfl
@[simp] theorem pairRanges_cons2 (a b : K) (l : List K) : pairRanges (a :: b :: l) = RangeT.mk a b :: pairRanges l := rfl

/-- number of positions at or left of `x` -/
def countLe (x : K) (l : List K) : Nat := (l.filter (fun a => decide (a ≤ x))).length

@[simp] theorem countLe_nil (x : K) : countLe x [] = 0 := rfl
theorem countLe_cons (x a : K) (l : List K) : countLe x (a :: l) = (if a ≤ x then 1 else 0) + countLe x l := by
  simp only [countLe, List.filter_cons]
  by_cases h : a ≤ x
  · simp [h]; omega
  · simp [h]

theorem countLe_eq_zero {x : K} {l : List K} (h : ∀ y ∈ l, x < y) : countLe x l = 0 := by
  simp only [countLe, List.length_eq_zero_iff, List.filter_eq_nil_iff, decide_eq_true_eq, not_le]
  exact h

theorem countLe_perm {x : K} {l l' : List K} (h : l.Perm l') : countLe x l = countLe x l' :=
  (h.filter _).length_eq

theorem pairRanges_nonneg : ∀ (l : List K), l.Pairwise (· ≤ ·) → ∀ r ∈ pairRanges l, r.start ≤ r.end_
  | [], _, r, hr => by simp at hr
  | [_], _, r, hr => by simp at hr
  | a :: b :: rest, hs, r, hr => by
    rw [pairRanges_cons2, List.mem_cons] at hr
    rcases hr with rfl | hr
    · exact (List.pairwise_cons.1 hs).1 b (by simp)
    · exact pairRanges_nonneg rest (List.pairwise_cons.1 (List.pairwise_cons.1 hs).2).2 r hr

theorem pairRanges_start_ge (m : K) : ∀ (l : List K), (∀ y ∈ l, m ≤ y) → ∀ r ∈ pairRanges l, m ≤ r.start
  | [], _, r, hr => by simp at hr
  | [_], _, r, hr => by simp at hr
  | a :: b :: rest, h, r, hr => by
    rw [pairRanges_cons2, List.mem_cons] at hr
    rcases hr with rfl | hr
    · exact h a (by simp)
    · exact pairRanges_start_ge m rest (fun y hy => h y (by simp [hy])) r hr

theorem pairRanges_ordered : ∀ (l : List K), l.Pairwise (· ≤ ·) → Ordered (pairRanges l)
  | [], _ => List.Pairwise.nil
  | [_], _ => List.Pairwise.nil
  | a :: b :: rest, hs => by
    have hbr : ∀ y ∈ rest, b ≤ y := (List.pairwise_cons.1 (List.pairwise_cons.1 hs).2).1
    have hs' : rest.Pairwise (· ≤ ·) := (List.pairwise_cons.1 (List.pairwise_cons.1 hs).2).2
    rw [pairRanges_cons2]
    exact List.Pairwise.cons (fun r hr => pairRanges_start_ge b rest hbr r hr) (pairRanges_ordered rest hs')

/-- EVEN-ODD RULE on a sorted list of crossings, any length: `x` is in a pair range iff the number of crossings at or
    left of `x` is odd and `x` is left of the unpaired last crossing if there is one (odd length: `tuples()` drops it) -/
theorem pairs_parity (x : K) : ∀ (l : List K), l.Pairwise (· ≤ ·) →
    (inRanges x (pairRanges l) ↔ countLe x l % 2 = 1 ∧ (l.length % 2 = 0 ∨ ∀ z ∈ l.getLast?, x < z))
  | [], _ => by simp [inRanges]
  | [a], _ => by
    simp only [inRanges, pairRanges_one, List.not_mem_nil, false_and, exists_false, countLe_cons, countLe_nil,
      List.length_singleton, List.getLast?_singleton, Option.mem_def, Option.some.injEq, forall_eq', false_iff]
    rintro ⟨h1, h2 | h2⟩
    · omega
    · rw [if_neg (not_le.2 h2)] at h1; omega
  | a :: b :: rest, hs => by
    have hab : a ≤ b := (List.pairwise_cons.1 hs).1 b (by simp)
    have hbr : ∀ y ∈ rest, b ≤ y := (List.pairwise_cons.1 (List.pairwise_cons.1 hs).2).1
    have ih := pairs_parity x rest (List.pairwise_cons.1 (List.pairwise_cons.1 hs).2).2
    have hlast : (rest.length % 2 = 0 ∨ ∀ z ∈ rest.getLast?, x < z) ↔
        ((a :: b :: rest).length % 2 = 0 ∨ ∀ z ∈ (a :: b :: rest).getLast?, x < z) := by
      cases rest with
      | nil => simp
      | cons c r =>
        simp only [List.getLast?_cons_cons, List.length_cons]
        rw [show (r.length + 1 + 1 + 1) % 2 = (r.length + 1) % 2 by omega]
    have hin : inRanges x (pairRanges (a :: b :: rest)) ↔ (a ≤ x ∧ x < b) ∨ inRanges x (pairRanges rest) := by
      simp only [inRanges, pairRanges_cons2, List.mem_cons, exists_eq_or_imp, InR]
    rw [hin, ← hlast, countLe_cons, countLe_cons, ih]
    rcases le_or_gt b x with h2 | hx
    · -- both ends of the first pair are at or left of `x`: the parity is that of the rest
      rw [if_pos (hab.trans h2), if_pos h2, show (1 + (1 + countLe x rest)) % 2 = countLe x rest % 2 by omega]
      exact or_iff_right fun h => absurd h.2 (not_lt.2 h2)
    · -- `x` is left of `b`, hence of everything in `rest`
      have h0 : countLe x rest = 0 := countLe_eq_zero fun y hy => hx.trans_le (hbr y hy)
      have hl : rest.length % 2 = 0 ∨ ∀ z ∈ rest.getLast?, x < z :=
        Or.inr fun z hz => hx.trans_le (hbr z (List.mem_of_getLast? hz))
      rw [h0, if_neg (not_le.2 hx)]
      by_cases h1 : a ≤ x
      · simpa [h1, hx] using hl
      · simp [h1]

/-! ## the stable insertion sort -/

section
variable {α : Type}

/-- an element that no member exceeds goes to the end -/
theorem insertSorted_of_le (le : α → α → Bool) (x : α) : ∀ l : List α, (∀ y ∈ l, le y x = true) → insertSorted le x l = l ++ [x]
  | [], _ => rfl
  | y :: ys, h => by
    simp only [insertSorted, h y (by simp), if_true, List.cons_append]
    rw [insertSorted_of_le le x ys (fun z hz => h z (by simp [hz]))]

end

/-- the order the row closure sorts by -/
def leX (a b : InterceptT K) : Bool := ftotalLe a.x_pos b.x_pos

theorem leX_iff (a b : InterceptT K) : leX a b = true ↔ a.x_pos ≤ b.x_pos := by
  simp [leX, ftotalLe]

/-- hits in ascending x order -/
def SortedX (l : List (InterceptT K)) : Prop := l.Pairwise (fun a b => a.x_pos ≤ b.x_pos)

/-- sorting by `total_cmp` of a key puts the keys in ascending order -/
theorem listSortBy_key_sorted {α : Type} (f : α → K) (l : List α) :
    (listSortBy (fun a b => ftotalLe (f a) (f b)) l).Pairwise (fun a b => f a ≤ f b) := by
  have := listSortBy_sorted (fun a b : α => ftotalLe (f a) (f b))
    (fun a b => by simp only [ftotalLe, decide_eq_true_eq]; exact le_total _ _)
    (fun a b c => by simp only [ftotalLe, decide_eq_true_eq]; exact le_trans) l
  exact this.imp (fun h => by simpa [ftotalLe] using h)

theorem sortedX_sort (l : List (InterceptT K)) : SortedX (listSortBy leX l) :=
  listSortBy_key_sorted (fun h : InterceptT K => h.x_pos) l

theorem SortedX.map {l : List (InterceptT K)} (h : SortedX l) : (l.map (·.x_pos)).Pairwise (· ≤ ·) :=
  List.pairwise_map.2 h

theorem SortedX.sublist {l l' : List (InterceptT K)} (h : SortedX l) (hs : l'.Sublist l) : SortedX l' :=
  List.Pairwise.sublist hs h

theorem sortedK_sort (l : List K) : (listSortBy (fun a b => ftotalLe a b) l).Pairwise (· ≤ ·) := listSortBy_key_sorted id l

/-! ## remove_duplicate_intercepts -/

/-- the part of curve `h.curve_idx` between the hit and the nearer end of the curve, as the control points (x and y) of the
    `CurveSection` the code builds (`section(0, t)` for `t < 0.5`, `section(t, 1)` otherwise) -/
def hitSection (curves : List (CurveRow K)) (h : InterceptT K) : T2 (T3 K (T2 K K) K) (T3 K (T2 K K) K) :=
  let c := listGet curves h.curve_idx
  if decide (h.t < 0.5) then
    T2.mk (section_all_points c.t0.t0 c.t0.t1 c.t0.t2 c.t0.t3 (section_new (0.0 : K) h.t))
      (section_all_points c.t1.t0 c.t1.t1 c.t1.t2 c.t1.t3 (section_new (0.0 : K) h.t))
  else
    T2.mk (section_all_points c.t0.t0 c.t0.t1 c.t0.t2 c.t0.t3 (section_new h.t (1.0 : K)))
      (section_all_points c.t1.t0 c.t1.t1 c.t1.t2 c.t1.t3 (section_new h.t (1.0 : K)))

/-- the length the code compares with `MIN_DISTANCE`: 0 for an exact end-to-start pair, otherwise the control polygon length
    of the two curve pieces between the hits and the ends of their curves -/
def joinLength (curves : List (CurveRow K)) (prev next : InterceptT K) : K :=
  if ((prev.t == (0.0 : K)) && (next.t == (1.0 : K))) || ((prev.t == (1.0 : K)) && (next.t == (0.0 : K))) then (0.0 : K)
  else contour_control_polygon_length (hitSection curves prev).t0 (hitSection curves prev).t1 +
    contour_control_polygon_length (hitSection curves next).t0 (hitSection curves next).t1

/-- the whole condition under which `remove_duplicate_intercepts` removes `prev` because of `next` (path_contour.rs:172, 192) -/
def dupPair (curves : List (CurveRow K)) (prev next : InterceptT K) : Bool :=
  (curves_are_neighbors curves.length prev.curve_idx next.curve_idx && decide (|prev.x_pos - next.x_pos| ≤ (1e-6 : K))) &&
    (decide (joinLength curves prev next ≤ (1e-6 : K)) && points_are_same_side_horiz curves prev next)

/-- the index the loop compares `idx` with: the next one, the first one for the last -/
def nextIdx (n idx : Nat) : Nat := if decide (idx < n - 1) then idx + 1 else 0

/-- the decision of one loop iteration on the current list -/
def removeAt (curves : List (CurveRow K)) (l : List (InterceptT K)) (idx : Nat) : Bool :=
  dupPair curves (listGet l idx) (listGet l (nextIdx l.length idx))

section Dedupe
variable {ι : Type}

/-- one iteration of the loop with the decision abstracted -/
def stepSpec (rm : List ι → Nat → Bool) (st : T2 (List ι) Nat) : Sum (T2 (List ι) Nat) (T2 (List ι) Nat) :=
  if decide (st.t1 < st.t0.length) then
    if rm st.t0 st.t1 then Sum.inl (T2.mk (st.t0.eraseIdx st.t1) st.t1) else Sum.inl (T2.mk st.t0 (st.t1 + 1))
  else Sum.inr st

/-- the loop without fuel: at `idx`, remove the element if the decision says so (and look at the same index again),
    otherwise move on; stop at the end of the list -/
def dedupe (rm : List ι → Nat → Bool) (l : List ι) (idx : Nat) : List ι :=
  if h : idx < l.length then
    if rm l idx then dedupe rm (l.eraseIdx idx) idx else dedupe rm l (idx + 1)
  else l
termination_by l.length - idx
decreasing_by
  · simp only [List.length_eraseIdx, h, if_true]; omega
  · omega

/-- fuel `remaining + 1` is enough: every iteration removes an element or advances -/
theorem iterFuel_stepSpec (rm : List ι → Nat → Bool) : ∀ (fuel : Nat) (l : List ι) (idx : Nat), l.length - idx + 1 ≤ fuel →
    (iterFuel fuel (stepSpec rm) (fun st => st) (T2.mk l idx)).t0 = dedupe rm l idx
  | 0, l, idx, h => by omega
  | fuel + 1, l, idx, h => by
    rw [dedupe]
    simp only [iterFuel, stepSpec, decide_eq_true_eq]
    by_cases hi : idx < l.length
    · by_cases hr : rm l idx = true
      · simp only [hi, hr, if_true, dif_pos]
        exact iterFuel_stepSpec rm fuel _ idx (by simp only [List.length_eraseIdx, hi, if_true]; omega)
      · simp only [hi, hr, if_true, dif_pos]
        exact iterFuel_stepSpec rm fuel l (idx + 1) (by omega)
    · simp only [hi, if_false, dif_neg, not_false_eq_true]

theorem dedupe_sublist (rm : List ι → Nat → Bool) (l : List ι) (idx : Nat) : (dedupe rm l idx).Sublist l := by
  fun_induction dedupe rm l idx with
  | case1 l idx h hr ih => exact ih.trans (List.eraseIdx_sublist l idx)
  | case2 l idx h hr ih => exact ih
  | case3 l idx h => exact List.Sublist.refl l

/-- a chain of removals, each one licensed by the decision on the list as it was at that moment -/
inductive Removals (rm : List ι → Nat → Bool) : List ι → List ι → Prop
  | done (l : List ι) : Removals rm l l
  | step {l l' : List ι} (idx : Nat) (h : idx < l.length) (hr : rm l idx = true) :
      Removals rm (l.eraseIdx idx) l' → Removals rm l l'

theorem dedupe_removals (rm : List ι → Nat → Bool) (l : List ι) (idx : Nat) : Removals rm l (dedupe rm l idx) := by
  fun_induction dedupe rm l idx with
  | case1 l idx h hr ih => exact Removals.step idx h hr ih
  | case2 l idx h hr ih => exact ih
  | case3 l idx h => exact Removals.done l

theorem dedupe_id (rm : List ι → Nat → Bool) (l : List ι) (idx : Nat) (h : ∀ i, i < l.length → rm l i = false) :
    dedupe rm l idx = l := by
  fun_induction dedupe rm l idx with
  | case1 l idx hi hr ih => rw [h idx hi] at hr; exact absurd hr (by simp)
  | case2 l idx hi hr ih => exact ih h
  | case3 l idx hi => rfl

end Dedupe

theorem nextIdx_lt {n idx : Nat} (h : idx < n) : nextIdx n idx < n := by
  simp only [nextIdx, decide_eq_true_eq]; split_ifs <;> omega

/-- the generated loop step tests the two halves of `dupPair` in nested `if`s with the same `else` -/
theorem step_shape {σ : Type} (c a b d e : Bool) (A B C : σ) :
    (if c = true then (if (a && b) = true then (if (d && e) = true then A else B) else B) else C) =
    (if c = true then (if ((a && b) && (d && e)) = true then A else B) else C) := by
  cases c <;> cases a <;> cases b <;> cases d <;> cases e <;> rfl

/-! ## the closures -/

theorem foldl_skip_append {α β : Type} (c : β → Bool) (g : β → List α) : ∀ (l : List β) (init : List α),
    l.foldl (fun acc it => if c it = true then acc else acc ++ g it) init =
      init ++ l.flatMap (fun it => if c it = true then [] else g it)
  | [], init => by simp
  | x :: l, init => by
    simp only [List.foldl_cons, List.flatMap_cons]
    rw [foldl_skip_append c g l]
    split_ifs <;> simp

theorem mem_ite_filter_cons {α : Type} (c : Prop) [Decidable c] (x : α) (q : α → Bool) (l : List α) (r : α) :
    r ∈ (if c then x :: l.filter q else l) ↔ (r = x ∧ c) ∨ (r ∈ l ∧ (c → q r = true)) := by
  by_cases h : c <;> simp [h]

theorem mem_ite_filter_append {α : Type} (c : Prop) [Decidable c] (x : α) (q : α → Bool) (l : List α) (r : α) :
    r ∈ (if c then l.filter q ++ [x] else l) ↔ (r = x ∧ c) ∨ (r ∈ l ∧ (c → q r = true)) := by
  by_cases h : c <;> simp [h, or_comm]

theorem listPairs_map {α β : Type} (f : α → β) : ∀ l : List α, listPairs (l.map f) = (listPairs l).map (fun p => T2.mk (f p.t0) (f p.t1))
  | [] => rfl
  | [_] => rfl
  | a :: b :: rest => by simp [listPairs, listPairs_map f rest]

/-- the hits the row closure records for one curve (`it.t0` is the index of the curve in `PathContour::curves`): none if `y` is
    outside the curve's bounding box, otherwise one per solver parameter `t` (`t ≥ 0`, or any `t` for a single curve),
    at `x = curve_x(t)` -/
def rowHits (solve : K → K → K → K → K → List K) (one : Bool) (y : K) (it : T2 Nat (CurveRow K)) : List (InterceptT K) :=
  if (decide (y < it.t1.t2.t0.y) || decide (y > it.t1.t2.t1.y)) = true then []
  else List.map
      (fun t => ({ curve_idx := it.t0, t := t, x_pos := curve_point_at_pos it.t1.t0.t0 it.t1.t0.t1 it.t1.t0.t2 it.t1.t0.t3 t } : InterceptT K))
      (List.filter (fun t => decide (t ≥ (0.0 : K)) || one) (solve it.t1.t1.t0 it.t1.t1.t1 it.t1.t1.t2 it.t1.t1.t3 y))

/-- all hits of the scanline `y`, in curve order, before sorting -/
def rowRaw (solve : K → K → K → K → K → List K) (curves : List (CurveRow K)) (y : K) : List (InterceptT K) :=
  (listEnum curves).flatMap (rowHits solve (curves.length == 1) y)

/-- THE ROW CLOSURE: gather, sort by x, remove duplicates, pair up -/
theorem row_intercepts_eq (solve : K → K → K → K → K → List K) (curves : List (CurveRow K)) (y : K) :
    row_intercepts solve curves y =
      pairRanges ((remove_duplicate_intercepts curves (listSortBy leX (rowRaw solve curves y))).map (·.x_pos)) := by
  unfold row_intercepts
  simp only [foldlT]
  rw [foldl_skip_append]
  simp only [pairRanges, listPairs_map, List.map_map, List.nil_append]
  rfl

/-- the positions the column closure records for one curve: none if `x` is outside the bounding box, otherwise `curve_y(t)`
    for every solver parameter `t > 0` -/
def colHits (solve : K → K → K → K → K → List K) (x : K) (c : CurveRow K) : List K :=
  if (decide (x < c.t2.t0.x) || decide (x > c.t2.t1.x)) = true then []
  else List.map (fun t => curve_point_at_pos c.t1.t0 c.t1.t1 c.t1.t2 c.t1.t3 t)
      (List.filter (fun t => decide (t > (0.0 : K))) (solve c.t0.t0 c.t0.t1 c.t0.t2 c.t0.t3 x))

theorem listEnumFrom_eq {α : Type} : ∀ (n : Nat) (l : List α), listEnumFrom n l = (l.zipIdx n).map (fun p => T2.mk p.2 p.1)
  | _, [] => rfl
  | n, a :: l => by rw [listEnumFrom, listEnumFrom_eq (n + 1) l]; rfl

theorem listEnumFrom_map {α β : Type} (f : α → β) (n : Nat) (l : List α) :
    listEnumFrom n (l.map f) = (listEnumFrom n l).map (fun p => T2.mk p.t0 (f p.t1)) := by
  rw [listEnumFrom_eq, listEnumFrom_eq, List.zipIdx_map, List.map_map, List.map_map]; rfl

theorem flatMap_listEnumFrom {α β : Type} (g : α → List β) (n : Nat) (l : List α) :
    (listEnumFrom n l).flatMap (fun p => g p.t1) = l.flatMap g := by
  rw [listEnumFrom_eq, List.flatMap_map]
  conv_rhs => rw [← List.zipIdx_map_fst n l, List.flatMap_map]

/-- one curve: the column hits are the row hits of the transposed curve with a parameter `t > 0`, projected to their position -/
theorem colHits_eq_rowHits (solve : K → K → K → K → K → List K) (one : Bool) (x : K) (i : Nat) (c : CurveRow K) :
    colHits solve x c =
      ((rowHits solve one x (T2.mk i (T3.mk c.t1 c.t0 (T2.mk (V2.mk c.t2.t0.y c.t2.t0.x) (V2.mk c.t2.t1.y c.t2.t1.x))))).filter
        (fun h => decide (h.t > (0.0 : K)))).map (·.x_pos) := by
  simp only [colHits, rowHits]
  split_ifs with hc
  · rfl
  · simp only [List.filter_map, List.map_map, List.filter_filter]
    congr 1
    apply List.filter_congr
    intro t _
    simp only [Function.comp, lit0, ge_iff_le, gt_iff_lt]
    by_cases ht : 0 < t
    · simp [ht, le_of_lt ht]
    · simp [ht]

/-- COLUMN = ROW OF THE TRANSPOSED PATHS WITHOUT DUPLICATE REMOVAL AND WITHOUT THE `t = 0` HITS -/
theorem colRaw_eq_rowRaw_transpose (solve : K → K → K → K → K → List K) (curves : List (CurveRow K)) (x : K) :
    curves.flatMap (colHits solve x) =
      ((rowRaw solve (transpose curves) x).filter (fun h => decide (h.t > (0.0 : K)))).map (·.x_pos) := by
  simp only [rowRaw, listEnum, transpose, listEnumFrom_map, List.flatMap_map, List.filter_flatMap, List.map_flatMap]
  rw [← flatMap_listEnumFrom (colHits solve x) 0 curves]
  apply List.flatMap_congr
  intro p _
  exact colHits_eq_rowHits solve _ x p.t0 p.t1

/-! ## the hits of a scanline as a set -/

theorem mem_listEnumFrom {α : Type} (n : Nat) (l : List α) (p : T2 Nat α) :
    p ∈ listEnumFrom n l ↔ n ≤ p.t0 ∧ l[p.t0 - n]? = some p.t1 := by
  rw [listEnumFrom_eq, List.mem_map]
  exact ⟨fun ⟨q, hq, e⟩ => e ▸ List.mem_zipIdx_iff_le_and_getElem?_sub.1 hq,
    fun h => ⟨(p.t1, p.t0), List.mem_zipIdx_iff_le_and_getElem?_sub.2 h, rfl⟩⟩

theorem mem_listEnum {α : Type} (l : List α) (p : T2 Nat α) : p ∈ listEnum l ↔ l[p.t0]? = some p.t1 := by
  simp [listEnum, mem_listEnumFrom]

theorem pairwise_listEnumFrom {α : Type} (n : Nat) (l : List α) :
    (listEnumFrom n l).Pairwise (fun p q => p.t0 < q.t0) := by
  rw [listEnumFrom_eq, List.pairwise_map]
  exact (List.pairwise_map (f := Prod.snd) (R := (· < ·))).1 (by rw [List.zipIdx_map_snd]; exact List.pairwise_lt_range')

theorem mem_rowHits (solve : K → K → K → K → K → List K) (one : Bool) (y : K) (it : T2 Nat (CurveRow K)) (h : InterceptT K) :
    h ∈ rowHits solve one y it ↔
      ¬ (y < it.t1.t2.t0.y ∨ y > it.t1.t2.t1.y) ∧
      h.curve_idx = it.t0 ∧ h.t ∈ solve it.t1.t1.t0 it.t1.t1.t1 it.t1.t1.t2 it.t1.t1.t3 y ∧ (0 ≤ h.t ∨ one = true) ∧
      h.x_pos = curve_point_at_pos it.t1.t0.t0 it.t1.t0.t1 it.t1.t0.t2 it.t1.t0.t3 h.t := by
  simp only [rowHits, Bool.or_eq_true, decide_eq_true_eq, lit0, ge_iff_le]
  split_ifs with hc
  · simp [hc]
  · simp only [hc, not_false_eq_true, true_and, List.mem_map, List.mem_filter, Bool.or_eq_true, decide_eq_true_eq]
    constructor
    · rintro ⟨t, ⟨ht, hf⟩, rfl⟩
      exact ⟨rfl, ht, hf, rfl⟩
    · rintro ⟨h1, h2, h3, h4⟩
      exact ⟨h.t, ⟨h2, h3⟩, by rw [← h1, ← h4]⟩

theorem mem_rowRaw (solve : K → K → K → K → K → List K) (curves : List (CurveRow K)) (y : K) (h : InterceptT K) :
    h ∈ rowRaw solve curves y ↔
      ∃ c, curves[h.curve_idx]? = some c ∧ ¬ (y < c.t2.t0.y ∨ y > c.t2.t1.y) ∧
        h.t ∈ solve c.t1.t0 c.t1.t1 c.t1.t2 c.t1.t3 y ∧ (0 ≤ h.t ∨ (curves.length == 1) = true) ∧
        h.x_pos = curve_point_at_pos c.t0.t0 c.t0.t1 c.t0.t2 c.t0.t3 h.t := by
  simp only [rowRaw, List.mem_flatMap]
  constructor
  · rintro ⟨it, hit, hh⟩
    obtain ⟨hbox, hidx, ht, h0, hx⟩ := (mem_rowHits _ _ _ _ _).1 hh
    exact ⟨it.t1, hidx ▸ (mem_listEnum curves it).1 hit, hbox, ht, h0, hx⟩
  · rintro ⟨c, hget, hbox, ht, h0, hx⟩
    exact ⟨T2.mk h.curve_idx c, (mem_listEnum curves _).2 hget, (mem_rowHits _ _ _ _ _).2 ⟨hbox, rfl, ht, h0, hx⟩⟩

/-- the gathered hits do not repeat if no answer of the solver does: hits of one curve differ in `t`, hits of different
    curves in `curve_idx` -/
theorem nodup_rowRaw (solve : K → K → K → K → K → List K) (curves : List (CurveRow K)) (y : K)
    (h : ∀ c ∈ curves, (solve c.t1.t0 c.t1.t1 c.t1.t2 c.t1.t3 y).Nodup) : (rowRaw solve curves y).Nodup := by
  rw [rowRaw, List.nodup_flatMap]
  constructor
  · intro it hit
    have hc : it.t1 ∈ curves := List.mem_of_getElem? ((mem_listEnum curves it).1 hit)
    simp only [rowHits]
    split_ifs
    · exact List.nodup_nil
    · exact List.Nodup.map (fun a b hab => congrArg InterceptT.t hab) ((h _ hc).filter _)
  · refine (pairwise_listEnumFrom 0 curves).imp fun {p q} hpq a hp hq => ?_
    have e1 := ((mem_rowHits _ _ _ _ _).1 hp).2.1
    have e2 := ((mem_rowHits _ _ _ _ _).1 hq).2.1
    omega

end PathContourLemmas
