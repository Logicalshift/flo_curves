/-
Helper lemmas for C14 (the final sort of `ray_collisions`): the stable insertion sort of the model and the
generated comparator `Gen.collision_order`.  `Model.Ray.sortBy` and the Prelude's `listSortBy` (`Lemmas/Sort.lean`) are both stable
insertion sorts but differ on a comparator that is not a total preorder (a 3-cycle sorts differently), as this one is not; so each has
its own lemmas.
-/
import FloVerif.Model.Ray
import FloVerif.Lemmas.Lit
import Mathlib.Data.List.Perm.Basic
import Mathlib.Tactic.Ring
import Mathlib.Tactic.Linarith
import Mathlib.Tactic.SplitIfs
import Mathlib.Tactic.NormNum.OfScientific
import Mathlib.Algebra.Order.Field.Basic
import Mathlib.Algebra.Order.AbsoluteValue.Basic

set_option linter.unusedSectionVars false
namespace RaySort
open Prelude Gen Model.Ray

section SortLemmas
variable {α : Type} (cmp : α → α → Ordering)

theorem insertBy_perm (x : α) : ∀ l : List α, (insertBy cmp x l).Perm (x :: l)
  | [] => List.Perm.refl _
  | y :: ys => by
    simp only [insertBy]
    split_ifs
    · exact List.Perm.refl _
    · exact ((insertBy_perm x ys).cons y).trans (List.Perm.swap x y ys)

theorem sortBy_perm : ∀ l : List α, (sortBy cmp l).Perm l
  | [] => List.Perm.refl _
  | x :: xs => (insertBy_perm cmp x (sortBy cmp xs)).trans ((sortBy_perm xs).cons x)

theorem mem_insertBy {x z : α} {l : List α} : z ∈ insertBy cmp x l ↔ z = x ∨ z ∈ l := by
  rw [(insertBy_perm cmp x l).mem_iff, List.mem_cons]

theorem mem_sortBy {z : α} {l : List α} : z ∈ sortBy cmp l ↔ z ∈ l := (sortBy_perm cmp l).mem_iff

/-- inserting into a sorted list keeps it sorted, when `cmp · · ≠ gt` is total and transitive ON the elements involved -/
theorem insertBy_sorted (P : α → Prop)
    (total : ∀ a b, P a → P b → cmp a b ≠ .gt ∨ cmp b a ≠ .gt)
    (trans : ∀ a b c, P a → P b → P c → cmp a b ≠ .gt → cmp b c ≠ .gt → cmp a c ≠ .gt)
    (x : α) (hx : P x) : ∀ l : List α, (∀ y ∈ l, P y) → l.Pairwise (fun a b => cmp a b ≠ .gt) →
      (insertBy cmp x l).Pairwise (fun a b => cmp a b ≠ .gt)
  | [], _, _ => by simp [insertBy]
  | y :: ys, hP, hs => by
    have hy : P y := hP y (by simp)
    have hys : ∀ z ∈ ys, P z := fun z hz => hP z (List.mem_cons_of_mem _ hz)
    rw [List.pairwise_cons] at hs
    simp only [insertBy]
    split_ifs with hc
    · have hxy : cmp x y ≠ .gt := by simpa using hc
      refine List.pairwise_cons.2 ⟨?_, List.pairwise_cons.2 hs⟩
      intro z hz
      rcases List.mem_cons.1 hz with rfl | hz
      · exact hxy
      · exact trans x y z hx hy (hys z hz) hxy (hs.1 z hz)
    · have hxy : ¬ cmp x y ≠ .gt := by simpa using hc
      have hyx : cmp y x ≠ .gt := (total x y hx hy).resolve_left hxy
      refine List.pairwise_cons.2 ⟨?_, insertBy_sorted P total trans x hx ys hys hs.2⟩
      intro z hz
      rcases (mem_insertBy cmp).1 hz with rfl | hz
      · exact hyx
      · exact hs.1 z hz

theorem sortBy_sorted (P : α → Prop)
    (total : ∀ a b, P a → P b → cmp a b ≠ .gt ∨ cmp b a ≠ .gt)
    (trans : ∀ a b c, P a → P b → P c → cmp a b ≠ .gt → cmp b c ≠ .gt → cmp a c ≠ .gt) :
    ∀ l : List α, (∀ y ∈ l, P y) → (sortBy cmp l).Pairwise (fun a b => cmp a b ≠ .gt)
  | [], _ => by simp [sortBy]
  | x :: xs, hP =>
    insertBy_sorted cmp P total trans x (hP x List.mem_cons_self) (sortBy cmp xs)
      (fun y hy => hP y (List.mem_cons_of_mem _ ((mem_sortBy cmp).1 hy)))
      (sortBy_sorted P total trans xs fun y hy => hP y (List.mem_cons_of_mem _ hy))

/-- a comparator that, on the elements of the list, is the comparison of a key in a linear order: the stable sort orders by the key -/
theorem sortBy_sorted_of_key {β : Type} [LinearOrder β] (key : α → β) (l : List α)
    (h : ∀ a ∈ l, ∀ b ∈ l, cmp a b = compare (key a) (key b)) : (sortBy cmp l).Pairwise fun a b => key a ≤ key b := by
  have hs := sortBy_sorted cmp (· ∈ l)
    (fun a b ha hb => by rw [h a ha b hb, h b hb a ha, compare_le_iff_le, compare_le_iff_le]; exact le_total _ _)
    (fun a b c ha hb hc => by
      rw [h a ha b hb, h b hb c hc, h a ha c hc, compare_le_iff_le, compare_le_iff_le, compare_le_iff_le]; exact le_trans)
    l (fun _ h => h)
  refine hs.imp_of_mem fun ha hb hab => ?_
  rwa [h _ ((mem_sortBy cmp).1 ha) _ ((mem_sortBy cmp).1 hb), compare_le_iff_le] at hab

theorem sortBy_fixed : ∀ l : List α, l.Pairwise (fun a b => cmp a b ≠ .gt) → sortBy cmp l = l
  | [], _ => rfl
  | x :: xs, h => by
    rw [List.pairwise_cons] at h
    show insertBy cmp x (sortBy cmp xs) = x :: xs
    rw [sortBy_fixed xs h.2]
    cases xs with
    | nil => rfl
    | cons y ys =>
      have hxy : cmp x y ≠ .gt := h.1 y (by simp)
      simp [insertBy, hxy]

end SortLemmas

section Cmp
variable {K : Type} [Field K] [LinearOrder K] [IsStrictOrderedRing K] [Inhabited K] [FSqrt K] [FConsts K]

local instance : FAbs K := ⟨fun a => |a|⟩
local instance : FSignum K := ⟨fun a => if a < 0 then -1 else 1⟩
local instance : OfInt K := ⟨fun n => (n : K)⟩

/-- without NaN `partial_cmp` is the three-way comparison of the linear order -/
theorem fpartialCmp_eq (a b : K) : fpartialCmp a b = some (compare a b) := by
  unfold fpartialCmp
  rcases lt_trichotomy a b with h | h | h
  · rw [if_pos h, compare_lt_iff_lt.2 h]
  · rw [if_neg (h ▸ lt_irrefl a), if_pos (beq_iff_eq.2 h), compare_eq_iff_eq.2 h]
  · rw [if_neg (lt_asymm h), if_neg (by simpa using ne_of_gt h), if_pos h, compare_gt_iff_gt.2 h]

/-- the two collisions are within `SMALL_DISTANCE` of each other in both coordinates (ray.rs:730-733) -/
def near (ca cb : Collision K) : Prop :=
  |ca.t3.x - cb.t3.x| ≤ (SMALL_DISTANCE : K) ∧ |ca.t3.y - cb.t3.y| ≤ (SMALL_DISTANCE : K)

/-- the comparator takes its edge-priority branch -/
def tie (path : RayPathI K) (ca cb : Collision K) : Prop :=
  near ca cb ∧ edges_overlap path ca.t0.edge cb.t0.edge = true

instance (ca cb : Collision K) : Decidable (near ca cb) := by unfold near; infer_instance
instance (path : RayPathI K) (ca cb : Collision K) : Decidable (tie path ca cb) := by unfold tie; infer_instance

theorem order_outside_window (path : RayPathI K) (dir : V2 K) (ca cb : Collision K) (h : ¬ tie path ca cb) :
    collision_order path dir ca cb = compare ca.t2 cb.t2 := by
  unfold collision_order
  simp only [fpartialCmp_eq, Option.getD_some, fabs]
  by_cases h1 : (decide (|ca.t3.x - cb.t3.x| > (SMALL_DISTANCE : K)) || decide (|ca.t3.y - cb.t3.y| > (SMALL_DISTANCE : K))) = true
  · rw [if_pos h1]
  · rw [if_neg h1]
    by_cases h2 : (!edges_overlap path ca.t0.edge cb.t0.edge) = true
    · rw [if_pos h2]
    · exfalso
      apply h
      simp only [Bool.or_eq_true, decide_eq_true_eq, not_or, not_lt, gt_iff_lt] at h1
      exact ⟨⟨h1.1, h1.2⟩, by simpa using h2⟩

/-- the edge-priority branch of the comparator (ray.rs:740-772) -/
def priority (path : RayPathI K) (dir : V2 K) (ca cb : Collision K) : Ordering :=
  if compare ca.t0.edge.start_idx cb.t0.edge.start_idx ≠ .eq then compare ca.t0.edge.start_idx cb.t0.edge.start_idx
  else match compare ca.t0.edge.edge_idx cb.t0.edge.edge_idx with
    | .gt => if dot dir (ray_normal_at_pos (path.get_edge cb.t0.edge) cb.t1) < 0 then .lt else .gt
    | .lt => if dot dir (ray_normal_at_pos (path.get_edge ca.t0.edge) ca.t1) < 0 then .gt else .lt
    | .eq => .eq

theorem order_inside_window (path : RayPathI K) (dir : V2 K) (ca cb : Collision K) (h : tie path ca cb) :
    collision_order path dir ca cb = priority path dir ca cb := by
  obtain ⟨⟨hx, hy⟩, ho⟩ := h
  unfold collision_order priority
  simp only [fabs, gt_iff_lt, not_lt.2 hx, not_lt.2 hy, decide_false, Bool.or_self, Bool.false_eq_true, if_false, ho, Bool.not_true,
    bne_iff_ne, ne_eq, lit0, decide_eq_true_eq]
  by_cases h1 : compare ca.t0.edge.start_idx cb.t0.edge.start_idx = .eq
  · simp only [h1, not_true_eq_false, if_false]
    generalize compare ca.t0.edge.edge_idx cb.t0.edge.edge_idx = o
    cases o <;> simp only [Ordering.swap]
  · simp only [h1, not_false_eq_true, if_true]

theorem order_self (path : RayPathI K) (dir : V2 K) (ca : Collision K) : collision_order path dir ca ca = .eq := by
  by_cases h : tie path ca ca
  · rw [order_inside_window path dir ca ca h]
    simp [priority]
  · rw [order_outside_window path dir ca ca h]
    exact compare_eq_iff_eq.2 rfl

end Cmp
end RaySort
