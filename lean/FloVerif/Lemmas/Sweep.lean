/-
Helper lemmas for C18 (sweep-line pair enumeration).

Everything here is about the hand model `Model.Sweep` and the generated `Gen.bounds_overlaps`.
The specification list of `sweep_against` is phrased with `pairsWith` / `cross` (`crossPairs` of `Props/C18.lean` is
`cross`); the loop invariant of `sweep_self` is proved in `Props/C18.lean`, next to its specification `allPairs`.
-/
import FloVerif.Model.Sweep
import Mathlib.Data.List.Perm.Basic
import Mathlib.Order.Basic

namespace Lemmas.Sweep
open Prelude Gen Model Model.Sweep

variable {K : Type} [LinearOrder K]

theorem ite_gt_false {x y : K} {c : Bool} :
    (if decide (x > y) then false else c) = true ↔ x ≤ y ∧ c = true := by
  by_cases h : x ≤ y
  · simp [h, not_lt.2 h]
  · simp [h, not_le.1 h]

theorem overlaps_iff (a b : Bounds2 K) :
    bounds_overlaps a b = true ↔
      (a.min_.x ≤ b.max_.x ∧ b.min_.x ≤ a.max_.x) ∧ (a.min_.y ≤ b.max_.y ∧ b.min_.y ≤ a.max_.y) := by
  show (if decide (a.min_.x > b.max_.x) then false else if decide (b.min_.x > a.max_.x) then false else
    if decide (a.min_.y > b.max_.y) then false else if decide (b.min_.y > a.max_.y) then false else true) = true ↔ _
  simp only [ite_gt_false, and_true, and_assoc]

theorem overlaps_false_of_apart {a b : Bounds2 K} (h : a.max_.x < b.min_.x ∨ b.max_.x < a.min_.x) :
    bounds_overlaps a b = false :=
  Bool.eq_false_iff.2 fun ht =>
    h.elim (not_lt.2 ((overlaps_iff a b).1 ht).1.2) (not_lt.2 ((overlaps_iff a b).1 ht).1.1)

theorem insertByMax_perm (x : Item K) (l : List (Item K)) : (insertByMax x l).Perm (x :: l) := by
  induction l with
  | nil => exact List.Perm.refl _
  | cons t r ih =>
    simp only [insertByMax]
    split
    · exact (List.Perm.cons t ih).trans (List.Perm.swap x t r)
    · exact List.Perm.refl _

/-- `popLoop m` only removes items whose maximum x is below `m`: they overlap nothing that starts at or after `m` -/
theorem popLoop_split (m : K) (l : List (Item K)) :
    ∃ dropped, l.Perm (popLoop m l ++ dropped) ∧
      ∀ d ∈ dropped, ∀ y : Item K, m ≤ minx y → bounds_overlaps d.b y.b = false := by
  induction l with
  | nil => exact ⟨[], List.Perm.refl _, fun _ h => absurd h List.not_mem_nil⟩
  | cons t r ih =>
    simp only [popLoop]
    split_ifs with ht
    · obtain ⟨dr, hp, hd⟩ := ih
      exact ⟨t :: dr, (List.Perm.cons t hp).trans List.perm_middle.symm,
        List.forall_mem_cons.2 ⟨fun y hy => overlaps_false_of_apart (Or.inl (ht.trans_le hy)), hd⟩⟩
    · exact ⟨[], by rw [List.append_nil], fun _ h => absurd h List.not_mem_nil⟩

/-- the pairs of one target `t` with the overlapping members of `src` -/
def pairsWith (src : List (Item K)) (t : Item K) : List (Item K × Item K) :=
  (src.filter (fun s => bounds_overlaps s.b t.b)).map (fun s => (s, t))

/-- every overlapping (source, target) pair -/
def cross (src tgt : List (Item K)) : List (Item K × Item K) := tgt.flatMap (pairsWith src)

theorem cross_nil (src : List (Item K)) : cross src [] = [] := rfl

theorem cross_cons (src : List (Item K)) (t : Item K) (tgt : List (Item K)) :
    cross src (t :: tgt) = pairsWith src t ++ cross src tgt := by
  simp only [cross, List.flatMap_cons]

theorem cross_nil_src (tgt : List (Item K)) : cross ([] : List (Item K)) tgt = [] := by
  induction tgt with
  | nil => rfl
  | cons t tgt ih => rw [cross_cons, ih]; rfl

theorem hits_reverse_perm (active : List (Item K)) (x : Item K) :
    ((hits active x).reverse).Perm (pairsWith active x) := by
  refine (List.reverse_perm _).trans ?_
  simp only [hits, pairsWith]
  exact ((List.reverse_perm active).filter _).map _

theorem pairsWith_perm_drop {src src' dropped : List (Item K)} {t : Item K}
    (hp : src.Perm (src' ++ dropped)) (hd : ∀ d ∈ dropped, bounds_overlaps d.b t.b = false) :
    (pairsWith src t).Perm (pairsWith src' t) := by
  have h1 : (src.filter (fun s => bounds_overlaps s.b t.b)).Perm
      ((src' ++ dropped).filter (fun s => bounds_overlaps s.b t.b)) := hp.filter _
  have h2 : dropped.filter (fun s => bounds_overlaps s.b t.b) = [] := by
    rw [List.filter_eq_nil_iff]
    intro d hdm
    rw [hd d hdm]
    exact Bool.false_ne_true
  rw [List.filter_append, h2, List.append_nil] at h1
  exact h1.map _

theorem cross_perm_drop {src src' dropped : List (Item K)} (tgt : List (Item K))
    (hp : src.Perm (src' ++ dropped))
    (hd : ∀ d ∈ dropped, ∀ t ∈ tgt, bounds_overlaps d.b t.b = false) :
    (cross src tgt).Perm (cross src' tgt) := by
  induction tgt with
  | nil => exact List.Perm.refl _
  | cons t tgt ih =>
    rw [cross_cons, cross_cons]
    refine List.Perm.append ?_ (ih ?_)
    · exact pairsWith_perm_drop hp (fun d hdm => hd d hdm t List.mem_cons_self)
    · exact fun d hdm t' ht' => hd d hdm t' (List.mem_cons_of_mem _ ht')

theorem cross_perm {src src' : List (Item K)} (tgt : List (Item K)) (hp : src.Perm src') :
    (cross src tgt).Perm (cross src' tgt) :=
  cross_perm_drop (dropped := []) tgt (by rw [List.append_nil]; exact hp)
    (fun _ h => absurd h List.not_mem_nil)

theorem cross_cons_src (x : Item K) (src tgt : List (Item K)) :
    (cross (x :: src) tgt).Perm
      (cross src tgt ++ (tgt.filter (fun y => bounds_overlaps x.b y.b)).map (fun y => (x, y))) := by
  induction tgt with
  | nil => exact List.Perm.refl _
  | cons y tgt ih =>
    -- both sides gain the pair `(x, y)` exactly if the two overlap
    have e1 : pairsWith (x :: src) y =
        (if bounds_overlaps x.b y.b then [(x, y)] else []) ++ pairsWith src y := by
      unfold pairsWith
      rw [List.filter_cons]
      split <;> rfl
    have e2 : ((y :: tgt).filter (fun y => bounds_overlaps x.b y.b)).map (fun y => (x, y)) =
        (if bounds_overlaps x.b y.b then [(x, y)] else []) ++
          (tgt.filter (fun y => bounds_overlaps x.b y.b)).map (fun y => (x, y)) := by
      rw [List.filter_cons]
      split <;> rfl
    rw [cross_cons, cross_cons, e1, e2]
    refine (List.Perm.append_left _ ih).trans ?_
    simp only [List.append_assoc]
    exact (List.perm_append_comm_assoc _ _ _).trans ((List.perm_append_comm_assoc _ _ _).append_left _)

/-- what the source-reading loop guarantees: it moves a prefix of the unread sources onto the stack, the unread
sources stay sorted and not below `lastMin`, and every source left unread starts after `tgtMax` -/
def ReadPost (tgtMax : K) (active rest : List (Item K)) (r : Option K × List (Item K) × List (Item K)) : Prop :=
  (r.2.1 ++ r.2.2).Perm (active ++ rest) ∧
    r.2.2.Pairwise (fun a b => minx a ≤ minx b) ∧
    (∀ l, r.1 = some l → ∀ s ∈ r.2.2, l ≤ minx s) ∧
    (∀ s ∈ r.2.2, tgtMax < minx s)

/-- with more fuel than unread sources the loop never stops because of the fuel -/
theorem readSrc_spec (tgtMax : K) (fuel : Nat) (lastMin : Option K) (active rest : List (Item K))
    (hfuel : rest.length < fuel)
    (hs : rest.Pairwise (fun a b => minx a ≤ minx b))
    (hinv : ∀ l, lastMin = some l → ∀ s ∈ rest, l ≤ minx s) :
    ReadPost tgtMax active rest (readSrc tgtMax fuel lastMin active rest) := by
  induction fuel generalizing lastMin active rest with
  | zero => exact absurd hfuel (Nat.not_lt_zero _)
  | succ fuel ih =>
    simp only [readSrc]
    split_ifs with hstop
    · -- stopped by `last_min_x > target_max_x`
      refine ⟨List.Perm.refl _, hs, hinv, fun s hsm => ?_⟩
      cases lastMin with
      | none => exact absurd hstop Bool.false_ne_true
      | some l => exact lt_of_lt_of_le (of_decide_eq_true hstop) (hinv l rfl s hsm)
    · cases rest with
      | nil =>
        exact ⟨List.Perm.refl _, List.Pairwise.nil, fun _ _ _ h => absurd h List.not_mem_nil,
          fun _ h => absurd h List.not_mem_nil⟩
      | cons s rest' =>
        obtain ⟨hsx, hs'⟩ := List.pairwise_cons.1 hs
        obtain ⟨h1, h2, h3, h4⟩ := ih (some (minx s)) (insertByMax s active) rest'
          (Nat.lt_of_succ_lt_succ hfuel) hs' (fun l hl => by cases hl; exact hsx)
        exact ⟨h1.trans ((List.Perm.append_right _ (insertByMax_perm s active)).trans List.perm_middle.symm),
          h2, h3, h4⟩

/-- invariant of the `sweep_against` loop: what is still to be emitted are the pairs of the pending targets with the
stack and with the unread sources -/
theorem sweepAgainstGo_perm (lastMin : Option K) (active rest tgts : List (Item K))
    (hs : rest.Pairwise (fun a b => minx a ≤ minx b))
    (ht : tgts.Pairwise (fun a b => minx a ≤ minx b))
    (hinv : ∀ l, lastMin = some l → ∀ s ∈ rest, l ≤ minx s) :
    (sweepAgainstGo lastMin active rest tgts).Perm (cross (active ++ rest) tgts) := by
  induction tgts generalizing lastMin active rest with
  | nil => exact List.Perm.refl _
  | cons t tgts ih =>
    obtain ⟨htx, ht'⟩ := List.pairwise_cons.1 ht
    obtain ⟨dr, hp, hd⟩ := popLoop_split (minx t) active
    have hspec := readSrc_spec (maxx t) (rest.length + 1) lastMin (popLoop (minx t) active) rest
      (Nat.lt_succ_self _) hs hinv
    simp only [sweepAgainstGo]
    generalize readSrc (maxx t) (rest.length + 1) lastMin (popLoop (minx t) active) rest = r at hspec
    obtain ⟨lm', a2, r'⟩ := r
    obtain ⟨h1, h2, h3, h4⟩ := hspec
    simp only at h1 h2 h3 h4 ⊢
    -- all sources = stack after reading ++ unread ++ popped
    have hall : (active ++ rest).Perm ((a2 ++ r') ++ dr) := by
      refine (List.Perm.append_right rest hp).trans ?_
      rw [List.append_assoc]
      refine (List.Perm.append_left _ List.perm_append_comm).trans ?_
      rw [← List.append_assoc]
      exact List.Perm.append_right _ h1.symm
    rw [cross_cons]
    refine List.Perm.append ?_ ?_
    · refine (hits_reverse_perm a2 t).trans (pairsWith_perm_drop (dropped := r' ++ dr) ?_ ?_).symm
      · rw [← List.append_assoc]; exact hall
      · -- neither the unread sources (they start after `t` ends) nor the popped items overlap `t`
        intro d hdm
        rcases List.mem_append.1 hdm with h | h
        · exact overlaps_false_of_apart (Or.inr (h4 d h))
        · exact hd d h t le_rfl
    · -- the popped items overlap no later target either
      exact (ih lm' a2 r' h2 ht' h3).trans (cross_perm_drop tgts hall fun d hdm y hy => hd d hdm y (htx y hy)).symm

end Lemmas.Sweep
