/-
Helper lemmas for C09: a control polygon with exactly one crossing in the sense of the code's `count_x_axis_crossings`
(sign classes `< 0` and `≥ 0`) has the one-sign-change pattern of `bern_one_change`, so its Bernstein polynomial has at most
one zero in the open interval (0,1): in any degree, and for the six points of a section.
-/
import FloVerif.Lemmas.Nearest
import FloVerif.Lemmas.NearestDescartes
import Mathlib.Tactic.IntervalCases

set_option linter.unusedSectionVars false
namespace C09L
open Prelude Gen Model.Nearest Finset

variable {K : Type} [Field K] [LinearOrder K] [IsStrictOrderedRing K] [Inhabited K]

def cf6 (c0 c1 c2 c3 c4 c5 : K) (i : ℕ) : K := [c0, c1, c2, c3, c4, c5].getD i 0

theorem bern5_eq_sum (c0 c1 c2 c3 c4 c5 t : K) :
    bern5 c0 c1 c2 c3 c4 c5 t = ∑ i ∈ range (5 + 1), cf6 c0 c1 c2 c3 c4 c5 i * bernB 5 i t := by
  simp only [sum_range_succ, sum_range_zero, bernB, cf6, bern5, List.getD_cons_zero, List.getD_cons_succ, Nat.choose,
    Nat.cast_ofNat, Nat.cast_one, Nat.reduceAdd, Nat.reduceSub]
  ring

theorem bern5_zero_of_nonneg {c0 c1 c2 c3 c4 c5 t : K} (h0 : 0 ≤ c0) (h1 : 0 ≤ c1) (h2 : 0 ≤ c2) (h3 : 0 ≤ c3)
    (h4 : 0 ≤ c4) (h5 : 0 ≤ c5) (ht0 : 0 < t) (ht1 : t < 1) (hz : bern5 c0 c1 c2 c3 c4 c5 t = 0) (u : K) :
    bern5 c0 c1 c2 c3 c4 c5 u = 0 := by
  rw [bern5_eq_sum] at hz ⊢
  have hall := bern_nonneg_zero _ (fun i hi => by interval_cases i <;> assumption) ht0 ht1 hz
  exact sum_eq_zero fun i hi => by rw [hall i (mem_range_succ_iff.1 hi), zero_mul]

theorem one_change_pattern (s : ℕ → Prop) [DecidablePred s] : ∀ n : ℕ,
    (∑ i ∈ range n, if (s i ↔ s (i + 1)) then 0 else 1) = 1 →
      ∃ k, 1 ≤ k ∧ k ≤ n ∧ (∀ i, i < k → (s i ↔ s 0)) ∧ ∀ i, k ≤ i → i ≤ n → (s i ↔ ¬ s 0)
  | 0, h => by simp at h
  | n + 1, h => by
    rw [sum_range_succ] at h
    by_cases hn : s n ↔ s (n + 1)
    · rw [if_pos hn, add_zero] at h
      obtain ⟨k, hk1, hkn, hlo, hhi⟩ := one_change_pattern s n h
      refine ⟨k, hk1, hkn.trans n.le_succ, hlo, fun i hki hin => ?_⟩
      rcases Nat.lt_or_ge i (n + 1) with hi | hi
      · exact hhi i hki (Nat.lt_succ_iff.1 hi)
      · rw [le_antisymm hin hi, ← hn]; exact hhi n hkn le_rfl
    · rw [if_neg hn] at h
      -- no change before the last step
      have hstep : ∀ i, i < n → (s i ↔ s (i + 1)) := fun i hi => of_not_not fun hne => one_ne_zero
        (ite_eq_left_iff.1 (sum_eq_zero_iff.1 (Nat.add_right_cancel h : _ = 0) i (mem_range.2 hi)) hne)
      have hconst : ∀ i, i ≤ n → (s i ↔ s 0) := fun i hi => by
        induction i with
        | zero => rfl
        | succ i ih => exact (hstep i hi).symm.trans (ih (Nat.le_of_succ_le hi))
      refine ⟨n + 1, n.succ_pos, le_rfl, fun i hi => hconst i (Nat.lt_succ_iff.1 hi), fun i hki hin => ?_⟩
      rw [le_antisymm hin hki, ← hconst n le_rfl]
      exact (not_iff.1 hn).symm

theorem bern_one_crossing {n : ℕ} (c : ℕ → K) (hc : ∑ i ∈ range n, cross (c i) (c (i + 1)) = 1)
    {t1 t2 : K} (h0 : 0 < t1) (h12 : t1 < t2) (h1 : t2 < 1)
    (hz1 : ∑ i ∈ range (n + 1), c i * bernB n i t1 = 0) (hz2 : ∑ i ∈ range (n + 1), c i * bernB n i t2 = 0) : False := by
  simp only [cross_eq] at hc
  obtain ⟨k, hk1, hkn, hlo, hhi⟩ := one_change_pattern (fun i => c i < 0) n hc
  by_cases hs : c 0 < 0
  · -- negative below `k`, non-negative from `k` on; `c 0 ≠ 0`
    have hall := bern_one_change hkn c (fun i hi => ((hlo i hi).2 hs).le)
      (fun i hki hin => not_lt.1 fun h => (hhi i hki hin).1 h hs) h0 h12 h1 hz1 hz2
    exact hs.ne (hall 0 n.zero_le)
  · -- the same for `-c`; `c n ≠ 0`
    have hneg : ∀ t : K, ∑ i ∈ range (n + 1), -c i * bernB n i t = -∑ i ∈ range (n + 1), c i * bernB n i t := fun t => by
      simp only [neg_mul, sum_neg_distrib]
    have hall := bern_one_change hkn (fun i => -c i)
      (fun i hi => neg_nonpos.2 (not_lt.1 fun h => hs ((hlo i hi).1 h)))
      (fun i hki hin => (neg_pos.2 ((hhi i hki hin).2 hs)).le) h0 h12 h1
      (by rw [hneg, hz1, neg_zero]) (by rw [hneg, hz2, neg_zero])
    exact ((hhi n hkn le_rfl).2 hs).ne (neg_eq_zero.1 (hall n le_rfl))

theorem one_crossing_zero_unique (c0 c1 c2 c3 c4 c5 : K)
    (hc : cross c0 c1 + cross c1 c2 + cross c2 c3 + cross c3 c4 + cross c4 c5 = 1)
    {t1 t2 : K} (h0 : 0 < t1) (h12 : t1 < t2) (h1 : t2 < 1)
    (hz1 : bern5 c0 c1 c2 c3 c4 c5 t1 = 0) (hz2 : bern5 c0 c1 c2 c3 c4 c5 t2 = 0) : False :=
  bern_one_crossing (n := 5) (cf6 c0 c1 c2 c3 c4 c5)
    (by simp only [sum_range_succ, sum_range_zero, zero_add]; exact hc) h0 h12 h1
    (by rw [← bern5_eq_sum]; exact hz1) (by rw [← bern5_eq_sum]; exact hz2)

end C09L
