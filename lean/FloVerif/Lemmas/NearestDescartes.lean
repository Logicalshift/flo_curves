/-
Helper lemmas for C09: the one-sign-change case of the variation diminishing property (Descartes' rule for the
Bernstein basis): a degree-n Bernstein polynomial whose coefficients are `≤ 0` up to some index and `≥ 0` from it on,
not all zero, has at most one zero in the open interval (0,1).
-/
import Mathlib.Algebra.Order.BigOperators.Group.Finset
import Mathlib.Algebra.BigOperators.Group.Finset.Basic
import Mathlib.Algebra.BigOperators.Ring.Finset
import Mathlib.Algebra.Order.Field.Basic
import Mathlib.Data.Nat.Choose.Basic
import Mathlib.Tactic.Ring
import Mathlib.Tactic.Linarith
import Mathlib.Tactic.Positivity

namespace C09L
open Finset

variable {K : Type} [Field K]

def bernB (n i : ℕ) (t : K) : K := (n.choose i : K) * t ^ i * (1 - t) ^ (n - i)

theorem det_monomials (C D a b c d : K) (k m l : ℕ) :
    C * b ^ (k + m) * d ^ l * (D * a ^ k * c ^ (l + m)) - C * a ^ (k + m) * c ^ l * (D * b ^ k * d ^ (l + m)) =
      C * D * a ^ k * b ^ k * c ^ l * d ^ l * ((b * c) ^ m - (a * d) ^ m) := by
  ring

variable [LinearOrder K] [IsStrictOrderedRing K]

theorem bernB_pos {n i : ℕ} (hi : i ≤ n) {t : K} (h0 : 0 < t) (h1 : t < 1) : 0 < bernB n i t := by
  have hs : 0 < 1 - t := by linarith
  have hc : (0 : K) < (n.choose i : K) := by exact_mod_cast Nat.choose_pos hi
  unfold bernB
  positivity

theorem bern_nonneg_zero {n : ℕ} (c : ℕ → K) (hc : ∀ i, i ≤ n → 0 ≤ c i) {t : K} (h0 : 0 < t) (h1 : t < 1)
    (hz : ∑ i ∈ range (n + 1), c i * bernB n i t = 0) : ∀ i, i ≤ n → c i = 0 := by
  intro i hi
  have := (sum_eq_zero_iff_of_nonneg fun j hj =>
    mul_nonneg (hc j (mem_range_succ_iff.1 hj)) (bernB_pos (mem_range_succ_iff.1 hj) h0 h1).le).1 hz i
      (mem_range_succ_iff.2 hi)
  exact (mul_eq_zero.1 this).resolve_right (bernB_pos hi h0 h1).ne'

theorem bernB_det_pos {n i k : ℕ} (hki : k < i) (hi : i ≤ n) {t1 t2 : K} (h0 : 0 < t1) (h12 : t1 < t2) (h1 : t2 < 1) :
    0 < bernB n i t2 * bernB n k t1 - bernB n i t1 * bernB n k t2 := by
  obtain ⟨m, rfl⟩ : ∃ m, i = k + m := ⟨i - k, by omega⟩
  obtain ⟨l, rfl⟩ : ∃ l, n = k + m + l := ⟨n - (k + m), by omega⟩
  have hs2 : 0 < 1 - t2 := sub_pos.2 h1
  have hs1 : 0 < 1 - t1 := hs2.trans (sub_lt_sub_left h12 1)
  have ht2 : 0 < t2 := h0.trans h12
  have hc1 : (0 : K) < ((k + m + l).choose (k + m) : K) := Nat.cast_pos.2 (Nat.choose_pos (by omega))
  have hc2 : (0 : K) < ((k + m + l).choose k : K) := Nat.cast_pos.2 (Nat.choose_pos (by omega))
  have : 0 < (t2 * (1 - t1)) ^ m - (t1 * (1 - t2)) ^ m :=
    sub_pos.2 (pow_lt_pow_left₀ (mul_lt_mul'' h12 (sub_lt_sub_left h12 1) h0.le hs2.le) (mul_pos h0 hs2).le (by omega))
  unfold bernB
  rw [show k + m + l - (k + m) = l by omega, show k + m + l - k = l + m by omega, det_monomials]
  positivity

theorem bern_one_change {n k : ℕ} (hk : k ≤ n) (c : ℕ → K) (hneg : ∀ i, i < k → c i ≤ 0)
    (hpos : ∀ i, k ≤ i → i ≤ n → 0 ≤ c i) {t1 t2 : K} (h0 : 0 < t1) (h12 : t1 < t2) (h1 : t2 < 1)
    (hz1 : ∑ i ∈ range (n + 1), c i * bernB n i t1 = 0) (hz2 : ∑ i ∈ range (n + 1), c i * bernB n i t2 = 0) :
    ∀ i, i ≤ n → c i = 0 := by
  let D : ℕ → K := fun i => bernB n i t2 * bernB n k t1 - bernB n i t1 * bernB n k t2
  have hDpos : ∀ i, k < i → i ≤ n → 0 < D i := fun i h hin => bernB_det_pos h hin h0 h12 h1
  have hDneg : ∀ i, i < k → D i < 0 := fun i h => sub_neg.2 (by
    have := sub_pos.1 (bernB_det_pos h hk h0 h12 h1)
    rwa [mul_comm (bernB n k t1), mul_comm (bernB n k t2)] at this)
  -- the combination of the two equations in which the `k`-th term drops out
  have hE : ∑ i ∈ range (n + 1), c i * D i = 0 := by
    have : ∀ i, c i * D i = c i * bernB n i t2 * bernB n k t1 - c i * bernB n i t1 * bernB n k t2 := fun i =>
      (mul_sub _ _ _).trans (by rw [mul_assoc, mul_assoc])
    simp only [this, sum_sub_distrib, ← sum_mul, hz1, hz2, zero_mul, sub_zero]
  -- every term of it is non-negative, so every term vanishes, and `D i ≠ 0` away from `k`
  have hterm : ∀ i ∈ range (n + 1), 0 ≤ c i * D i := fun i hi => by
    rcases lt_trichotomy i k with h | rfl | h
    · exact mul_nonneg_of_nonpos_of_nonpos (hneg i h) (hDneg i h).le
    · exact (mul_eq_zero_of_right _ (sub_eq_zero.2 (mul_comm _ _))).ge
    · exact mul_nonneg (hpos i h.le (mem_range_succ_iff.1 hi)) (hDpos i h (mem_range_succ_iff.1 hi)).le
  have hne : ∀ i, i ≤ n → i ≠ k → c i = 0 := fun i hin hik =>
    (mul_eq_zero.1 ((sum_eq_zero_iff_of_nonneg hterm).1 hE i (mem_range_succ_iff.2 hin))).resolve_right
      (hik.lt_or_gt.elim (fun h => (hDneg i h).ne) fun h => (hDpos i h hin).ne')
  -- the first equation is left with its `k`-th term
  have hck : c k * bernB n k t1 = 0 := by
    rw [← hz1, sum_eq_single k (fun i hi hik => by rw [hne i (mem_range_succ_iff.1 hi) hik, zero_mul])
      fun h => absurd (mem_range_succ_iff.2 hk) h]
  intro i hin
  by_cases hik : i = k
  · exact hik ▸ (mul_eq_zero.1 hck).resolve_right (bernB_pos hk h0 (h12.trans h1)).ne'
  · exact hne i hin hik

end C09L
