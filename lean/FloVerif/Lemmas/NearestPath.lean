/-
Helper lemmas for C09: the fold of `path_closest_point` (generated, `Gen.path_closest_point`) as an arg-min over the
curves of the path.
-/
import FloVerif.Lemmas.Nearest

set_option linter.unusedSectionVars false
namespace C09L
open Prelude Gen Model.Nearest

variable {K : Type} [Field K] [LinearOrder K] [IsStrictOrderedRing K] [Inhabited K]
local instance fabsNearestPath : FAbs K := ⟨fun a => |a|⟩
variable [FSqrt K] [FConsts K]

abbrev Cv (K : Type) := T4 (V2 K) (V2 K) (V2 K) (V2 K)

/-- squared distance from the query to the point of curve `c` at the parameter `nt` reports -/
def curveDistSq (nt : Cv K → V2 K → K) (point : V2 K) (c : Cv K) : K :=
  dot (point - curve_point_at_pos c.t0 c.t1 c.t2 c.t3 (nt c point)) (point - curve_point_at_pos c.t0 c.t1 c.t2 c.t3 (nt c point))

def pcStep (nt : Cv K → V2 K → K) (point : V2 K) (st : T4 Nat K K (V2 K)) (i : Nat) (c : Cv K) : T4 Nat K K (V2 K) :=
  if curveDistSq nt point c < st.t2 then ⟨i, nt c point, curveDistSq nt point c, curve_point_at_pos c.t0 c.t1 c.t2 c.t3 (nt c point)⟩ else st

def pcFold (nt : Cv K → V2 K → K) (point : V2 K) : Nat → List (Cv K) → T4 Nat K K (V2 K) → T4 Nat K K (V2 K)
  | _, [], st => st
  | n, c :: rest, st => pcFold nt point (n + 1) rest (pcStep nt point st n c)

theorem path_unfold (nt : Cv K → V2 K → K) (curves : List (Cv K)) (point : V2 K) :
    path_closest_point nt curves point =
      let r := pcFold nt point 0 curves ⟨0, 0, fmaxval, ⟨0, 0⟩⟩
      ⟨r.t0, r.t1, fsqrt r.t2, r.t3⟩ := by
  have key : ∀ (F : T4 Nat K K (V2 K) → T2 Nat (Cv K) → T4 Nat K K (V2 K)),
      (∀ st i c, F st ⟨i, c⟩ = pcStep nt point st i c) →
      ∀ (l : List (Cv K)) (n : Nat) (st : T4 Nat K K (V2 K)),
        List.foldl F st (List.map (fun p_ => T2.mk p_.2 p_.1) (List.zipIdx l n)) = pcFold nt point n l st := by
    intro F hF l
    induction l with
    | nil => intro n st; rfl
    | cons c rest ih =>
      intro n st
      simp only [List.zipIdx_cons, List.map_cons, List.foldl_cons, pcFold, hF, ih]
  simp only [path_closest_point, foldlT, lit0]
  rw [key]
  intro st i c
  by_cases h : curveDistSq nt point c < st.t2
  · simp only [pcStep, if_pos h]
    have h' := h
    unfold curveDistSq at h'
    simp [h', curveDistSq]
  · simp only [pcStep, if_neg h]
    have h' := h
    unfold curveDistSq at h'
    simp [h']

theorem forall_lt_getElem?_cons {α : Type} {P : α → Prop} {a : α} {l : List α} {j : Nat} (ha : P a)
    (hl : ∀ i x, i < j → l[i]? = some x → P x) : ∀ i x, i < j + 1 → (a :: l)[i]? = some x → P x
  | 0, x, _, h => by rw [List.getElem?_cons_zero, Option.some.injEq] at h; exact h ▸ ha
  | i + 1, x, hi, h => hl i x (Nat.lt_of_succ_lt_succ hi) (by rwa [List.getElem?_cons_succ] at h)

/-- what the fold computes: nothing better than the start, or the FIRST curve of least distance -/
theorem pcFold_spec (nt : Cv K → V2 K → K) (point : V2 K) :
    ∀ (l : List (Cv K)) (n : Nat) (st : T4 Nat K K (V2 K)),
      (pcFold nt point n l st = st ∧ ∀ c ∈ l, st.t2 ≤ curveDistSq nt point c) ∨
      (∃ j c, l[j]? = some c ∧
        pcFold nt point n l st = ⟨n + j, nt c point, curveDistSq nt point c,
          curve_point_at_pos c.t0 c.t1 c.t2 c.t3 (nt c point)⟩ ∧
        curveDistSq nt point c < st.t2 ∧ (∀ c' ∈ l, curveDistSq nt point c ≤ curveDistSq nt point c') ∧
        ∀ i c', i < j → l[i]? = some c' → curveDistSq nt point c < curveDistSq nt point c')
  | [], n, st => Or.inl ⟨rfl, by simp⟩
  | c :: rest, n, st => by
    simp only [pcFold]
    by_cases h : curveDistSq nt point c < st.t2
    · -- `c` becomes the best so far: it stays so, or a later curve is strictly better
      rw [show pcStep nt point st n c = ⟨n, nt c point, curveDistSq nt point c,
        curve_point_at_pos c.t0 c.t1 c.t2 c.t3 (nt c point)⟩ from if_pos h]
      rcases pcFold_spec nt point rest (n + 1) ⟨n, nt c point, curveDistSq nt point c,
        curve_point_at_pos c.t0 c.t1 c.t2 c.t3 (nt c point)⟩ with ⟨e, hall⟩ | ⟨j, c2, hj, e, hlt, hall, hfirst⟩
      · exact Or.inr ⟨0, c, rfl, e, h, List.forall_mem_cons.2 ⟨le_rfl, hall⟩, fun i _ hi => absurd hi i.not_lt_zero⟩
      · exact Or.inr ⟨j + 1, c2, by rwa [List.getElem?_cons_succ], by rw [e]; congr 1; omega, hlt.trans h,
          List.forall_mem_cons.2 ⟨hlt.le, hall⟩, forall_lt_getElem?_cons hlt hfirst⟩
    · rw [show pcStep nt point st n c = st from if_neg h]
      rcases pcFold_spec nt point rest (n + 1) st with ⟨e, hall⟩ | ⟨j, c2, hj, e, hlt, hall, hfirst⟩
      · exact Or.inl ⟨e, List.forall_mem_cons.2 ⟨not_lt.1 h, hall⟩⟩
      · exact Or.inr ⟨j + 1, c2, by rwa [List.getElem?_cons_succ], by rw [e]; congr 1; omega, hlt,
          List.forall_mem_cons.2 ⟨hlt.le.trans (not_lt.1 h), hall⟩, forall_lt_getElem?_cons (hlt.trans_le (not_lt.1 h)) hfirst⟩

end C09L
