/-
Helper lemmas for C02: sections, hulls and boxes; the generated `curve_intersects_curve_clip_inner` and `curve_intersects_curve_clip`
in compact form (`innerSpec`, equal to the generated term by `rfl`: `inner_eq`; `top_eq`); the case analysis of one loop iteration
(`step_out`, `tail_out`); `join_subsections` (`join_eq`).
-/
import FloVerif.Lemmas.ClipExact
import FloVerif.Lemmas.Basics
import FloVerif.Props.C05
import FloVerif.Gen.CurveClip
import FloVerif.Model.CurveClip
import Mathlib.Tactic.Ring
import Mathlib.Tactic.NormNum.OfScientific
import Mathlib.Tactic.FieldSimp
import Mathlib.Tactic.Linarith
import Mathlib.Tactic.Positivity
import Mathlib.Tactic.LinearCombination

set_option linter.unusedSectionVars false
namespace CurveClipLemmas
open Prelude Gen FatLineLemmas ClipExact Model.CurveClip

variable {K : Type} [Field K] [LinearOrder K] [IsStrictOrderedRing K] [Inhabited K]

-- `lit0`, … and `norm_num` ask for it
local instance : CharZero K := inferInstance

local instance : FAbs K := ⟨fun a => |a|⟩

/-! # sections -/

/-- a section of [0,1]: `0 ≤ t_c`, `0 ≤ t_m`, `t_c + t_m ≤ 1` -/
def Sub01 (S : SectionT K) : Prop := 0 ≤ S.t_c ∧ 0 ≤ S.t_m ∧ S.t_c + S.t_m ≤ 1

/-- the parameter `s` of the original curve belongs to the section `S` (at the section parameter `u ∈ [0,1]`) -/
def InSec (S : SectionT K) (s : K) : Prop := ∃ u, 0 ≤ u ∧ u ≤ 1 ∧ section_t_for_t S u = s

theorem sub01_whole : Sub01 (section_new (0.0 : K) (1.0 : K)) := by
  simp only [Sub01, section_new, Prelude.lit0, Prelude.lit1]; norm_num

theorem inSec_whole (s : K) (h0 : 0 ≤ s) (h1 : s ≤ 1) : InSec (section_new (0.0 : K) (1.0 : K)) s := by
  refine ⟨s, h0, h1, ?_⟩
  simp only [section_t_for_t, section_new, Prelude.lit0, Prelude.lit1]; ring

theorem inSec_bounds (S : SectionT K) (hS : Sub01 S) (s : K) (h : InSec S s) : S.t_c ≤ s ∧ s ≤ S.t_c + S.t_m := by
  obtain ⟨u, u0, u1, rfl⟩ := h
  rw [section_t_for_t, add_comm S.t_c]
  exact ⟨le_add_of_nonneg_left (mul_nonneg u0 hS.2.1), add_le_add_left (mul_le_of_le_one_left hS.2.1 u1) _⟩

theorem inSec_of_bounds (S : SectionT K) (hS : Sub01 S) (s : K) (h0 : S.t_c ≤ s) (h1 : s ≤ S.t_c + S.t_m) : InSec S s := by
  rcases eq_or_lt_of_le hS.2.1 with e | hpos
  · rw [← e, add_zero] at h1
    exact ⟨0, le_rfl, zero_le_one, by rw [section_t_for_t, zero_mul, zero_add]; exact le_antisymm h0 h1⟩
  · refine ⟨(s - S.t_c) / S.t_m, div_nonneg (sub_nonneg.2 h0) hpos.le, (div_le_one hpos).2 (sub_le_iff_le_add'.2 h1), ?_⟩
    rw [section_t_for_t, div_mul_cancel₀ _ hpos.ne', sub_add_cancel]

theorem inSec_01 (S : SectionT K) (hS : Sub01 S) (s : K) (h : InSec S s) : 0 ≤ s ∧ s ≤ 1 := by
  obtain ⟨a, b⟩ := inSec_bounds S hS s h
  obtain ⟨c0, _, c1⟩ := hS
  exact ⟨le_trans c0 a, le_trans b c1⟩

theorem subsection_width (S : SectionT K) (a b : K) : (section_subsection S a b).t_m = (b - a) * S.t_m := by
  simp only [section_subsection, section_new, section_t_for_t]; ring

theorem sub01_subsection (S : SectionT K) (hS : Sub01 S) (a b : K) (ha : 0 ≤ a) (hab : a ≤ b) (hb : b ≤ 1) :
    Sub01 (section_subsection S a b) := by
  obtain ⟨c0, m0, c1⟩ := hS
  refine ⟨add_nonneg (mul_nonneg ha m0) c0, ?_, ?_⟩
  · rw [subsection_width]; exact mul_nonneg (sub_nonneg.2 hab) m0
  · show a * S.t_m + S.t_c + (b * S.t_m + S.t_c - (a * S.t_m + S.t_c)) ≤ 1
    rw [add_sub_cancel]
    linarith [mul_le_of_le_one_left m0 hb]

theorem inSec_subsection (S : SectionT K) (a b u : K) (hau : a ≤ u) (hub : u ≤ b) :
    InSec (section_subsection S a b) (section_t_for_t S u) := by
  rcases eq_or_lt_of_le (le_trans hau hub) with e | hlt
  · obtain rfl : u = a := le_antisymm (e ▸ hub) hau
    exact ⟨0, le_rfl, zero_le_one, by rw [section_t_for_t, zero_mul, zero_add]; rfl⟩
  · have hpos : 0 < b - a := sub_pos.2 hlt
    refine ⟨(u - a) / (b - a), div_nonneg (sub_nonneg.2 hau) hpos.le,
      (div_le_one hpos).2 (sub_le_sub_right hub a), ?_⟩
    rw [section_t_for_t, subsection_width, ← mul_assoc, div_mul_cancel₀ _ hpos.ne']
    simp only [section_subsection, section_new, section_t_for_t]
    ring

theorem inSec_halves (S : SectionT K) (s : K) (h : InSec S s) :
    InSec (section_subsection S (0.0 : K) (0.5 : K)) s ∨ InSec (section_subsection S (0.5 : K) (1.0 : K)) s := by
  obtain ⟨u, u0, u1, rfl⟩ := h
  rw [Prelude.lit0, Prelude.lit1, lit05]
  rcases le_total u (1/2) with hle | hge
  · exact Or.inl (inSec_subsection S 0 (1/2) u u0 hle)
  · exact Or.inr (inSec_subsection S (1/2) 1 u hge u1)

theorem sub01_halves (S : SectionT K) (hS : Sub01 S) :
    Sub01 (section_subsection S (0.0 : K) (0.5 : K)) ∧ Sub01 (section_subsection S (0.5 : K) (1.0 : K)) := by
  rw [Prelude.lit0, Prelude.lit1, lit05]
  exact ⟨sub01_subsection S hS 0 (1/2) le_rfl (by norm_num) (by norm_num),
         sub01_subsection S hS (1/2) 1 (by norm_num) (by norm_num) le_rfl⟩

theorem t_for_t_01 (S : SectionT K) (hS : Sub01 S) (u : K) (u0 : 0 ≤ u) (u1 : u ≤ 1) :
    0 ≤ section_t_for_t S u ∧ section_t_for_t S u ≤ 1 :=
  inSec_01 S hS _ ⟨u, u0, u1, rfl⟩

/-- the mid-parameter the code reports for a section: `(t_min + t_max) * 0.5` of `original_curve_t_values` -/
def midT (S : SectionT K) : K :=
  ((section_original_curve_t_values S).t0 + (section_original_curve_t_values S).t1) * (0.5 : K)

theorem midT_eq (S : SectionT K) : midT S = S.t_c + S.t_m / 2 := by
  simp only [midT, section_original_curve_t_values, lit05]; ring

theorem midT_inSec (S : SectionT K) : InSec S (midT S) := by
  refine ⟨1/2, by norm_num, by norm_num, ?_⟩
  rw [midT_eq]; simp only [section_t_for_t]; ring

/-! ## the control points of a section describe the section (from C05) -/

/-- the point of the curve `w` at parameter `t` -/
abbrev ptOf (w1 w2 w3 w4 : V2 K) (t : K) : V2 K := curve_point_at_pos w1 w2 w3 w4 t

/-- SECTION POINTS: evaluating the four points the code computes for a section of [0,1] (start, the two cached control
    points, end) at `u` gives the point of the original curve at `t_for_t(u)` -/
theorem sec_point' (w1 w2 w3 w4 : V2 K) (S : SectionT K) (hS : Sub01 S) (u : K) :
    de_casteljau4 u (section_start_point w1 w2 w3 w4 S) (section_control_points w1 w2 w3 w4 S).t0
      (section_control_points w1 w2 w3 w4 S).t1 (section_end_point w1 w2 w3 w4 S)
      = ptOf w1 w2 w3 w4 (section_t_for_t S u) := by
  obtain ⟨c0, m0, c1⟩ := hS
  have hc : S.t_c ≤ 1 := le_trans (le_add_of_nonneg_right m0) c1
  have hb : S.t_c = 1 → S.t_m = 0 := fun e => le_antisymm ((add_le_iff_nonpos_right 1).1 (e ▸ c1)) m0
  have hx := C05.section_cubic S u w1.x w2.x w3.x w4.x hc hb
  have hy := C05.section_cubic S u w1.y w2.y w3.y w4.y hc hb
  obtain ⟨cx0, cx1⟩ := C05.section_control_points_V2 w1 w2 w3 w4 S
  rw [← C05.basis_eq_de_casteljau4_V2, C05.basis_V2, cx0, cx1]
  show V2.mk _ _ = basis (section_t_for_t S u) w1 w2 w3 w4
  rw [C05.basis_V2]
  congr 1

/-! # hulls and boxes -/

theorem sq_add3_le (a b c : K) : (a + b + c) ^ 2 ≤ 3 * (a ^ 2 + b ^ 2 + c ^ 2) := by
  linear_combination sq_nonneg (a - b) + sq_nonneg (a - c) + sq_nonneg (b - c)

/-- adding a point `y` to a set that spans `[m, M]` and contains `c` widens the span by at most `|y - c|` -/
theorem span_insert {m M c y : K} (h1 : m ≤ c) (h2 : c ≤ M) : max M y - min m y ≤ (M - m) + |y - c| := by
  rcases le_total y c with h | h
  · rw [max_eq_left (h.trans h2), abs_of_nonpos (sub_nonpos.2 h)]
    have : m - (c - y) ≤ min m y := le_min (by linarith) (by linarith)
    linarith
  · rw [min_eq_left (h1.trans h), abs_of_nonneg (sub_nonneg.2 h)]
    have : max M y ≤ M + (y - c) := max_le (by linarith) (by linarith)
    linarith

/-- a value between the least and the greatest of four numbers is within `√(3·Σ leg²)` of any other such value -/
theorem range4_sq (x0 x1 x2 x3 p z : K)
    (hp0 : min (min (min x0 x3) x1) x2 ≤ p) (hp1 : p ≤ max (max (max x0 x3) x1) x2)
    (hz0 : min (min (min x0 x3) x1) x2 ≤ z) (hz1 : z ≤ max (max (max x0 x3) x1) x2) :
    (p - z) ^ 2 ≤ 3 * ((x1 - x0) ^ 2 + (x2 - x1) ^ 2 + (x2 - x3) ^ 2) := by
  -- the chain `x0, x1, x2, x3` spans at most the sum of the lengths of its three legs; then Cauchy-Schwarz
  have h1 : max x0 x1 - min x0 x1 = |x1 - x0| := max_sub_min_eq_abs _ _
  have h2 := span_insert (y := x2) (min_le_right x0 x1) (le_max_right x0 x1)
  have h3 := span_insert (y := x3) (min_le_right (min x0 x1) x2) (le_max_right (max x0 x1) x2)
  rw [max_right_comm x0, max_right_comm _ x3] at hp1 hz1
  rw [min_right_comm x0, min_right_comm _ x3] at hp0 hz0
  have hspan := h3.trans (add_le_add_left (h2.trans (add_le_add_left h1.le _)) _)
  have hs : |p - z| ≤ |x1 - x0| + |x2 - x1| + |x3 - x2| :=
    abs_sub_le_iff.2 ⟨(sub_le_sub hp1 hz0).trans hspan, (sub_le_sub hz1 hp0).trans hspan⟩
  calc (p - z) ^ 2 = |p - z| ^ 2 := (sq_abs _).symm
    _ ≤ (|x1 - x0| + |x2 - x1| + |x3 - x2|) ^ 2 := pow_le_pow_left₀ (abs_nonneg _) hs 2
    _ ≤ 3 * (|x1 - x0| ^ 2 + |x2 - x1| ^ 2 + |x3 - x2| ^ 2) := sq_add3_le _ _ _
    _ = _ := by rw [sq_abs, sq_abs, sq_abs, ← neg_sub x2 x3, neg_sq]

/-- a cubic stays between the least and the greatest of its four coefficients on [0,1] -/
theorem dc4_range (u x0 x1 x2 x3 : K) (u0 : 0 ≤ u) (u1 : u ≤ 1) :
    min (min (min x0 x3) x1) x2 ≤ de_casteljau4 u x0 x1 x2 x3 ∧
    de_casteljau4 u x0 x1 x2 x3 ≤ max (max (max x0 x3) x1) x2 := by
  rw [dc4_bernstein]
  refine C13.bernstein_between u x0 x1 x2 x3 _ _ u0 u1 ⟨?_, ?_⟩ ⟨?_, ?_⟩ ⟨?_, ?_⟩ ⟨?_, ?_⟩
  · exact le_trans (min_le_left _ _) (le_trans (min_le_left _ _) (min_le_left _ _))
  · exact le_trans (le_max_left _ _) (le_trans (le_max_left _ _) (le_max_left _ _))
  · exact le_trans (min_le_left _ _) (min_le_right _ _)
  · exact le_trans (le_max_right _ _) (le_max_left _ _)
  · exact min_le_right _ _
  · exact le_max_right _ _
  · exact le_trans (min_le_left _ _) (le_trans (min_le_left _ _) (min_le_right _ _))
  · exact le_trans (le_max_right _ _) (le_trans (le_max_left _ _) (le_max_left _ _))

/-- the point `q` lies in the box `b` -/
def InBox (b : Bounds2 K) (q : V2 K) : Prop := b.min_.x ≤ q.x ∧ q.x ≤ b.max_.x ∧ b.min_.y ≤ q.y ∧ q.y ≤ b.max_.y

/-- `Bounds::overlaps`: neither box lies beyond the other in either coordinate -/
theorem overlaps_iff (b1 b2 : Bounds2 K) : bounds_overlaps b1 b2 = true ↔
    b1.min_.x ≤ b2.max_.x ∧ b2.min_.x ≤ b1.max_.x ∧ b1.min_.y ≤ b2.max_.y ∧ b2.min_.y ≤ b1.max_.y := by
  simp only [bounds_overlaps, getc, gt_iff_lt, Bool.if_false_left, Bool.and_eq_true, Bool.not_eq_true', decide_eq_false_iff_not,
    and_true, beq_self_eq_true, if_true, (by decide : ((1 : Nat) == 0) = false), Bool.false_eq_true, if_false, decide_eq_true_eq,
    not_lt]

theorem overlaps_of_common (b1 b2 : Bounds2 K) (q : V2 K) (h1 : InBox b1 q) (h2 : InBox b2 q) :
    bounds_overlaps b1 b2 = true :=
  (overlaps_iff b1 b2).2 ⟨h1.1.trans h2.2.1, h2.1.trans h1.2.1, h1.2.2.1.trans h2.2.2.2, h2.2.2.1.trans h1.2.2.2⟩

theorem common_of_overlaps (b1 b2 : Bounds2 K) (hb1 : b1.min_.x ≤ b1.max_.x ∧ b1.min_.y ≤ b1.max_.y)
    (hb2 : b2.min_.x ≤ b2.max_.x ∧ b2.min_.y ≤ b2.max_.y) (h : bounds_overlaps b1 b2 = true) :
    ∃ q, InBox b1 q ∧ InBox b2 q := by
  obtain ⟨e1, e2, e3, e4⟩ := (overlaps_iff b1 b2).1 h
  exact ⟨⟨max b1.min_.x b2.min_.x, max b1.min_.y b2.min_.y⟩, ⟨le_max_left _ _, max_le hb1.1 e2, le_max_left _ _, max_le hb1.2 e4⟩,
    ⟨le_max_right _ _, max_le e1 hb2.1, le_max_right _ _, max_le e3 hb2.2⟩⟩

/-- the box the code computes for a section: least / greatest coordinates of its four points -/
theorem box_eq (w1 w2 w3 w4 : V2 K) (S : SectionT K) :
    let p0 := section_start_point w1 w2 w3 w4 S
    let p1 := (section_control_points w1 w2 w3 w4 S).t0
    let p2 := (section_control_points w1 w2 w3 w4 S).t1
    let p3 := section_end_point w1 w2 w3 w4 S
    section_fast_bounding_box w1 w2 w3 w4 S =
      { min_ := ⟨min (min (min p0.x p3.x) p1.x) p2.x, min (min (min p0.y p3.y) p1.y) p2.y⟩,
        max_ := ⟨max (max (max p0.x p3.x) p1.x) p2.x, max (max (max p0.y p3.y) p1.y) p2.y⟩ } := by
  simp only [section_fast_bounding_box, coord2_from_smallest_components, coord2_from_biggest_components,
    smallest_eq_min, biggest_eq_max]

theorem sec_point_in_box (w1 w2 w3 w4 : V2 K) (S : SectionT K) (hS : Sub01 S) (s : K) (h : InSec S s) :
    InBox (section_fast_bounding_box w1 w2 w3 w4 S) (ptOf w1 w2 w3 w4 s) := by
  obtain ⟨u, u0, u1, rfl⟩ := h
  rw [← sec_point' w1 w2 w3 w4 S hS u, box_eq]
  simp only [InBox, dc4_x, dc4_y]
  obtain ⟨a, b⟩ := dc4_range u (section_start_point w1 w2 w3 w4 S).x (section_control_points w1 w2 w3 w4 S).t0.x
    (section_control_points w1 w2 w3 w4 S).t1.x (section_end_point w1 w2 w3 w4 S).x u0 u1
  obtain ⟨c, d⟩ := dc4_range u (section_start_point w1 w2 w3 w4 S).y (section_control_points w1 w2 w3 w4 S).t0.y
    (section_control_points w1 w2 w3 w4 S).t1.y (section_end_point w1 w2 w3 w4 S).y u0 u1
  exact ⟨a, b, c, d⟩

/-- squared distance of two points -/
def dist2 (p q : V2 K) : K := (p.x - q.x) ^ 2 + (p.y - q.y) ^ 2

theorem dist2_eq_dot (p q : V2 K) : dist2 p q = dot (p - q) (p - q) := by
  simp only [dist2, dot, Prelude.lit0, V2.sub_x, V2.sub_y]; ring

theorem hull_length_of_not_tiny (w1 w2 w3 w4 : V2 K) (S : SectionT K) (h : section_is_tiny S = false) :
    curve_hull_length_sq w1 w2 w3 w4 S =
      dist2 (section_control_points w1 w2 w3 w4 S).t0 (section_start_point w1 w2 w3 w4 S) +
      dist2 (section_control_points w1 w2 w3 w4 S).t1 (section_control_points w1 w2 w3 w4 S).t0 +
      dist2 (section_control_points w1 w2 w3 w4 S).t1 (section_end_point w1 w2 w3 w4 S) := by
  simp only [curve_hull_length_sq, h, Bool.false_eq_true, if_false, dist2_eq_dot]

/-- a `is_tiny` section has hull length 0 whatever its size -/
theorem hull_length_of_tiny (w1 w2 w3 w4 : V2 K) (S : SectionT K) (h : section_is_tiny S = true) :
    curve_hull_length_sq w1 w2 w3 w4 S = 0 := by
  simp only [curve_hull_length_sq, h, if_true, Prelude.lit0]

/-- any two points of the box of a section that is not tiny are within `√(3·hull_length_sq)` of each other -/
theorem box_diameter (w1 w2 w3 w4 : V2 K) (S : SectionT K) (h : section_is_tiny S = false) (p q : V2 K)
    (hp : InBox (section_fast_bounding_box w1 w2 w3 w4 S) p) (hq : InBox (section_fast_bounding_box w1 w2 w3 w4 S) q) :
    dist2 p q ≤ 3 * curve_hull_length_sq w1 w2 w3 w4 S := by
  rw [hull_length_of_not_tiny w1 w2 w3 w4 S h]
  rw [box_eq] at hp hq
  simp only [InBox] at hp hq
  obtain ⟨p0, p1, p2, p3⟩ := hp
  obtain ⟨q0, q1, q2, q3⟩ := hq
  have hx := range4_sq _ _ _ _ p.x q.x p0 p1 q0 q1
  have hy := range4_sq _ _ _ _ p.y q.y p2 p3 q2 q3
  simp only [dist2]
  exact (add_le_add hx hy).trans_eq (by ring)

theorem dist2_triangle (p q z : V2 K) : dist2 p q ≤ 2 * (dist2 p z + dist2 q z) := by
  simp only [dist2]
  linear_combination sq_nonneg ((p.x - z.x) + (q.x - z.x)) + sq_nonneg ((p.y - z.y) + (q.y - z.y))

theorem box_ordered (w1 w2 w3 w4 : V2 K) (S : SectionT K) :
    (section_fast_bounding_box w1 w2 w3 w4 S).min_.x ≤ (section_fast_bounding_box w1 w2 w3 w4 S).max_.x ∧
    (section_fast_bounding_box w1 w2 w3 w4 S).min_.y ≤ (section_fast_bounding_box w1 w2 w3 w4 S).max_.y := by
  rw [box_eq]
  -- the box contains a point of the section's cubic
  exact ⟨(dc4_range 0 _ _ _ _ le_rfl zero_le_one).1.trans (dc4_range 0 _ _ _ _ le_rfl zero_le_one).2,
    (dc4_range 0 _ _ _ _ le_rfl zero_le_one).1.trans (dc4_range 0 _ _ _ _ le_rfl zero_le_one).2⟩

/-! # the generated function in compact form -/

section Spec
variable [FSqrt K] [FConsts K]

abbrev Hits (K : Type) := List (T2 K K)
/-- loop state, in the order the translator threads it: `(curve2, curve1, curve1_last_len, curve2_last_len)` -/
abbrev St (K : Type) := T4 (SectionT K) (SectionT K) K K
abbrev Exit (K : Type) := Sum (St K) (LoopExit (St K) (Hits K))

variable (rec_ : SectionT K → SectionT K → K → K → Hits K) (cx : Ctx K) (acc acc2 : K)

/-- `clip(&curve1, &curve2)`: the section `S1` of the first curve clipped against the section `S2` of the second -/
def clipAB (S1 S2 : SectionT K) : ClipResult K :=
  clip (section_start_point cx.a1 cx.a2 cx.a3 cx.a4 S1) (section_control_points cx.a1 cx.a2 cx.a3 cx.a4 S1).t0
    (section_control_points cx.a1 cx.a2 cx.a3 cx.a4 S1).t1 (section_end_point cx.a1 cx.a2 cx.a3 cx.a4 S1)
    (section_start_point cx.b1 cx.b2 cx.b3 cx.b4 S2) (section_control_points cx.b1 cx.b2 cx.b3 cx.b4 S2).t0
    (section_control_points cx.b1 cx.b2 cx.b3 cx.b4 S2).t1 (section_end_point cx.b1 cx.b2 cx.b3 cx.b4 S2)

/-- `clip(&curve2, &curve1)` -/
def clipBA (S2 S1 : SectionT K) : ClipResult K :=
  clip (section_start_point cx.b1 cx.b2 cx.b3 cx.b4 S2) (section_control_points cx.b1 cx.b2 cx.b3 cx.b4 S2).t0
    (section_control_points cx.b1 cx.b2 cx.b3 cx.b4 S2).t1 (section_end_point cx.b1 cx.b2 cx.b3 cx.b4 S2)
    (section_start_point cx.a1 cx.a2 cx.a3 cx.a4 S1) (section_control_points cx.a1 cx.a2 cx.a3 cx.a4 S1).t0
    (section_control_points cx.a1 cx.a2 cx.a3 cx.a4 S1).t1 (section_end_point cx.a1 cx.a2 cx.a3 cx.a4 S1)

-- hull length, box and point of the first (`1`, `A`) and of the second (`2`, `B`) curve
def len1 (S : SectionT K) : K := curve_hull_length_sq cx.a1 cx.a2 cx.a3 cx.a4 S
def len2 (S : SectionT K) : K := curve_hull_length_sq cx.b1 cx.b2 cx.b3 cx.b4 S
def box1 (S : SectionT K) : Bounds2 K := section_fast_bounding_box cx.a1 cx.a2 cx.a3 cx.a4 S
def box2 (S : SectionT K) : Bounds2 K := section_fast_bounding_box cx.b1 cx.b2 cx.b3 cx.b4 S
def ptA (t : K) : V2 K := ptOf cx.a1 cx.a2 cx.a3 cx.a4 t
def ptB (t : K) : V2 K := ptOf cx.b1 cx.b2 cx.b3 cx.b4 t

/-- both hulls are short: the convergence test -/
def convB (l1 l2 : K) : Bool := decide (l1 ≤ acc2) && decide (l2 ≤ acc2)
/-- neither curve shrank by 20 % -/
def stuckB (l1 l2 last1 last2 : K) : Bool := decide (last1 * (0.8 : K) ≤ l1) && decide (last2 * (0.8 : K) ≤ l2)

/-- split of the first curve's section -/
def split1 (c1 c2 : SectionT K) : Hits K :=
  join_subsections cx.a1 cx.a2 cx.a3 cx.a4 c1 (rec_ (section_subsection c1 (0.0 : K) (0.5 : K)) c2 acc acc2)
    (rec_ (section_subsection c1 (0.5 : K) (1.0 : K)) c2 acc acc2) acc2
/-- split of the second curve's section -/
def split2 (c1 c2 : SectionT K) : Hits K :=
  join_subsections cx.a1 cx.a2 cx.a3 cx.a4 c1 (rec_ c1 (section_subsection c2 (0.0 : K) (0.5 : K)) acc acc2)
    (rec_ c1 (section_subsection c2 (0.5 : K) (1.0 : K)) acc acc2) acc2

/-- the end of an iteration: convergence test, 20 % test, next state -/
def tail (c1 c2 : SectionT K) (l1 l2 last1 last2 : K) : Exit K :=
  if convB acc2 l1 l2 then
    (if bounds_overlaps (box1 cx c1) (box2 cx c2) then Sum.inr (LoopExit.ret [T2.mk (midT c1) (midT c2)])
     else Sum.inr (LoopExit.ret []))
  else if stuckB l1 l2 last1 last2 then
    (if decide (l1 / last1 > l2 / last2) then Sum.inr (LoopExit.ret (split1 rec_ cx acc acc2 c1 c2))
     else Sum.inr (LoopExit.ret (split2 rec_ cx acc acc2 c1 c2)))
  else Sum.inl (T4.mk c2 c1 l1 l2)

/-- second half of an iteration: clip the first curve against the second -/
def phase1 (c1 c2 : SectionT K) (l2 last1 last2 : K) : Exit K :=
  if decide (last1 > acc2) then
    match clipAB cx c1 c2 with
    | ClipResult.None => Sum.inr (LoopExit.ret [])
    | ClipResult.Some r =>
      tail rec_ cx acc acc2 (section_subsection c1 r.t0 r.t1) c2 (len1 cx (section_subsection c1 r.t0 r.t1)) l2 last1 last2
    | ClipResult.SecondCurveIsLinear =>
      Sum.inr (LoopExit.ret (List.map (fun h => T2.mk (section_t_for_t c1 h.t1) (section_t_for_t c2 h.t0)) (cx.lin21 c2 c1 acc)))
  else tail rec_ cx acc acc2 c1 c2 last1 l2 last1 last2

/-- one iteration of the loop of `curve_intersects_curve_clip_inner` -/
def step (st : St K) : Exit K :=
  if decide (st.t3 > acc2) then
    match clipBA cx st.t0 st.t1 with
    | ClipResult.None => Sum.inr (LoopExit.ret [])
    | ClipResult.Some r =>
      phase1 rec_ cx acc acc2 st.t1 (section_subsection st.t0 r.t0 r.t1) (len2 cx (section_subsection st.t0 r.t0 r.t1)) st.t2 st.t3
    | ClipResult.SecondCurveIsLinear =>
      Sum.inr (LoopExit.ret (List.map (fun h => T2.mk (section_t_for_t st.t1 h.t0) (section_t_for_t st.t0 h.t1)) (cx.lin12 st.t1 st.t0 acc)))
  else phase1 rec_ cx acc acc2 st.t1 st.t0 st.t3 st.t2 st.t3

/-- the loop with `n` iterations of fuel -/
def loopRun (n : Nat) (st : St K) : LoopExit (St K) (Hits K) :=
  iterFuel n (step rec_ cx acc acc2) (fun st => LoopExit.brk st) st

/-- the answer of the overlap shortcut -/
def overlapHits (c1 c2 : SectionT K) (o : T2 (T2 K K) (T2 K K)) : Hits K :=
  if (section_t_for_t c1 o.t0.t0 == section_t_for_t c1 o.t0.t1) || (section_t_for_t c2 o.t1.t0 == section_t_for_t c2 o.t1.t1) then
    [T2.mk (section_t_for_t c1 o.t0.t0) (section_t_for_t c2 o.t1.t0)]
  else [T2.mk (section_t_for_t c1 o.t0.t0) (section_t_for_t c2 o.t1.t0), T2.mk (section_t_for_t c1 o.t0.t1) (section_t_for_t c2 o.t1.t1)]

theorem mem_overlapHits (c1 c2 : SectionT K) (o : T2 (T2 K K) (T2 K K)) (h : T2 K K) (hm : h ∈ overlapHits c1 c2 o) :
    h = T2.mk (section_t_for_t c1 o.t0.t0) (section_t_for_t c2 o.t1.t0) ∨
    h = T2.mk (section_t_for_t c1 o.t0.t1) (section_t_for_t c2 o.t1.t1) := by
  unfold overlapHits at hm
  split_ifs at hm
  · exact Or.inl (List.mem_singleton.1 hm)
  · simpa only [List.mem_cons, List.not_mem_nil, or_false] using hm

/-- `curve_intersects_curve_clip_inner`, compact -/
def innerSpec (n : Nat) (c1 c2 : SectionT K) : Hits K :=
  if len1 cx c1 == (0.0 : K) then []
  else if len2 cx c2 == (0.0 : K) then []
  else match loopRun rec_ cx acc acc2 n (T4.mk c2 c1 (len1 cx c1) (len2 cx c2)) with
    | LoopExit.brk _ => []
    | LoopExit.ret r => r

/-- the loop fuel the translator gives the generated function -/
def genFuel : Nat := 100000

theorem inner_eq (c1 c2 : SectionT K) :
    curve_intersects_curve_clip_inner rec_ cx.lin12 cx.lin21 cx.a1 cx.a2 cx.a3 cx.a4 cx.b1 cx.b2 cx.b3 cx.b4 c1 c2 acc acc2
      = innerSpec rec_ cx acc acc2 genFuel c1 c2 := by
  rfl

theorem clipInner_succ (d : Nat) (c1 c2 : SectionT K) :
    clipInner cx (d + 1) c1 c2 acc acc2 = innerSpec (clipInner cx d) cx acc acc2 genFuel c1 c2 :=
  rfl

theorem innerSpec_zero (n : Nat) (c1 c2 : SectionT K) (h : len1 cx c1 = 0 ∨ len2 cx c2 = 0) :
    innerSpec rec_ cx acc acc2 n c1 c2 = [] := by
  unfold innerSpec
  rw [Prelude.lit0]
  rcases h with h | h
  · rw [if_pos (beq_iff_eq.2 h)]
  · rw [if_pos (beq_iff_eq.2 h), ite_self]

theorem innerSpec_loop (n : Nat) (c1 c2 : SectionT K) (h1 : len1 cx c1 ≠ 0) (h2 : len2 cx c2 ≠ 0) :
    innerSpec rec_ cx acc acc2 n c1 c2 =
      match loopRun rec_ cx acc acc2 n (T4.mk c2 c1 (len1 cx c1) (len2 cx c2)) with
      | LoopExit.brk _ => []
      | LoopExit.ret r => r := by
  unfold innerSpec
  rw [Prelude.lit0, if_neg (mt beq_iff_eq.1 h1), if_neg (mt beq_iff_eq.1 h2)]

/-- the public wrapper, compact: overlap shortcut on the two whole curves, then the inner function -/
theorem top_eq (call : SectionT K → SectionT K → K → K → Hits K) :
    curve_intersects_curve_clip call cx.ovl acc =
      match cx.ovl (section_new (0.0 : K) (1.0 : K)) (section_new (0.0 : K) (1.0 : K)) with
      | some o => overlapHits (section_new (0.0 : K) (1.0 : K)) (section_new (0.0 : K) (1.0 : K)) o
      | none => call (section_new (0.0 : K) (1.0 : K)) (section_new (0.0 : K) (1.0 : K)) acc (acc * acc) := by
  unfold curve_intersects_curve_clip
  dsimp only
  cases cx.ovl (section_new (0.0 : K) (1.0 : K)) (section_new (0.0 : K) (1.0 : K)) with
  | none => rfl
  | some o =>
    obtain ⟨⟨p, q⟩, ⟨u, v⟩⟩ := o
    rfl

end Spec

/-! # what one iteration can do -/

section Cases
variable [FSqrt K] [FConsts K]
variable (rec_ : SectionT K → SectionT K → K → K → Hits K) (cx : Ctx K) (acc acc2 : K)

/-- first half of an iteration: the second curve's section is left alone (its hull is short) or clipped against the first -/
def Phase2 (st : St K) (c2' : SectionT K) (l2 : K) : Prop :=
  (¬ st.t3 > acc2 ∧ c2' = st.t0 ∧ l2 = st.t3) ∨
  (st.t3 > acc2 ∧ ∃ r, clipBA cx st.t0 st.t1 = ClipResult.Some r ∧ c2' = section_subsection st.t0 r.t0 r.t1 ∧ l2 = len2 cx c2')

/-- second half: the first curve's section is left alone or clipped against the (new) section of the second -/
def Phase1 (st : St K) (c2' c1' : SectionT K) (l1 : K) : Prop :=
  (¬ st.t2 > acc2 ∧ c1' = st.t1 ∧ l1 = st.t2) ∨
  (st.t2 > acc2 ∧ ∃ r, clipAB cx st.t1 c2' = ClipResult.Some r ∧ c1' = section_subsection st.t1 r.t0 r.t1 ∧ l1 = len1 cx c1')

/-- the ways an iteration can go up to the end of the two clip phases -/
inductive StepOut (st : St K) : Exit K → Prop
  | none2 : st.t3 > acc2 → clipBA cx st.t0 st.t1 = ClipResult.None → StepOut st (Sum.inr (LoopExit.ret []))
  | lin12 : st.t3 > acc2 → clipBA cx st.t0 st.t1 = ClipResult.SecondCurveIsLinear →
      StepOut st (Sum.inr (LoopExit.ret (List.map (fun h => T2.mk (section_t_for_t st.t1 h.t0) (section_t_for_t st.t0 h.t1))
        (cx.lin12 st.t1 st.t0 acc))))
  | none1 (c2' : SectionT K) (l2 : K) : Phase2 cx acc2 st c2' l2 → st.t2 > acc2 → clipAB cx st.t1 c2' = ClipResult.None →
      StepOut st (Sum.inr (LoopExit.ret []))
  | lin21 (c2' : SectionT K) (l2 : K) : Phase2 cx acc2 st c2' l2 → st.t2 > acc2 →
      clipAB cx st.t1 c2' = ClipResult.SecondCurveIsLinear →
      StepOut st (Sum.inr (LoopExit.ret (List.map (fun h => T2.mk (section_t_for_t st.t1 h.t1) (section_t_for_t c2' h.t0))
        (cx.lin21 c2' st.t1 acc))))
  | tail (c2' c1' : SectionT K) (l2 l1 : K) : Phase2 cx acc2 st c2' l2 → Phase1 cx acc2 st c2' c1' l1 →
      StepOut st (tail rec_ cx acc acc2 c1' c2' l1 l2 st.t2 st.t3)

theorem phase1_out (st : St K) (c2' : SectionT K) (l2 : K) (h2 : Phase2 cx acc2 st c2' l2) :
    StepOut rec_ cx acc acc2 st (phase1 rec_ cx acc acc2 st.t1 c2' l2 st.t2 st.t3) := by
  unfold phase1
  by_cases hc : st.t2 > acc2
  · rw [if_pos (by simpa using hc)]
    cases hr : clipAB cx st.t1 c2' with
    | None => exact StepOut.none1 c2' l2 h2 hc hr
    | Some r => exact StepOut.tail c2' _ l2 _ h2 (Or.inr ⟨hc, r, hr, rfl, rfl⟩)
    | SecondCurveIsLinear => exact StepOut.lin21 c2' l2 h2 hc hr
  · rw [if_neg (by simpa using hc)]
    exact StepOut.tail c2' _ l2 _ h2 (Or.inl ⟨hc, rfl, rfl⟩)

theorem step_out (st : St K) : StepOut rec_ cx acc acc2 st (step rec_ cx acc acc2 st) := by
  unfold step
  by_cases hc : st.t3 > acc2
  · rw [if_pos (by simpa using hc)]
    cases hr : clipBA cx st.t0 st.t1 with
    | None => exact StepOut.none2 hc hr
    | Some r => exact phase1_out rec_ cx acc acc2 st _ _ (Or.inr ⟨hc, r, hr, rfl, rfl⟩)
    | SecondCurveIsLinear => exact StepOut.lin12 hc hr
  · rw [if_neg (by simpa using hc)]
    exact phase1_out rec_ cx acc acc2 st _ _ (Or.inl ⟨hc, rfl, rfl⟩)

/-- the ways the end of an iteration can go -/
inductive TailOut (c1 c2 : SectionT K) (l1 l2 last1 last2 : K) : Exit K → Prop
  | hit : convB acc2 l1 l2 = true → bounds_overlaps (box1 cx c1) (box2 cx c2) = true →
      TailOut c1 c2 l1 l2 last1 last2 (Sum.inr (LoopExit.ret [T2.mk (midT c1) (midT c2)]))
  | reject : convB acc2 l1 l2 = true → bounds_overlaps (box1 cx c1) (box2 cx c2) = false →
      TailOut c1 c2 l1 l2 last1 last2 (Sum.inr (LoopExit.ret []))
  | split1 : convB acc2 l1 l2 = false → stuckB l1 l2 last1 last2 = true → l1 / last1 > l2 / last2 →
      TailOut c1 c2 l1 l2 last1 last2 (Sum.inr (LoopExit.ret (split1 rec_ cx acc acc2 c1 c2)))
  | split2 : convB acc2 l1 l2 = false → stuckB l1 l2 last1 last2 = true → ¬ l1 / last1 > l2 / last2 →
      TailOut c1 c2 l1 l2 last1 last2 (Sum.inr (LoopExit.ret (split2 rec_ cx acc acc2 c1 c2)))
  | next : convB acc2 l1 l2 = false → stuckB l1 l2 last1 last2 = false →
      TailOut c1 c2 l1 l2 last1 last2 (Sum.inl (T4.mk c2 c1 l1 l2))

theorem tail_out (c1 c2 : SectionT K) (l1 l2 last1 last2 : K) :
    TailOut rec_ cx acc acc2 c1 c2 l1 l2 last1 last2 (tail rec_ cx acc acc2 c1 c2 l1 l2 last1 last2) := by
  unfold tail
  split_ifs with hconv hov hst hc
  · exact TailOut.hit hconv hov
  · exact TailOut.reject hconv (Bool.eq_false_iff.2 hov)
  · exact TailOut.split1 (Bool.eq_false_iff.2 hconv) hst (of_decide_eq_true hc)
  · exact TailOut.split2 (Bool.eq_false_iff.2 hconv) hst fun h => hc (decide_eq_true h)
  · exact TailOut.next (Bool.eq_false_iff.2 hconv) (Bool.eq_false_iff.2 hst)

theorem loopRun_succ (n : Nat) (st : St K) :
    loopRun rec_ cx acc acc2 (n + 1) st =
      match step rec_ cx acc acc2 st with
      | Sum.inl st' => loopRun rec_ cx acc acc2 n st'
      | Sum.inr r => r := by
  simp only [loopRun, iterFuel]
  cases step rec_ cx acc acc2 st <;> rfl

theorem loopRun_zero (st : St K) : loopRun rec_ cx acc acc2 0 st = LoopExit.brk st := by
  simp only [loopRun, iterFuel]

/-! ## `join_subsections` -/

/-- the condition under which `join_subsections` drops the first hit of `right`: both lists non-empty, the section
    parameters (on the first curve) of the last hit of `left` and the first hit of `right` differ by less than 0.1, and the
    two points of the first curve's section at those parameters are within `√(2·accuracy²)` of each other -/
def DropCond (w1 w2 w3 w4 : V2 K) (curve1 : SectionT K) (left right : Hits K) (acc2 : K) : Prop :=
  left ≠ [] ∧ right ≠ [] ∧
  |section_t_for_original_t curve1 (listGet right 0).t0 - section_t_for_original_t curve1 (listGet left (left.length - 1)).t0| < 1/10 ∧
  dist2 (section_point_at_pos w1 w2 w3 w4 curve1 (section_t_for_original_t curve1 (listGet right 0).t0))
        (section_point_at_pos w1 w2 w3 w4 curve1 (section_t_for_original_t curve1 (listGet left (left.length - 1)).t0)) ≤ acc2 * 2

/-- `join_subsections` is `left ++ right`, or `left ++ right.drop 1` exactly when `DropCond` holds -/
theorem join_eq (w1 w2 w3 w4 : V2 K) (curve1 : SectionT K) (left right : Hits K) (acc2 : K) :
    (DropCond w1 w2 w3 w4 curve1 left right acc2 ∧ join_subsections w1 w2 w3 w4 curve1 left right acc2 = left ++ right.drop 1) ∨
    (¬ DropCond w1 w2 w3 w4 curve1 left right acc2 ∧ join_subsections w1 w2 w3 w4 curve1 left right acc2 = left ++ right) := by
  have lit01 : (0.1 : K) = 1/10 := by norm_num
  unfold join_subsections
  cases left with
  | nil => right; exact ⟨fun h => h.1 rfl, by simp⟩
  | cons a l =>
    cases right with
    | nil => right; exact ⟨fun h => h.2.1 rfl, by simp⟩
    | cons b r =>
      simp only [DropCond, dist2_eq_dot, List.isEmpty_cons, Bool.false_eq_true, if_false, decide_eq_true_eq, lit01, lit2]
      split_ifs with hclose hd
      · exact Or.inl ⟨⟨by simp, by simp, hclose, hd⟩, rfl⟩
      · exact Or.inr ⟨fun h => hd h.2.2.2, rfl⟩
      · exact Or.inr ⟨fun h => hclose h.2.2.1, rfl⟩

theorem join_mem_left (w1 w2 w3 w4 : V2 K) (curve1 : SectionT K) (left right : Hits K) (acc2 : K) (h : T2 K K)
    (hl : h ∈ left) : h ∈ join_subsections w1 w2 w3 w4 curve1 left right acc2 := by
  rcases join_eq w1 w2 w3 w4 curve1 left right acc2 with ⟨_, e⟩ | ⟨_, e⟩ <;> rw [e] <;> exact List.mem_append_left _ hl

theorem join_subset (w1 w2 w3 w4 : V2 K) (curve1 : SectionT K) (left right : Hits K) (acc2 : K) (h : T2 K K)
    (hj : h ∈ join_subsections w1 w2 w3 w4 curve1 left right acc2) : h ∈ left ∨ h ∈ right := by
  rcases join_eq w1 w2 w3 w4 curve1 left right acc2 with ⟨_, e⟩ | ⟨_, e⟩ <;> rw [e] at hj
  · rcases List.mem_append.1 hj with h1 | h1
    · exact Or.inl h1
    · exact Or.inr (List.mem_of_mem_drop h1)
  · exact List.mem_append.1 hj

end Cases

end CurveClipLemmas
