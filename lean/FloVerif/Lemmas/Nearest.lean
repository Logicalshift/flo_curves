/-
Helper lemmas for C09 (nearest point): de Casteljau evaluation and subdivision of six points as the generated code
computes them (for any point type, in terms of the generated `de_casteljau2`), the degree-5 Bernstein form they amount to
over a field, sign lemmas (convex hull), the crossing count, and the quintic that the model of `distance_in_bezier_form`
builds.
-/
import FloVerif.Model.Nearest
import FloVerif.Lemmas.Basics
import Mathlib.Tactic.Ring
import Mathlib.Tactic.NormNum.OfScientific
import Mathlib.Tactic.Linarith
import Mathlib.Tactic.Positivity
import Mathlib.Algebra.Order.Field.Basic

set_option linter.unusedSectionVars false
namespace C09L
open Prelude Gen Model.Nearest

/-! ### de Casteljau's triangle on six points, for any point type

`de_casteljau2 t a b` is one step of the construction; the generated `de_casteljau3`, `de_casteljau4` are the apexes over
three and four points, `dc5`, `dc6` continue the family. -/
section Triangle
variable {K P : Type} [Sub K] [OfScientific K] [Add P] [HMul P K P] [Inhabited P]

def dc5 (t : K) (a b c d e : P) : P :=
  de_casteljau4 t (de_casteljau2 t a b) (de_casteljau2 t b c) (de_casteljau2 t c d) (de_casteljau2 t d e)

def dc6 (t : K) (a b c d e f : P) : P :=
  dc5 t (de_casteljau2 t a b) (de_casteljau2 t b c) (de_casteljau2 t c d) (de_casteljau2 t d e) (de_casteljau2 t e f)

/-- the left edge of the triangle: the control points of the part before `t` -/
def leftC (t : K) (a b c d e f : P) : List P :=
  [a, de_casteljau2 t a b, de_casteljau3 t a b c, de_casteljau4 t a b c d, dc5 t a b c d e, dc6 t a b c d e f]

/-- the right edge of the triangle: the control points of the part after `t` -/
def rightC (t : K) (a b c d e f : P) : List P :=
  [dc6 t a b c d e f, dc5 t b c d e f, de_casteljau4 t c d e f, de_casteljau3 t d e f, de_casteljau2 t e f, f]

theorem dcn3 (t : K) (a b c : P) : de_casteljau_n t [a, b, c] = de_casteljau3 t a b c := by
  simp only [de_casteljau_n, iterFuel, foldlT, listGet, de_casteljau3, de_casteljau2, List.range', List.range'_one,
    List.nil_append, List.cons_append, List.foldl_cons, List.foldl_nil, List.getElem!_cons_zero, List.getElem!_cons_succ,
    List.length_cons, List.length_nil, Nat.one_lt_ofNat, Nat.add_one_sub_one, Nat.reduceAdd, zero_add, tsub_zero, gt_iff_lt,
    lt_self_iff_false, decide_true, decide_false, Bool.false_eq_true, ↓reduceIte]

theorem dcn4 (t : K) (a b c d : P) : de_casteljau_n t [a, b, c, d] = de_casteljau4 t a b c d := by
  simp only [de_casteljau_n, iterFuel, foldlT, listGet, de_casteljau4, de_casteljau3, de_casteljau2, List.range',
    List.range'_one, List.nil_append, List.cons_append, List.foldl_cons, List.foldl_nil, List.getElem!_cons_zero,
    List.getElem!_cons_succ, List.length_cons, List.length_nil, Nat.one_lt_ofNat, Nat.add_one_sub_one, Nat.reduceAdd,
    zero_add, tsub_zero, gt_iff_lt, lt_self_iff_false, decide_true, decide_false, Bool.false_eq_true, ↓reduceIte]

theorem dcn6 (t : K) (a b c d e f : P) : de_casteljau_n t [a, b, c, d, e, f] = dc6 t a b c d e f := by
  simp only [de_casteljau_n, iterFuel, foldlT, listGet, dc6, dc5, de_casteljau4, de_casteljau3, de_casteljau2,
    List.range', List.range'_one, List.nil_append, List.cons_append, List.foldl_cons, List.foldl_nil,
    List.getElem!_cons_zero, List.getElem!_cons_succ, List.length_cons, List.length_nil, Nat.one_lt_ofNat,
    Nat.add_one_sub_one, Nat.reduceAdd, zero_add, tsub_zero, gt_iff_lt, lt_self_iff_false, decide_true, decide_false,
    Bool.false_eq_true, ↓reduceIte]

theorem subdivide6 (t : K) (a b c d e f : P) :
    subdivide_n 6 t [a, b, c, d, e, f] = T2.mk (leftC t a b c d e f) (rightC t a b c d e f) := by
  simp only [subdivide_n, foldlT, listGet, leftC, rightC, dc6, dc5, de_casteljau4, de_casteljau3, de_casteljau2,
    List.range', List.reverse_cons, List.reverse_nil, List.nil_append, List.cons_append, List.foldl_cons, List.foldl_nil,
    List.getElem!_cons_zero, List.getElem!_cons_succ, Nat.add_one_sub_one, Nat.reduceAdd, zero_add, add_zero, tsub_zero]

end Triangle

variable {K : Type} [Field K] [LinearOrder K] [IsStrictOrderedRing K] [Inhabited K]
local instance fabsNearest : FAbs K := ⟨fun a => |a|⟩

@[simp] theorem v2_add_x (a b : V2 K) : (a + b).x = a.x + b.x := V2.add_x a b
@[simp] theorem v2_add_y (a b : V2 K) : (a + b).y = a.y + b.y := V2.add_y a b
@[simp] theorem v2_sub_x (a b : V2 K) : (a - b).x = a.x - b.x := V2.sub_x a b
@[simp] theorem v2_sub_y (a b : V2 K) : (a - b).y = a.y - b.y := V2.sub_y a b
@[simp] theorem v2_mul_x (a : V2 K) (k : K) : (a * k).x = a.x * k := V2.mul_x a k
@[simp] theorem v2_mul_y (a : V2 K) (k : K) : (a * k).y = a.y * k := V2.mul_y a k
theorem v2_mk_add (a b c d : K) : (⟨a, b⟩ : V2 K) + ⟨c, d⟩ = ⟨a + c, b + d⟩ := rfl
theorem v2_mk_mul (a b k : K) : (⟨a, b⟩ : V2 K) * k = ⟨a * k, b * k⟩ := rfl

/-- a section from its lists of x and y coordinates -/
def mkSec (xs ys : List K) : List (V2 K) := List.zipWith V2.mk xs ys

theorem dc6_mk (t x0 x1 x2 x3 x4 x5 y0 y1 y2 y3 y4 y5 : K) :
    dc6 t (V2.mk x0 y0) (V2.mk x1 y1) (V2.mk x2 y2) (V2.mk x3 y3) (V2.mk x4 y4) (V2.mk x5 y5) =
      V2.mk (dc6 t x0 x1 x2 x3 x4 x5) (dc6 t y0 y1 y2 y3 y4 y5) := by
  simp only [dc6, dc5, de_casteljau4, de_casteljau3, de_casteljau2, v2_mk_add, v2_mk_mul]

theorem leftC_mk (t x0 x1 x2 x3 x4 x5 y0 y1 y2 y3 y4 y5 : K) :
    leftC t (V2.mk x0 y0) (V2.mk x1 y1) (V2.mk x2 y2) (V2.mk x3 y3) (V2.mk x4 y4) (V2.mk x5 y5) =
      mkSec (leftC t x0 x1 x2 x3 x4 x5) (leftC t y0 y1 y2 y3 y4 y5) := by
  simp only [leftC, mkSec, List.zipWith_cons_cons, List.zipWith_nil_right, dc6, dc5, de_casteljau4, de_casteljau3,
    de_casteljau2, v2_mk_add, v2_mk_mul]

theorem rightC_mk (t x0 x1 x2 x3 x4 x5 y0 y1 y2 y3 y4 y5 : K) :
    rightC t (V2.mk x0 y0) (V2.mk x1 y1) (V2.mk x2 y2) (V2.mk x3 y3) (V2.mk x4 y4) (V2.mk x5 y5) =
      mkSec (rightC t x0 x1 x2 x3 x4 x5) (rightC t y0 y1 y2 y3 y4 y5) := by
  simp only [rightC, mkSec, List.zipWith_cons_cons, List.zipWith_nil_right, dc6, dc5, de_casteljau4, de_casteljau3,
    de_casteljau2, v2_mk_add, v2_mk_mul]

/-! ### The Bernstein form -/

/-- the degree-5 Bernstein polynomial with coefficients `c0 … c5` -/
def bern5 (c0 c1 c2 c3 c4 c5 t : K) : K :=
  c0 * (1 - t) ^ 5 + 5 * c1 * t * (1 - t) ^ 4 + 10 * c2 * t ^ 2 * (1 - t) ^ 3 + 10 * c3 * t ^ 3 * (1 - t) ^ 2 +
    5 * c4 * t ^ 4 * (1 - t) + c5 * t ^ 5

theorem bern5_at_zero (c0 c1 c2 c3 c4 c5 : K) : bern5 c0 c1 c2 c3 c4 c5 0 = c0 := by simp [bern5]
theorem bern5_at_one (c0 c1 c2 c3 c4 c5 : K) : bern5 c0 c1 c2 c3 c4 c5 1 = c5 := by simp [bern5]

theorem dc6_eq_bern5 (t c0 c1 c2 c3 c4 c5 : K) : dc6 t c0 c1 c2 c3 c4 c5 = bern5 c0 c1 c2 c3 c4 c5 t := by
  simp only [dc6, dc5, de_casteljau4, de_casteljau3, de_casteljau2, lit1, bern5]
  -- both sides are homogeneous in `t` and `1 - t`: the identity holds for an independent `s = 1 - t`, a smaller task for `ring`
  generalize 1 - t = s
  ring

theorem dcn6_bern5 (t c0 c1 c2 c3 c4 c5 : K) : de_casteljau_n t [c0, c1, c2, c3, c4, c5] = bern5 c0 c1 c2 c3 c4 c5 t := by
  rw [dcn6, dc6_eq_bern5]

theorem dcn6_mk (t x0 x1 x2 x3 x4 x5 y0 y1 y2 y3 y4 y5 : K) :
    de_casteljau_n t [V2.mk x0 y0, V2.mk x1 y1, V2.mk x2 y2, V2.mk x3 y3, V2.mk x4 y4, V2.mk x5 y5] =
      V2.mk (bern5 x0 x1 x2 x3 x4 x5 t) (bern5 y0 y1 y2 y3 y4 y5 t) := by
  rw [dcn6, dc6_mk, dc6_eq_bern5, dc6_eq_bern5]

/-- the left edge holds the coefficients of `u ↦ P(t·u)` -/
theorem bern5_left (t c0 c1 c2 c3 c4 c5 u : K) :
    bern5 c0 (de_casteljau2 t c0 c1) (de_casteljau3 t c0 c1 c2) (de_casteljau4 t c0 c1 c2 c3) (dc5 t c0 c1 c2 c3 c4)
      (dc6 t c0 c1 c2 c3 c4 c5) u = bern5 c0 c1 c2 c3 c4 c5 (t * u) := by
  simp only [dc6, dc5, de_casteljau4, de_casteljau3, de_casteljau2, lit1, bern5]
  -- likewise, once `1 - t·u` is written in `1 - t` and `1 - u`
  rw [show 1 - t * u = (1 - u) + u * (1 - t) by ring]
  generalize 1 - t = s
  generalize 1 - u = v
  ring

/-- the right edge holds the coefficients of `u ↦ P(t + (1 − t)·u)` -/
theorem bern5_right (t c0 c1 c2 c3 c4 c5 u : K) :
    bern5 (dc6 t c0 c1 c2 c3 c4 c5) (dc5 t c1 c2 c3 c4 c5) (de_casteljau4 t c2 c3 c4 c5) (de_casteljau3 t c3 c4 c5)
      (de_casteljau2 t c4 c5) c5 u = bern5 c0 c1 c2 c3 c4 c5 (t + (1 - t) * u) := by
  simp only [dc6, dc5, de_casteljau4, de_casteljau3, de_casteljau2, lit1, bern5]
  rw [show 1 - (t + (1 - t) * u) = (1 - t) * (1 - u) by ring, show t + (1 - t) * u = u + (1 - u) * t by ring]
  generalize 1 - t = s
  generalize 1 - u = v
  ring

/-! ### Signs: the convex hull property -/

theorem bern5_nonneg {c0 c1 c2 c3 c4 c5 t : K} (h0 : 0 ≤ c0) (h1 : 0 ≤ c1) (h2 : 0 ≤ c2) (h3 : 0 ≤ c3) (h4 : 0 ≤ c4)
    (h5 : 0 ≤ c5) (ht0 : 0 ≤ t) (ht1 : t ≤ 1) : 0 ≤ bern5 c0 c1 c2 c3 c4 c5 t := by
  have hs : 0 ≤ 1 - t := sub_nonneg.2 ht1
  simp only [bern5]
  generalize 1 - t = s at hs
  positivity

theorem bern5_ge {m c0 c1 c2 c3 c4 c5 t : K} (h0 : m ≤ c0) (h1 : m ≤ c1) (h2 : m ≤ c2) (h3 : m ≤ c3) (h4 : m ≤ c4)
    (h5 : m ≤ c5) (ht0 : 0 ≤ t) (ht1 : t ≤ 1) : m ≤ bern5 c0 c1 c2 c3 c4 c5 t := by
  have e : bern5 c0 c1 c2 c3 c4 c5 t - m = bern5 (c0 - m) (c1 - m) (c2 - m) (c3 - m) (c4 - m) (c5 - m) t := by
    simp only [bern5]; ring
  rw [← sub_nonneg, e]
  exact bern5_nonneg (sub_nonneg.2 h0) (sub_nonneg.2 h1) (sub_nonneg.2 h2) (sub_nonneg.2 h3) (sub_nonneg.2 h4)
    (sub_nonneg.2 h5) ht0 ht1

theorem bern5_le {m c0 c1 c2 c3 c4 c5 t : K} (h0 : c0 ≤ m) (h1 : c1 ≤ m) (h2 : c2 ≤ m) (h3 : c3 ≤ m) (h4 : c4 ≤ m)
    (h5 : c5 ≤ m) (ht0 : 0 ≤ t) (ht1 : t ≤ 1) : bern5 c0 c1 c2 c3 c4 c5 t ≤ m := by
  have e : bern5 (-c0) (-c1) (-c2) (-c3) (-c4) (-c5) t = - bern5 c0 c1 c2 c3 c4 c5 t := by simp only [bern5]; ring
  exact neg_le_neg_iff.1 (e ▸ bern5_ge (neg_le_neg h0) (neg_le_neg h1) (neg_le_neg h2) (neg_le_neg h3) (neg_le_neg h4)
    (neg_le_neg h5) ht0 ht1)

theorem bern5_neg {c0 c1 c2 c3 c4 c5 t : K} (h0 : c0 < 0) (h1 : c1 < 0) (h2 : c2 < 0) (h3 : c3 < 0) (h4 : c4 < 0)
    (h5 : c5 < 0) (ht0 : 0 ≤ t) (ht1 : t ≤ 1) : bern5 c0 c1 c2 c3 c4 c5 t < 0 := by
  refine (bern5_le (m := max c0 (max c1 (max c2 (max c3 (max c4 c5))))) ?_ ?_ ?_ ?_ ?_ ?_ ht0 ht1).trans_lt
    (max_lt h0 (max_lt h1 (max_lt h2 (max_lt h3 (max_lt h4 h5))))) <;>
    simp only [le_max_iff, le_refl, true_or, or_true]

theorem bern5_abs_le {M c0 c1 c2 c3 c4 c5 t : K} (h0 : |c0| ≤ M) (h1 : |c1| ≤ M) (h2 : |c2| ≤ M) (h3 : |c3| ≤ M)
    (h4 : |c4| ≤ M) (h5 : |c5| ≤ M) (ht0 : 0 ≤ t) (ht1 : t ≤ 1) : |bern5 c0 c1 c2 c3 c4 c5 t| ≤ M := by
  rw [abs_le] at *
  exact ⟨bern5_ge h0.1 h1.1 h2.1 h3.1 h4.1 h5.1 ht0 ht1, bern5_le h0.2 h1.2 h2.2 h3.2 h4.2 h5.2 ht0 ht1⟩

/-! ### The crossing count of `find_roots.rs` -/

/-- the test of one polygon edge in `count_x_axis_crossings` -/
def cross (a b : K) : Nat := if (a < 0 ∧ 0 ≤ b) ∨ (0 ≤ a ∧ b < 0) then 1 else 0

theorem count_eq (N : Nat) (pts : List (V2 K)) : count_x_axis_crossings N pts =
    List.foldl (fun acc idx => acc + cross (listGet pts idx).y (listGet pts (idx + 1)).y) 0
      (List.range' 0 (N - 1 - 0)) := by
  unfold count_x_axis_crossings foldlT
  refine congrArg (fun f => List.foldl f 0 _) (funext fun acc => funext fun idx => ?_)
  simp only [lit0, cross, ge_iff_le, Bool.and_eq_true, decide_eq_true_eq]
  by_cases h1 : (listGet pts idx).y < 0 ∧ 0 ≤ (listGet pts (idx + 1)).y
  · rw [if_pos h1, if_pos (Or.inl h1)]
  · by_cases h2 : 0 ≤ (listGet pts idx).y ∧ (listGet pts (idx + 1)).y < 0
    · rw [if_neg h1, if_pos h2, if_pos (Or.inr h2)]
    · rw [if_neg h1, if_neg h2, if_neg (not_or.2 ⟨h1, h2⟩), Nat.add_zero]

theorem count6 (q0 q1 q2 q3 q4 q5 : V2 K) : count_x_axis_crossings 6 [q0, q1, q2, q3, q4, q5] =
    cross q0.y q1.y + cross q1.y q2.y + cross q2.y q3.y + cross q3.y q4.y + cross q4.y q5.y := by
  simp only [count_eq, List.range', listGet, List.foldl_cons, List.foldl_nil, List.getElem!_cons_zero,
    List.getElem!_cons_succ, Nat.reduceAdd, Nat.reduceSub, zero_add]

theorem cross_eq (a b : K) : cross a b = if (a < 0 ↔ b < 0) then 0 else 1 := by
  unfold cross
  rcases lt_or_ge a 0 with ha | ha <;> rcases lt_or_ge b 0 with hb | hb <;> simp [ha, hb, ha.not_gt, hb.not_gt]

theorem cross_parity (a b c : K) : (cross a b + cross b c) % 2 = cross a c := by
  simp only [cross_eq]
  by_cases ha : a < 0 <;> by_cases hb : b < 0 <;> by_cases hc : c < 0 <;> simp [ha, hb, hc]

theorem count_parity (pts : List (V2 K)) : ∀ n : Nat,
    count_x_axis_crossings (n + 1) pts % 2 = cross (listGet pts 0).y (listGet pts n).y
  | 0 => by simp [count_eq, cross_eq]
  | n + 1 => by
    have ih := count_parity pts n
    have cp := cross_parity (listGet pts 0).y (listGet pts n).y (listGet pts (n + 1)).y
    rw [count_eq] at ih ⊢
    simp only [Nat.add_sub_cancel, Nat.sub_zero] at ih ⊢
    rw [List.range'_concat, List.foldl_append, List.foldl_cons, List.foldl_nil, Nat.zero_add, Nat.one_mul]
    omega

theorem count6_zero {q0 q1 q2 q3 q4 q5 : V2 K} (h : count_x_axis_crossings 6 [q0, q1, q2, q3, q4, q5] = 0) :
    (q0.y < 0 ∧ q1.y < 0 ∧ q2.y < 0 ∧ q3.y < 0 ∧ q4.y < 0 ∧ q5.y < 0) ∨
    (0 ≤ q0.y ∧ 0 ≤ q1.y ∧ 0 ≤ q2.y ∧ 0 ≤ q3.y ∧ 0 ≤ q4.y ∧ 0 ≤ q5.y) := by
  rw [count6] at h
  have e : ∀ {a b : K}, cross a b = 0 → (b < 0 ↔ a < 0) := fun {a b} h => by
    rw [cross_eq] at h; exact (of_not_not fun n => by simp [n] at h : a < 0 ↔ b < 0).symm
  simp only [← not_lt, e (by omega : cross q4.y q5.y = 0), e (by omega : cross q3.y q4.y = 0),
    e (by omega : cross q2.y q3.y = 0), e (by omega : cross q1.y q2.y = 0), e (by omega : cross q0.y q1.y = 0), and_self]
  exact em _

/-! ### The quintic of `distance_in_bezier_form` -/

/-- the tangent of the cubic at `t`: the generated `derivative4` evaluated by the generated `de_casteljau3` -/
def tangentAt (w1 w2 w3 w4 : V2 K) (t : K) : V2 K :=
  de_casteljau3 t (derivative4 w1 w2 w3 w4).t0 (derivative4 w1 w2 w3 w4).t1 (derivative4 w1 w2 w3 w4).t2

/-- `(C(t) − point)·C'(t)`: half the derivative of the squared distance -/
def perpDot (w1 w2 w3 w4 point : V2 K) (t : K) : K :=
  dot (curve_point_at_pos w1 w2 w3 w4 t - point) (tangentAt w1 w2 w3 w4 t)

/-- the model of `distance_in_bezier_form` with its loops unrolled (same operations, same order) -/
theorem dbf_explicit (w1 w2 w3 w4 p : V2 K) :
    distance_in_bezier_form w1 w2 w3 w4 p =
      [{ x := 0.0 / 5.0, y := 0.0 + dot ((w2 - w1) * (3.0 : K)) (w1 - p) * 1.0 },
       { x := 1.0 / 5.0, y := 0.0 + dot ((w3 - w2) * (3.0 : K)) (w1 - p) * 0.4 + dot ((w2 - w1) * (3.0 : K)) (w2 - p) * 0.6 },
       { x := 2.0 / 5.0, y := 0.0 + dot ((w4 - w3) * (3.0 : K)) (w1 - p) * 0.1 + dot ((w3 - w2) * (3.0 : K)) (w2 - p) * 0.6 +
            dot ((w2 - w1) * (3.0 : K)) (w3 - p) * 0.3 },
       { x := 3.0 / 5.0, y := 0.0 + dot ((w4 - w3) * (3.0 : K)) (w2 - p) * 0.3 + dot ((w3 - w2) * (3.0 : K)) (w3 - p) * 0.6 +
            dot ((w2 - w1) * (3.0 : K)) (w4 - p) * 0.1 },
       { x := 4.0 / 5.0, y := 0.0 + dot ((w4 - w3) * (3.0 : K)) (w3 - p) * 0.6 + dot ((w3 - w2) * (3.0 : K)) (w4 - p) * 0.4 },
       { x := 5.0 / 5.0, y := 0.0 + dot ((w4 - w3) * (3.0 : K)) (w4 - p) * 1.0 }] := by
  simp only [distance_in_bezier_form, foldlT, addY, listGet, windows2, Z, List.map_cons, List.map_nil, List.range',
    List.range'_one, List.foldl_cons, List.foldl_nil, List.modify_zero_cons, List.modify_succ_cons,
    List.getElem!_cons_zero, List.getElem!_cons_succ, Nat.one_le_ofNat, Nat.sub_eq_zero_of_le, Nat.add_one_sub_one,
    Nat.reduceAdd, Nat.reduceSub, Nat.reduceLeDiff, zero_add, add_zero, zero_tsub, tsub_zero, tsub_self, zero_le, min_self,
    inf_of_le_left, inf_of_le_right]

/-- the `k`-th y-coefficient of the model of `distance_in_bezier_form` -/
def quinticY (w1 w2 w3 w4 p : V2 K) (k : Nat) : K := (listGet (distance_in_bezier_form w1 w2 w3 w4 p) k).y

theorem quintic_points (w1 w2 w3 w4 p : V2 K) :
    distance_in_bezier_form w1 w2 w3 w4 p =
      [⟨0, quinticY w1 w2 w3 w4 p 0⟩, ⟨1 / 5, quinticY w1 w2 w3 w4 p 1⟩, ⟨2 / 5, quinticY w1 w2 w3 w4 p 2⟩,
       ⟨3 / 5, quinticY w1 w2 w3 w4 p 3⟩, ⟨4 / 5, quinticY w1 w2 w3 w4 p 4⟩, ⟨1, quinticY w1 w2 w3 w4 p 5⟩] := by
  simp only [quinticY, dbf_explicit, listGet, List.getElem!_cons_zero, List.getElem!_cons_succ]
  norm_num

theorem quintic_bern (w1 w2 w3 w4 p : V2 K) (t : K) :
    bern5 (quinticY w1 w2 w3 w4 p 0) (quinticY w1 w2 w3 w4 p 1) (quinticY w1 w2 w3 w4 p 2) (quinticY w1 w2 w3 w4 p 3)
      (quinticY w1 w2 w3 w4 p 4) (quinticY w1 w2 w3 w4 p 5) t = perpDot w1 w2 w3 w4 p t := by
  have z1 : (0.6 : K) = 3 / 5 := by norm_num
  have z2 : (0.3 : K) = 3 / 10 := by norm_num
  have z3 : (0.1 : K) = 1 / 10 := by norm_num
  have z4 : (0.4 : K) = 2 / 5 := by norm_num
  simp only [quinticY, dbf_explicit, listGet, List.getElem!_cons_zero, List.getElem!_cons_succ, perpDot, tangentAt,
    derivative4, de_casteljau3, de_casteljau2, curve_point_at_pos, basis, dot, bern5, lit0, lit1, lit3, z1, z2, z3, z4,
    V2.sub_x, V2.sub_y, V2.mul_x, V2.mul_y, V2.add_x, V2.add_y]
  ring

end C09L
