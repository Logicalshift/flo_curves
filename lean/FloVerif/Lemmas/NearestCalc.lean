/-
Helper lemmas for C09 over ℝ: a differentiable function on [0,1] whose derivative is `2·Q` attains its minimum at an
end point or at an interior zero of `Q` at which `Q` is not locally non-negative (Fermat + monotonicity), so a
candidate set that contains those zeros contains a global minimiser; Lipschitz version for approximate zeros.
-/
import Mathlib.Analysis.Calculus.Deriv.Pow
import Mathlib.Analysis.Calculus.Deriv.Mul
import Mathlib.Analysis.Calculus.Deriv.Add
import Mathlib.Analysis.Calculus.LocalExtr.Basic
import Mathlib.Analysis.Calculus.Deriv.MeanValue
import Mathlib.Analysis.Calculus.MeanValue
import Mathlib.Topology.Order.Compact
import Mathlib.Topology.Order.LocalExtr
import Mathlib.Tactic.Linarith
import Mathlib.Tactic.Ring

namespace C09L
open Set

theorem cubic_hasDerivAt (a b c d t : ℝ) :
    HasDerivAt (fun t : ℝ => a + b * t + c * t ^ 2 + d * t ^ 3) (b + 2 * c * t + 3 * d * t ^ 2) t := by
  have h := (((hasDerivAt_const t a).add ((hasDerivAt_id t).const_mul b)).add ((hasDerivAt_pow 2 t).const_mul c)).add
    ((hasDerivAt_pow 3 t).const_mul d)
  exact h.congr_deriv (by simp; ring)

theorem distSq_hasDerivAt_aux (X Y X' Y' : ℝ → ℝ) (px py t : ℝ) (hX : HasDerivAt X (X' t) t) (hY : HasDerivAt Y (Y' t) t) :
    HasDerivAt (fun t => (X t - px) * (X t - px) + (Y t - py) * (Y t - py))
      (2 * ((X t - px) * X' t + (Y t - py) * Y' t)) t := by
  have h := ((hX.sub_const px).mul (hX.sub_const px)).add ((hY.sub_const py).mul (hY.sub_const py))
  exact h.congr_deriv (by ring)

theorem exists_least_minimiser (D : ℝ → ℝ) (hc : Continuous D) :
    ∃ ts, 0 ≤ ts ∧ ts ≤ 1 ∧ (∀ t, 0 ≤ t → t ≤ 1 → D ts ≤ D t) ∧
      ∀ s, 0 ≤ s → s ≤ 1 → (∀ t, 0 ≤ t → t ≤ 1 → D s ≤ D t) → ts ≤ s := by
  obtain ⟨t0, ht0, hmin⟩ := isCompact_Icc.exists_isMinOn (nonempty_Icc.2 (zero_le_one' ℝ)) hc.continuousOn
  have hS : IsCompact (Icc (0 : ℝ) 1 ∩ D ⁻¹' {D t0}) :=
    isCompact_Icc.inter_right (isClosed_singleton.preimage hc)
  obtain ⟨ts, ⟨⟨h0, h1⟩, hv⟩, hleast⟩ := hS.exists_isLeast ⟨t0, ht0, rfl⟩
  have hv' : D ts = D t0 := hv
  refine ⟨ts, h0, h1, fun t a b => ?_, fun s a b hs => ?_⟩
  · rw [hv']; exact hmin ⟨a, b⟩
  · apply hleast
    refine ⟨⟨a, b⟩, ?_⟩
    show D s = D t0
    exact le_antisymm (hs t0 ht0.1 ht0.2) (hmin ⟨a, b⟩)

/-- at the least global minimiser, if it is interior: `Q` vanishes and is not non-negative on any neighbourhood -/
theorem least_minimiser_interior (D Q : ℝ → ℝ) (hD : ∀ t, HasDerivAt D (2 * Q t) t) (ts : ℝ) (h0 : 0 < ts) (h1 : ts < 1)
    (hmin : ∀ t, 0 ≤ t → t ≤ 1 → D ts ≤ D t)
    (hleast : ∀ s, 0 ≤ s → s ≤ 1 → (∀ t, 0 ≤ t → t ≤ 1 → D s ≤ D t) → ts ≤ s) :
    Q ts = 0 ∧ ¬ ∃ lo hi, lo < ts ∧ ts < hi ∧ ∀ y, lo ≤ y → y ≤ hi → 0 ≤ Q y := by
  constructor
  · have hloc : IsLocalMin D ts := by
      have : IsMinOn D (Icc 0 1) ts := fun t ht => hmin t ht.1 ht.2
      exact this.isLocalMin (Icc_mem_nhds h0 h1)
    have := hloc.hasDerivAt_eq_zero (hD ts)
    linarith
  · rintro ⟨lo, hi, hlo, hhi, hnn⟩
    have hmono : MonotoneOn D (Icc lo hi) := by
      apply monotoneOn_of_deriv_nonneg (convex_Icc lo hi)
      · exact fun x _ => (hD x).continuousAt.continuousWithinAt
      · exact fun x _ => (hD x).differentiableAt.differentiableWithinAt
      · intro x hx
        rw [interior_Icc] at hx
        rw [(hD x).deriv]
        have := hnn x hx.1.le hx.2.le
        linarith
    set s := max lo 0 with hs
    have hs0 : 0 ≤ s := le_max_right _ _
    have hslt : s < ts := max_lt hlo h0
    have hDs : D s ≤ D ts := hmono ⟨le_max_left _ _, le_trans hslt.le hhi.le⟩ ⟨hlo.le, hhi.le⟩ hslt.le
    have : ts ≤ s := hleast s hs0 (le_trans hslt.le h1.le) (fun t a b => le_trans hDs (hmin t a b))
    linarith

/-- GLOBAL MINIMUM FROM CANDIDATES: `r` is at least as good as 0, 1 and every member of `S` in (0,1); `S` contains
    every interior zero of `Q` except those around which `Q ≥ 0`. Then `r` minimises `D` over [0,1]. -/
theorem global_min_of_candidates (D Q : ℝ → ℝ) (hD : ∀ t, HasDerivAt D (2 * Q t) t) (S : Set ℝ) (r : ℝ)
    (hr0 : D r ≤ D 0) (hr1 : D r ≤ D 1) (hS : ∀ t ∈ S, 0 < t → t < 1 → D r ≤ D t)
    (hc : ∀ t, 0 < t → t < 1 → Q t = 0 → t ∈ S ∨ ∃ lo hi, lo < t ∧ t < hi ∧ ∀ y, lo ≤ y → y ≤ hi → 0 ≤ Q y) :
    ∀ t, 0 ≤ t → t ≤ 1 → D r ≤ D t := by
  have hcont : Continuous D := continuous_iff_continuousAt.2 fun t => (hD t).continuousAt
  obtain ⟨ts, h0, h1, hmin, hleast⟩ := exists_least_minimiser D hcont
  intro t ht0 ht1
  refine le_trans ?_ (hmin t ht0 ht1)
  rcases eq_or_lt_of_le h0 with e | h0'
  · rw [← e]; exact hr0
  rcases eq_or_lt_of_le h1 with e | h1'
  · rw [e]; exact hr1
  obtain ⟨hq, hnn⟩ := least_minimiser_interior D Q hD ts h0' h1' hmin hleast
  rcases hc ts h0' h1' hq with hmem | hloc
  · exact hS ts hmem h0' h1'
  · exact absurd hloc hnn

/-- APPROXIMATE VERSION: every relevant interior zero of `Q` is within `δ` of a member of `S`, and `|Q| ≤ M` on [0,1]:
    `r` is within `2·M·δ` of the minimum of `D` -/
theorem approx_min_of_candidates (D Q : ℝ → ℝ) (hD : ∀ t, HasDerivAt D (2 * Q t) t) (S : Set ℝ) (r δ M : ℝ)
    (hδ : 0 ≤ δ) (hr0 : D r ≤ D 0) (hr1 : D r ≤ D 1) (hS : ∀ t ∈ S, 0 < t → t < 1 → D r ≤ D t)
    (hM : ∀ t, 0 ≤ t → t ≤ 1 → |Q t| ≤ M)
    (hc : ∀ t, 0 < t → t < 1 → Q t = 0 →
      (∃ v ∈ S, |v - t| ≤ δ) ∨ ∃ lo hi, lo < t ∧ t < hi ∧ ∀ y, lo ≤ y → y ≤ hi → 0 ≤ Q y) :
    ∀ t, 0 ≤ t → t ≤ 1 → D r ≤ D t + 2 * M * δ := by
  have hcont : Continuous D := continuous_iff_continuousAt.2 fun t => (hD t).continuousAt
  obtain ⟨ts, h0, h1, hmin, hleast⟩ := exists_least_minimiser D hcont
  have hM0 : 0 ≤ M := le_trans (abs_nonneg _) (hM 0 le_rfl zero_le_one)
  have hlip : ∀ x y, 0 ≤ x → x ≤ 1 → 0 ≤ y → y ≤ 1 → D y ≤ D x + 2 * M * |y - x| := by
    intro x y hx0 hx1 hy0 hy1
    have := (convex_Icc (0 : ℝ) 1).norm_image_sub_le_of_norm_hasDerivWithin_le (f := D) (f' := fun t => 2 * Q t)
      (C := 2 * M) (fun t _ => (hD t).hasDerivWithinAt) (fun t ht => by
        rw [Real.norm_eq_abs, abs_mul, abs_two]
        have := hM t ht.1 ht.2
        linarith) (x := x) (y := y) ⟨hx0, hx1⟩ ⟨hy0, hy1⟩
    rw [Real.norm_eq_abs, Real.norm_eq_abs] at this
    have h2 := le_abs_self (D y - D x)
    linarith
  intro t ht0 ht1
  have hMδ : 0 ≤ 2 * M * δ := mul_nonneg (mul_nonneg zero_le_two hM0) hδ
  suffices h : D r ≤ D ts + 2 * M * δ by have := hmin t ht0 ht1; linarith
  rcases eq_or_lt_of_le h0 with e | h0'
  · have : D r ≤ D ts := by rw [← e]; exact hr0
    linarith
  rcases eq_or_lt_of_le h1 with e | h1'
  · have : D r ≤ D ts := by rw [e]; exact hr1
    linarith
  obtain ⟨hq, hnn⟩ := least_minimiser_interior D Q hD ts h0' h1' hmin hleast
  rcases hc ts h0' h1' hq with ⟨v, hvS, hvd⟩ | hloc
  · -- the candidate nearest to v inside [0,1]
    rcases le_or_gt v 0 with hv0 | hv0
    · -- v ≤ 0: the end 0 is within δ of ts
      have h2 := hlip ts 0 h0 h1 le_rfl zero_le_one
      have h3 : |0 - ts| ≤ δ := by
        rw [abs_sub_comm] at hvd ⊢
        rw [abs_of_nonneg (by linarith : 0 ≤ ts - 0)]
        have := le_abs_self (ts - v)
        linarith
      have := mul_le_mul_of_nonneg_left h3 (mul_nonneg zero_le_two hM0)
      linarith
    rcases le_or_gt 1 v with hv1 | hv1
    · have h2 := hlip ts 1 h0 h1 zero_le_one le_rfl
      have h3 : |1 - ts| ≤ δ := by
        rw [abs_of_nonneg (by linarith : 0 ≤ 1 - ts)]
        have := le_abs_self (v - ts)
        linarith
      have := mul_le_mul_of_nonneg_left h3 (mul_nonneg zero_le_two hM0)
      linarith
    · have h2 := hlip ts v h0 h1 hv0.le hv1.le
      have := mul_le_mul_of_nonneg_left hvd (mul_nonneg zero_le_two hM0)
      have := hS v hvS hv0 hv1
      linarith
  · exact absurd hloc hnn

end C09L
