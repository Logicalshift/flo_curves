/-
Helper lemmas for C02: the recursion of `curve_intersects_curve_clip_inner` is bounded.

Every recursive call is made on a half of a section that is not `is_tiny` (parameter length at least 0.001), clipping never
lengthens a section, and a call on an `is_tiny` section returns at once.  So a call on sections of parameter lengths below
`0.001·2^j1` and `0.001·2^j2` recurses to depth at most `j1 + j2`, and the depth parameter of the model is irrelevant from
`j1 + j2 + 1` on (`clipInner_depth`): for the two whole curves from depth 21 on.
-/
import FloVerif.Lemmas.CurveClipRun

set_option linter.unusedSectionVars false
namespace CurveClipLemmas
open Prelude Gen FatLineLemmas ClipExact Model.CurveClip

variable {K : Type} [Field K] [LinearOrder K] [IsStrictOrderedRing K] [Inhabited K] [FSqrt K] [FConsts K]

local instance : FAbs K := ⟨fun a => |a|⟩

/-- a section of non-negative parameter length is `is_tiny` iff that length is below 0.001 -/
theorem tiny_iff (S : SectionT K) (hm : 0 ≤ S.t_m) : section_is_tiny S = true ↔ S.t_m < 1/1000 := by
  have e : (0.001 : K) = 1/1000 := by norm_num
  simp only [section_is_tiny, section_t_for_t, SMALL_DISTANCE, decide_eq_true_eq, Prelude.lit1, e]
  have : (1 : K) * S.t_m + S.t_c - S.t_c = S.t_m := by ring
  show |(1 : K) * S.t_m + S.t_c - S.t_c| < 1/1000 ↔ _
  rw [this, abs_of_nonneg hm]

theorem hull_length_nonneg (w1 w2 w3 w4 : V2 K) (S : SectionT K) : 0 ≤ curve_hull_length_sq w1 w2 w3 w4 S := by
  cases h : section_is_tiny S with
  | true => rw [hull_length_of_tiny _ _ _ _ S h]
  | false =>
    rw [hull_length_of_not_tiny _ _ _ _ S h]
    simp only [dist2]
    positivity

theorem long_of_length_ne_zero (w1 w2 w3 w4 : V2 K) (S : SectionT K) (hm : 0 ≤ S.t_m)
    (h : curve_hull_length_sq w1 w2 w3 w4 S ≠ 0) : 1/1000 ≤ S.t_m := by
  by_contra hlt
  exact h (hull_length_of_tiny _ _ _ _ S ((tiny_iff S hm).2 (not_le.1 hlt)))

theorem half_width (S : SectionT K) :
    (section_subsection S (0.0 : K) (0.5 : K)).t_m = S.t_m / 2 ∧ (section_subsection S (0.5 : K) (1.0 : K)).t_m = S.t_m / 2 := by
  rw [subsection_width, subsection_width, Prelude.lit0, Prelude.lit1, lit05]
  constructor <;> ring

variable (cx : Ctx K) (acc acc2 : K)
variable (rec_ rec' : SectionT K → SectionT K → K → K → Hits K)

def AgreeOnChildren (c1 c2 : SectionT K) (l1 l2 last1 last2 : K) : Prop :=
  ∀ k1 k2, IsChild c1 c2 l1 l2 last1 last2 k1 k2 → rec_ k1 k2 acc acc2 = rec' k1 k2 acc acc2

theorem tail_congr (c1 c2 : SectionT K) (l1 l2 last1 last2 : K)
    (h : convB acc2 l1 l2 = false → stuckB l1 l2 last1 last2 = true → AgreeOnChildren acc acc2 rec_ rec' c1 c2 l1 l2 last1 last2) :
    tail rec_ cx acc acc2 c1 c2 l1 l2 last1 last2 = tail rec' cx acc acc2 c1 c2 l1 l2 last1 last2 := by
  unfold tail
  cases hconv : convB acc2 l1 l2 with
  | true => rfl
  | false =>
    cases hst : stuckB l1 l2 last1 last2 with
    | false => rfl
    | true =>
      have a := h hconv hst
      simp only [Bool.false_eq_true, if_false, if_true]
      by_cases hc : l1 / last1 > l2 / last2
      · simp only [hc, decide_true, if_true, split1, a _ _ (Or.inl ⟨hc, rfl, Or.inl rfl⟩), a _ _ (Or.inl ⟨hc, rfl, Or.inr rfl⟩)]
      · simp only [hc, decide_false, Bool.false_eq_true, if_false, split2, a _ _ (Or.inr ⟨hc, rfl, Or.inl rfl⟩),
          a _ _ (Or.inr ⟨hc, rfl, Or.inr rfl⟩)]

theorem phase1_congr (st : St K) (c2' : SectionT K) (l2 : K)
    (h : ∀ c1' l1, Phase1 cx acc2 st c2' c1' l1 → convB acc2 l1 l2 = false → stuckB l1 l2 st.t2 st.t3 = true →
      AgreeOnChildren acc acc2 rec_ rec' c1' c2' l1 l2 st.t2 st.t3) :
    phase1 rec_ cx acc acc2 st.t1 c2' l2 st.t2 st.t3 = phase1 rec' cx acc acc2 st.t1 c2' l2 st.t2 st.t3 := by
  unfold phase1
  by_cases hc : st.t2 > acc2
  · rw [if_pos (by simpa using hc), if_pos (by simpa using hc)]
    cases hr : clipAB cx st.t1 c2' with
    | None => rfl
    | SecondCurveIsLinear => rfl
    | Some r =>
      simp only
      exact tail_congr cx acc acc2 rec_ rec' _ _ _ _ _ _ (h _ _ (Or.inr ⟨hc, r, hr, rfl, rfl⟩))
  · rw [if_neg (by simpa using hc), if_neg (by simpa using hc)]
    exact tail_congr cx acc acc2 rec_ rec' _ _ _ _ _ _ (h _ _ (Or.inl ⟨hc, rfl, rfl⟩))

theorem step_congr (st : St K)
    (h : ∀ c2' l2 c1' l1, Phase2 cx acc2 st c2' l2 → Phase1 cx acc2 st c2' c1' l1 → convB acc2 l1 l2 = false →
      stuckB l1 l2 st.t2 st.t3 = true → AgreeOnChildren acc acc2 rec_ rec' c1' c2' l1 l2 st.t2 st.t3) :
    step rec_ cx acc acc2 st = step rec' cx acc acc2 st := by
  unfold step
  by_cases hc : st.t3 > acc2
  · rw [if_pos (by simpa using hc), if_pos (by simpa using hc)]
    cases hr : clipBA cx st.t0 st.t1 with
    | None => rfl
    | SecondCurveIsLinear => rfl
    | Some r =>
      simp only
      exact phase1_congr cx acc acc2 rec_ rec' st _ _ (fun c1' l1 => h _ _ c1' l1 (Or.inr ⟨hc, r, hr, rfl, rfl⟩))
  · rw [if_neg (by simpa using hc), if_neg (by simpa using hc)]
    exact phase1_congr cx acc acc2 rec_ rec' st _ _ (fun c1' l1 => h _ _ c1' l1 (Or.inl ⟨hc, rfl, rfl⟩))

/-- the two functions agree on every pair of sections of [0,1] that can be a child of a split below the bounds `B1`, `B2` on
    the parameter lengths: one length is halved, and it was at least 0.001 before -/
def AgreeBelow (B1 B2 : K) : Prop :=
  ∀ k1 k2, Sub01 k1 → Sub01 k2 →
    ((k1.t_m ≤ B1 / 2 ∧ 1/1000 ≤ B1 ∧ k2.t_m ≤ B2) ∨ (k1.t_m ≤ B1 ∧ k2.t_m ≤ B2 / 2 ∧ 1/1000 ≤ B2)) →
    rec_ k1 k2 acc acc2 = rec' k1 k2 acc acc2

/-- the loop does not depend on what the recursive-call function does outside the children below the bounds -/
theorem loop_congr (hM : 1 ≤ (fmaxval : K)) (hm : (fminval : K) ≤ 0) (hacc : 0 ≤ acc2) (B1 B2 : K)
    (hag : AgreeBelow acc acc2 rec_ rec' B1 B2) :
    ∀ (n : Nat) (st : St K), SubInv cx st → st.t1.t_m ≤ B1 → st.t0.t_m ≤ B2 →
      loopRun rec_ cx acc acc2 n st = loopRun rec' cx acc acc2 n st := by
  intro n
  induction n with
  | zero => intro st _ _ _; rw [loopRun_zero, loopRun_zero]
  | succ n ih =>
    intro st hi w1 w2
    rw [loopRun_succ, loopRun_succ]
    have hstep : step rec_ cx acc acc2 st = step rec' cx acc acc2 st := by
      refine step_congr cx acc acc2 rec_ rec' st ?_
      intro c2' l2 c1' l1 h2 h1 hconv hst
      obtain ⟨sb2, e2, v2⟩ := phase2_sub cx acc2 hM hm st hi c2' l2 h2
      obtain ⟨sb1, e1, v1⟩ := phase1_sub cx acc2 hM hm st hi c2' c1' l1 h1
      have ww2 := le_trans v2 w2
      have ww1 := le_trans v1 w1
      have n1 : 0 ≤ l1 := by rw [e1]; exact hull_length_nonneg _ _ _ _ _
      have n2 : 0 ≤ l2 := by rw [e2]; exact hull_length_nonneg _ _ _ _ _
      have nl1 : 0 ≤ st.t2 := by rw [hi.2.2.1]; exact hull_length_nonneg _ _ _ _ _
      have nl2 : 0 ≤ st.t3 := by rw [hi.2.2.2]; exact hull_length_nonneg _ _ _ _ _
      obtain ⟨hl, hr⟩ := sub01_halves c1' sb1
      obtain ⟨hl2, hr2⟩ := sub01_halves c2' sb2
      obtain ⟨wl, wr⟩ := half_width c1'
      obtain ⟨wl2, wr2⟩ := half_width c2'
      rintro k1 k2 (⟨hgt, rfl, hk⟩ | ⟨hngt, rfl, hk⟩)
      · -- the first curve's section is split: it is not tiny
        have hpos : l1 ≠ 0 := by
          intro e
          rw [e, zero_div] at hgt
          exact absurd (div_nonneg n2 nl2) (not_le.2 hgt)
        have hlong : 1/1000 ≤ c1'.t_m := by
          rw [e1] at hpos; exact long_of_length_ne_zero _ _ _ _ c1' sb1.2.1 hpos
        have hB : 1/1000 ≤ B1 := le_trans hlong ww1
        rcases hk with rfl | rfl
        · exact hag _ _ hl sb2 (Or.inl ⟨by rw [wl]; exact div_le_div_of_nonneg_right ww1 zero_le_two, hB, ww2⟩)
        · exact hag _ _ hr sb2 (Or.inl ⟨by rw [wr]; exact div_le_div_of_nonneg_right ww1 zero_le_two, hB, ww2⟩)
      · -- the second curve's section is split: it is not tiny
        have hpos : l2 ≠ 0 := by
          intro e
          -- then `l2 = 0 ≤ accuracy²`, so (not converged) `l1 > accuracy² ≥ 0`, so curve1 was clipped or `last1 = l1 > 0`
          have hc1 : ¬ l1 ≤ acc2 := by
            intro hle
            have : convB acc2 l1 l2 = true := (convB_iff acc2 l1 l2).2 ⟨hle, by rw [e]; exact hacc⟩
            rw [this] at hconv; exact absurd hconv (by simp)
          have hl1 : 0 < l1 := lt_of_le_of_lt hacc (not_le.1 hc1)
          have hlast : 0 < st.t2 := by
            rcases h1 with ⟨hnc, _, el⟩ | ⟨hc, _⟩
            · rw [← el]; exact hl1
            · exact lt_of_le_of_lt hacc hc
          apply hngt
          rw [e, zero_div]
          exact div_pos hl1 hlast
        have hlong : 1/1000 ≤ c2'.t_m := by
          rw [e2] at hpos; exact long_of_length_ne_zero _ _ _ _ c2' sb2.2.1 hpos
        have hB : 1/1000 ≤ B2 := le_trans hlong ww2
        rcases hk with rfl | rfl
        · exact hag _ _ sb1 hl2 (Or.inr ⟨ww1, by rw [wl2]; exact div_le_div_of_nonneg_right ww2 zero_le_two, hB⟩)
        · exact hag _ _ sb1 hr2 (Or.inr ⟨ww1, by rw [wr2]; exact div_le_div_of_nonneg_right ww2 zero_le_two, hB⟩)
    rw [← hstep]
    cases hs : step rec_ cx acc acc2 st with
    | inr _ => rfl
    | inl st' =>
      obtain ⟨hi', v1, v2⟩ := step_next cx acc acc2 rec_ hM hm st st' hi hs
      exact ih st' hi' (v1.trans w1) (v2.trans w2)

/-- a parameter length below `0.001·2^(j+1)` that is halved is below `0.001·2^j`; a section of at least 0.001 has `j ≥ 1` -/
theorem half_rank {a b : K} {j : Nat} (hb : b < 1/1000 * 2 ^ j) (ha : a ≤ b / 2) (hlong : 1/1000 ≤ b) :
    ∃ i, j = i + 1 ∧ a < 1/1000 * 2 ^ i := by
  cases j with
  | zero => rw [pow_zero, mul_one] at hb; exact absurd hlong (not_le.2 hb)
  | succ i =>
    rw [pow_succ, ← mul_assoc] at hb
    exact ⟨i, rfl, lt_of_le_of_lt ha ((div_lt_iff₀ two_pos).2 hb)⟩

/-- BOUNDED RECURSION: on sections of [0,1] with parameter lengths below `0.001·2^j1` and `0.001·2^j2` the model with any
    depth `d ≥ j1 + j2 + 1` returns what the model with depth `j1 + j2 + 1` returns -/
theorem clipInner_depth (hM : 1 ≤ (fmaxval : K)) (hm : (fminval : K) ≤ 0) (hacc : 0 ≤ acc2) :
    ∀ (d j1 j2 : Nat), j1 + j2 + 1 ≤ d → ∀ c1 c2, Sub01 c1 → Sub01 c2 →
      c1.t_m < 1/1000 * 2 ^ j1 → c2.t_m < 1/1000 * 2 ^ j2 →
      clipInner cx d c1 c2 acc acc2 = clipInner cx (j1 + j2 + 1) c1 c2 acc acc2 := by
  intro d
  induction d with
  | zero => intro j1 j2 hd; exact absurd hd (Nat.not_succ_le_zero _)
  | succ d ih =>
    intro j1 j2 hd c1 c2 h1 h2 w1 w2
    rw [clipInner_succ, clipInner_succ]
    by_cases z : len1 cx c1 = 0 ∨ len2 cx c2 = 0
    · rw [innerSpec_zero _ cx acc acc2 _ c1 c2 z, innerSpec_zero _ cx acc acc2 _ c1 c2 z]
    rw [not_or] at z
    rw [innerSpec_loop _ cx acc acc2 _ c1 c2 z.1 z.2, innerSpec_loop _ cx acc acc2 _ c1 c2 z.1 z.2]
    -- a child has one of the two ranks lowered by one, so the induction hypothesis gives depth `j1 + j2` for it
    have hag : AgreeBelow acc acc2 (clipInner cx d) (clipInner cx (j1 + j2)) c1.t_m c2.t_m := by
      intro k1 k2 s1 s2 hk
      rcases hk with ⟨a, b, c⟩ | ⟨a, b, c⟩
      · obtain ⟨i1, rfl, hk1⟩ := half_rank w1 a b
        rw [ih i1 j2 (by omega) k1 k2 s1 s2 hk1 (lt_of_le_of_lt c w2), Nat.add_right_comm]
      · obtain ⟨i2, rfl, hk2⟩ := half_rank w2 b c
        exact ih j1 i2 (by omega) k1 k2 s1 s2 (lt_of_le_of_lt a w1) hk2
    rw [loop_congr cx acc acc2 _ _ hM hm hacc c1.t_m c2.t_m hag genFuel _ (subInv_start cx c1 c2 h1 h2) le_rfl le_rfl]

end CurveClipLemmas
