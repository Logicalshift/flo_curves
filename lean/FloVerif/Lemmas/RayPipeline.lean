/-
Helper lemmas for C14: the stages of `ray_collisions` before the sort.  Under the property's precondition the collinear
bookkeeping, the vertex filter and the tangent filter do nothing, so the collisions are the solver's hits on the edges that
pass the side test, in edge order, with their intersection flags; without it the vertex filter only removes or re-labels
and the tangent filter is a `filter` with an explicit test.
-/
import FloVerif.Lemmas.RaySide
import FloVerif.Lemmas.Basics
import FloVerif.Model.Ray

set_option linter.unusedSectionVars false
namespace RayPipeline
open Prelude Gen Model.Ray RaySide

variable {K : Type} [Field K] [LinearOrder K] [IsStrictOrderedRing K] [Inhabited K] [FSqrt K] [FConsts K]

local instance : FAbs K := ⟨fun a => |a|⟩
local instance : FSignum K := ⟨fun a => if a < 0 then -1 else 1⟩
local instance : OfInt K := ⟨fun n => (n : K)⟩

/-- a hit of `curve_intersects_ray` on edge `e`, as `crossing_and_collinear_collisions` stores it -/
def mkHit (e : EdgeRef) (h : T3 K K (V2 K)) : Hit K := T4.mk e h.t0 h.t1 h.t2

/-- what the loop of `crossing_and_collinear_collisions` adds for one edge when no edge is collinear -/
def rawOf (path : RayPathI K) (co : T3 K K K) (cir : EdgeRef → List (T3 K K (V2 K))) (e : EdgeRef) : List (Hit K) :=
  if ray_can_intersect (path.get_edge e) co = RayCanIntersect.CrossesRay then (cir e).map (mkHit e) else []

section Stages
variable (path : RayPathI K) (ray : T2 (V2 K) (V2 K)) (co : T3 K K K) (cir : EdgeRef → List (T3 K K (V2 K)))

theorem rayPathOf_ends (g : GraphPathM K) (e : EdgeRef) (he : e.reverse = false) :
    ((rayPathOf g).get_edge e).t0 = (rayPathOf g).point_position ((rayPathOf g).edge_start_point_idx e) ∧
    ((rayPathOf g).get_edge e).t3 = (rayPathOf g).point_position ((rayPathOf g).edge_end_point_idx e) := by
  simp [rayPathOf, curveOf, ge_start_point, ge_end_point, ge_start_point_index, ge_end_point_index, ge_edge, gp_get_edge,
    gp_point_position, gp_edge_start_point_idx, gp_edge_end_point_idx, he]

theorem allEdgeRefs_reverse_false (e : EdgeRef) (he : e ∈ allEdgeRefs path) : e.reverse = false := by
  unfold allEdgeRefs at he
  simp only [List.mem_flatMap, List.mem_map, List.mem_range] at he
  obtain ⟨_, _, _, _, rfl⟩ := he
  rfl

theorem ccStep_inert (st : CCState K) (e : EdgeRef) (h : curve_is_collinear (path.get_edge e) co = false) :
    ccStep path co cir st e = { st with raw := st.raw ++ rawOf path co cir e } := by
  have hne : ray_can_intersect (path.get_edge e) co ≠ RayCanIntersect.Collinear := by
    intro hc; rw [(rci_collinear_iff _ _).1 hc] at h; exact Bool.noConfusion h
  unfold ccStep rawOf
  cases hr : ray_can_intersect (path.get_edge e) co
  · simp only [hr]; simp
  · exact absurd hr hne
  · simp only [hr]; simp [mkHit]

theorem cc_fold_inert :
    ∀ (l : List EdgeRef) (st : CCState K), (∀ e ∈ l, curve_is_collinear (path.get_edge e) co = false) →
      l.foldl (ccStep path co cir) st = { st with raw := st.raw ++ l.flatMap (rawOf path co cir) }
  | [], st, _ => by simp
  | e :: l, st, h => by
    rw [List.foldl_cons, ccStep_inert path co cir st e (h e (by simp)),
      cc_fold_inert l _ (fun e' he' => h e' (List.mem_cons_of_mem _ he'))]
    simp [List.flatMap_cons, List.append_assoc]

/-- without collinear edges `crossing_and_collinear_collisions` returns the hits of the edges that pass the side test and
    no collinear collisions -/
theorem cc_inert (h : ∀ e ∈ allEdgeRefs path, curve_is_collinear (path.get_edge e) (line_coefficients_2d ray) = false) :
    crossing_and_collinear_collisions path ray cir =
      T2.mk ((allEdgeRefs path).flatMap (rawOf path (line_coefficients_2d ray) cir)) [] := by
  unfold crossing_and_collinear_collisions
  simp only [cc_fold_inert path _ cir _ _ h]
  simp

theorem mem_raw (x : Hit K) (hx : x ∈ (allEdgeRefs path).flatMap (rawOf path co cir)) :
    ∃ e ∈ allEdgeRefs path, ray_can_intersect (path.get_edge e) co = RayCanIntersect.CrossesRay ∧ ∃ h ∈ cir e, x = mkHit e h := by
  rw [List.mem_flatMap] at hx
  obtain ⟨e, he, hx⟩ := hx
  unfold rawOf at hx
  split_ifs at hx with hc
  · rw [List.mem_map] at hx
    obtain ⟨h, hh, rfl⟩ := hx
    exact ⟨e, he, hc, h, hh, rfl⟩
  · exact absurd hx (by simp)

/-- `remove_collisions_before_or_after_collinear_section` keeps everything when no edge leaving the end point or arriving at
    the start point of a collision's edge is collinear -/
theorem remove_before_after_inert (l : List (Hit K))
    (hf : ∀ x ∈ l, ∀ e ∈ path.edges_for_point (path.edge_end_point_idx x.t0),
      curve_is_collinear (path.get_edge e) (line_coefficients_2d ray) = false)
    (hr : ∀ x ∈ l, ∀ e ∈ path.reverse_edges_for_point (path.edge_start_point_idx x.t0),
      curve_is_collinear (path.get_edge e) (line_coefficients_2d ray) = false) :
    remove_collisions_before_or_after_collinear_section path ray l = l := by
  have hany (es : List EdgeRef) (h : ∀ e ∈ es, curve_is_collinear (path.get_edge e) (line_coefficients_2d ray) = false) :
      ((es.map fun edge => path.get_edge edge).any fun c => curve_is_collinear c (line_coefficients_2d ray)) = false := by
    rw [List.any_map, List.any_eq_false]
    exact fun e he => Bool.eq_false_iff.1 (h e he)
  unfold remove_collisions_before_or_after_collinear_section
  refine List.filter_eq_self.2 fun a ha => ?_
  simp only [hany _ (hf a ha), hany _ (hr a ha), Bool.and_false, Bool.false_eq_true, if_false, ite_self]

theorem move_collinear_inert (x : Hit K)
    (h : curve_is_collinear (path.get_edge x.t0) co = false) : move_collinear_collision_to_end path co x = x := by
  unfold move_collinear_collision_to_end
  simp only [h, Bool.false_eq_true, if_false]

/-- the vertex filter passes a collision that is neither at the start nor at the end of its edge, without touching its state -/
theorem nearVertexStep_inert (visited : List (List Nat))
    (x : Hit K) (hs : collision_is_at_start path x.t0 x.t1 x.t3 = false) (he : collision_is_at_end path x.t0 x.t1 x.t3 = false) :
    nearVertexStep path co cir visited x = (visited, some x) := by
  unfold nearVertexStep
  simp only [hs, he, Bool.and_false, Bool.or_self, Bool.false_eq_true, if_false]

theorem nearVertexLoop_inert :
    ∀ (l : List (Hit K)) (visited : List (List Nat)),
      (∀ x ∈ l, collision_is_at_start path x.t0 x.t1 x.t3 = false ∧ collision_is_at_end path x.t0 x.t1 x.t3 = false) →
      nearVertexLoop path co cir visited l = l
  | [], _, _ => rfl
  | x :: l, visited, h => by
    have hx := h x (by simp)
    unfold nearVertexLoop
    rw [nearVertexStep_inert path co cir visited x hx.1 hx.2]
    simp only
    rw [nearVertexLoop_inert l visited fun y hy => h y (List.mem_cons_of_mem _ hy)]

/-- what one step of the vertex filter returns, if anything, is the collision itself or the collision re-labelled as the start
    (`t = 0`) of the following edge, with the same line position and point -/
theorem nearVertexStep_some (visited : List (List Nat)) (x z : Hit K)
    (h : (nearVertexStep path co cir visited x).2 = some z) : z.t2 = x.t2 ∧ z.t3 = x.t3 ∧ (z = x ∨ z.t1 = 0) := by
  -- each leaf of the decision tree of `nearVertexStep` has one of three forms
  let P (r : List (List Nat) × Option (Hit K)) : Prop := ∀ z, r.2 = some z → z.t2 = x.t2 ∧ z.t3 = x.t3 ∧ (z = x ∨ z.t1 = 0)
  have drop v : P (v, none) := fun _ h => nomatch h
  have keep v : P (v, some x) := fun _ h => Option.some.inj h ▸ ⟨rfl, rfl, Or.inl rfl⟩
  have move v e : P (v, some (T4.mk e (0.0 : K) x.t2 x.t3)) := fun _ h => Option.some.inj h ▸ ⟨rfl, rfl, Or.inr lit0⟩
  revert z
  show P (nearVertexStep path co cir visited x)
  unfold nearVertexStep
  exact iteInduction
    (fun _ => iteInduction (fun _ => iteInduction (fun _ => drop _) (fun _ => keep _))
      (fun _ => iteInduction (fun _ => move _ _) (fun _ => drop _)))
    (fun _ => keep _)

/-- the vertex filter never invents a collision: what it returns is, element by element, an input collision or an input collision
    re-labelled to parameter 0 of the following edge with the same line position and point; and it never returns more than it got -/
theorem nearVertexLoop_only_removes :
    ∀ (l : List (Hit K)) (visited : List (List Nat)),
      (nearVertexLoop path co cir visited l).length ≤ l.length ∧
      ∀ y ∈ nearVertexLoop path co cir visited l, ∃ x ∈ l, y.t2 = x.t2 ∧ y.t3 = x.t3 ∧ (y = x ∨ y.t1 = 0)
  | [], _ => ⟨Nat.le_refl _, fun _ hy => nomatch hy⟩
  | x :: l, visited => by
    obtain ⟨ihl, ih⟩ := nearVertexLoop_only_removes l (nearVertexStep path co cir visited x).1
    have ih' : ∀ y ∈ nearVertexLoop path co cir (nearVertexStep path co cir visited x).1 l,
        ∃ x' ∈ x :: l, y.t2 = x'.t2 ∧ y.t3 = x'.t3 ∧ (y = x' ∨ y.t1 = 0) :=
      fun y hy => (ih y hy).imp fun x' hx' => ⟨List.mem_cons_of_mem _ hx'.1, hx'.2⟩
    simp only [nearVertexLoop]
    cases h : (nearVertexStep path co cir visited x).2 with
    | none => exact ⟨Nat.le_succ_of_le ihl, ih'⟩
    | some z =>
      refine ⟨Nat.succ_le_succ ihl, fun y hy => ?_⟩
      rcases List.mem_cons.1 hy with rfl | hy
      · exact ⟨x, List.mem_cons_self, nearVertexStep_some path co cir visited x y h⟩
      · exact ih' y hy

theorem remove_tangent_inert (l : List (Hit K))
    (h : ∀ x ∈ l, remove_tangent_collisions path ray [x] = [x]) : remove_tangent_collisions path ray l = l := by
  unfold remove_tangent_collisions at h ⊢
  show List.filter _ l = l
  apply List.filter_eq_self.2
  intro x hx
  exact List.filter_eq_self.1 (h x hx) x (List.mem_singleton.2 rfl)

/-- the tangent filter keeps a collision exactly when `| |u·τ| - 1 | ≥ 1e-8` for the unit vector `u` of the ray and the unit
    tangent `τ` of the edge at the collision (ray.rs:647-666) -/
theorem tangent_keep_iff (x : Hit K) :
    remove_tangent_collisions path ray [x] = [x] ↔
      ¬ (-0.00000001 < |dot (to_unit_vector (line_point_at_pos ray 1 - line_point_at_pos ray 0))
            (to_unit_vector (ray_tangent_at_pos (path.get_edge x.t0) x.t1))| - 1 ∧
          |dot (to_unit_vector (line_point_at_pos ray 1 - line_point_at_pos ray 0))
            (to_unit_vector (ray_tangent_at_pos (path.get_edge x.t0) x.t1))| - 1 < (0.00000001 : K)) := by
  unfold remove_tangent_collisions
  rw [List.filter_eq_self, List.forall_mem_singleton]
  simp only [lit0, lit1, fabs, gt_iff_lt, Bool.if_false_left, Bool.and_true, Bool.not_eq_true',
    Bool.and_eq_true, decide_eq_true_eq, decide_eq_false_iff_not]

/-- what `flag_collisions_at_intersections` does with one collision (ray.rs:680-694) -/
def flagOne (x : Hit K) : Collision K :=
  if x.t1 ≤ 0 ∧ path.num_edges x.t0.start_idx > 1 then T4.mk (GraphRayCollision.Intersection x.t0) x.t1 x.t2 x.t3
  else T4.mk (GraphRayCollision.SingleEdge x.t0) x.t1 x.t2 x.t3

theorem flag_eq_map (l : List (Hit K)) :
    flag_collisions_at_intersections path l = l.map (flagOne path) := by
  have h0 : (0.000 : K) = 0 := by norm_num
  unfold flag_collisions_at_intersections
  refine List.map_congr_left fun x _ => ?_
  simp only [flagOne, h0, decide_eq_true_eq, ite_and]

theorem flagOne_spec (x : Hit K) :
    (flagOne path x).t0.edge = x.t0 ∧ (flagOne path x).t1 = x.t1 ∧ (flagOne path x).t2 = x.t2 ∧ (flagOne path x).t3 = x.t3 ∧
      ((flagOne path x).t0 = GraphRayCollision.SingleEdge x.t0 ∨
        ((flagOne path x).t0 = GraphRayCollision.Intersection x.t0 ∧ (flagOne path x).t1 ≤ 0)) := by
  unfold flagOne
  split_ifs with h
  · exact ⟨rfl, rfl, rfl, rfl, Or.inr ⟨rfl, h.1⟩⟩
  · exact ⟨rfl, rfl, rfl, rfl, Or.inl rfl⟩

end Stages

/-- the flagging stage keeps edge, parameters and position of every collision, in order -/
theorem flag_spec (path : RayPathI K) (l : List (Hit K)) :
    (flag_collisions_at_intersections path l).map (fun c => (T4.mk c.t0.edge c.t1 c.t2 c.t3 : Hit K)) = l := by
  rw [flag_eq_map, List.map_map]
  refine List.map_id'' (fun x => ?_) l
  obtain ⟨h0, h1, h2, h3, _⟩ := flagOne_spec path x
  simp only [Function.comp, h0, h1, h2, h3]

/-- The property's precondition, stated on what the code computes.  `ends`: the path interface is coherent (true for `GraphPath`,
    `rayPathOf_ends`).  `not_collinear*`: no edge of the graph, and no edge around the end points of an edge, passes the
    collinearity test (implied by: every vertex is at least `SMALL_DISTANCE` from the ray, `not_collinear_of_far_start`).
    `not_at_vertex`: no hit is within `SMALL_DISTANCE` of the start or end vertex of its edge.  `not_tangent`: the tangent filter
    keeps every hit (the ray is nowhere tangent to an edge). -/
structure Precondition (path : RayPathI K) (ray : T2 (V2 K) (V2 K)) (cir : EdgeRef → List (T3 K K (V2 K))) : Prop where
  ends : ∀ e ∈ allEdgeRefs path, (path.get_edge e).t0 = path.point_position (path.edge_start_point_idx e) ∧
    (path.get_edge e).t3 = path.point_position (path.edge_end_point_idx e)
  not_collinear : ∀ e ∈ allEdgeRefs path, curve_is_collinear (path.get_edge e) (line_coefficients_2d ray) = false
  not_collinear_next : ∀ e ∈ allEdgeRefs path, ∀ e' ∈ path.edges_for_point (path.edge_end_point_idx e),
    curve_is_collinear (path.get_edge e') (line_coefficients_2d ray) = false
  not_collinear_prev : ∀ e ∈ allEdgeRefs path, ∀ e' ∈ path.reverse_edges_for_point (path.edge_start_point_idx e),
    curve_is_collinear (path.get_edge e') (line_coefficients_2d ray) = false
  not_at_vertex : ∀ e ∈ allEdgeRefs path, ∀ h ∈ cir e,
    collision_is_at_start path e h.t0 h.t2 = false ∧ collision_is_at_end path e h.t0 h.t2 = false
  not_tangent : ∀ e ∈ allEdgeRefs path, ∀ h ∈ cir e, remove_tangent_collisions path ray [mkHit e h] = [mkHit e h]

theorem unsorted_inert (path : RayPathI K) (ray : T2 (V2 K) (V2 K)) (cir : EdgeRef → List (T3 K K (V2 K)))
    (pre : Precondition path ray cir) :
    ray_collisions_unsorted path ray cir =
      flag_collisions_at_intersections path ((allEdgeRefs path).flatMap (rawOf path (line_coefficients_2d ray) cir)) := by
  have raw {P : Hit K → Prop} (hP : ∀ e ∈ allEdgeRefs path, ∀ h ∈ cir e, P (mkHit e h)) :
      ∀ x ∈ (allEdgeRefs path).flatMap (rawOf path (line_coefficients_2d ray) cir), P x := fun x hx => by
    obtain ⟨e, he, _, h, hh, rfl⟩ := mem_raw path _ cir x hx
    exact hP e he h hh
  unfold ray_collisions_unsorted filter_collisions_near_vertices
  simp only [cc_inert path ray cir pre.not_collinear, List.nil_append]
  rw [remove_before_after_inert path ray _ (raw fun e he _ _ => pre.not_collinear_next e he)
      (raw fun e he _ _ => pre.not_collinear_prev e he),
    (List.map_congr_left (g := id) (raw fun e he _ _ => move_collinear_inert path _ _ (pre.not_collinear e he))).trans
      (List.map_id _),
    nearVertexLoop_inert path _ cir _ _ (raw pre.not_at_vertex)]
  exact congrArg _ (remove_tangent_inert path ray _ (raw pre.not_tangent))

end RayPipeline
