import FloVerif.Lemmas.GraphLabel
import Mathlib.Data.List.Perm.Basic
import Mathlib.Data.List.Count
/-! The library's own `check_following_edge_consistency` (`Consistent`) and the list of all
slots it is compared with in `C03.consistency_check_iff`. -/
namespace Model.Graph

/-- `check_following_edge_consistency` (path_collision.rs:662, compiled in test builds only): every edge ends at an existing
point, names an existing edge there, and no two edges name the same following edge (`used_edges[end_idx].contains(..)`) -/
structure Consistent (g : Graph) : Prop where
  valid : ∀ a, ∀ e ∈ edgesAt g a, e.endIdx < g.length ∧ e.fol < (edgesAt g e.endIdx).length
  unique : ((allEdges g).map fun e => (e.endIdx, e.fol)).Nodup

/-- all existing (point, edge index) pairs -/
def allSlots (g : Graph) : List (Nat × Nat) :=
  (List.range g.length).flatMap fun p => (List.range (edgesAt g p).length).map fun f => (p, f)

theorem mem_allSlots {g : Graph} {s : Nat × Nat} : s ∈ allSlots g ↔ s.1 < g.length ∧ s.2 < (edgesAt g s.1).length := by
  unfold allSlots
  simp only [List.mem_flatMap, List.mem_map, List.mem_range]
  constructor
  · rintro ⟨p, hp, f, hf, rfl⟩
    exact ⟨hp, hf⟩
  · rintro ⟨h1, h2⟩
    exact ⟨s.1, h1, s.2, h2, rfl⟩

theorem nodup_allSlots (g : Graph) : (allSlots g).Nodup :=
  nodup_flatMap_pair List.nodup_range (fun p => List.range (edgesAt g p).length) fun _ _ => List.nodup_range

theorem length_allEdges (g : Graph) : (allEdges g).length = ((List.range g.length).map fun a => (edgesAt g a).length).sum := by
  have := cntP_eq_sum_range (fun _ => true) g
  simp only [cntP, List.countP_true] at this
  exact this

theorem length_allSlots (g : Graph) : (allSlots g).length = (allEdges g).length := by
  rw [length_allEdges]
  unfold allSlots
  rw [List.length_flatMap]
  congr 1
  apply List.map_congr_left
  intro a _
  simp

theorem slotCount_eq_count (g : Graph) (p f : Nat) :
    slotCount g p f = List.count (p, f) ((allEdges g).map fun e => (e.endIdx, e.fol)) := by
  rw [List.count_eq_countP, List.countP_map]
  unfold slotCount
  apply List.countP_congr
  intro e _
  simp [Prod.ext_iff]

end Model.Graph
